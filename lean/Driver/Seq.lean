import Driver.Util
import GoBeans.Model.Store
import GoBeans.Model.GC
import GoBeans.Model.LogView
import GoBeans.Model.Tree
import GoBeans.Model.Crash
import GoBeans.Spec.KV

/-! engine `seq`: a real HStore driven by one client, against
    * the bucket model (`Store.step`, kind=model: replies, positions, data-file inventories) and
    * the reference map (`Spec.step`, kind=oracle: the property statement of C01/C02/C03/C13). -/
namespace Driver.Seq
open Driver

structure Cfg where
  nb : Nat := 1
  served : List Nat := []
  height : Nat := 3
  checkVHash : Bool := false
  dfmax : Nat := 0
  listKey : Nat := 256

structure SpecEntryX where
  verExact : Bool := true      -- false once a version changed without a data write (check_vhash + explicit revision)

/-- one crash state: what the model says recovery gives, and what the property allows -/
structure Snap where
  inGC : Bool
  torn : Bool
  recovered : Store.Bucket
  allowed : List (Bytes × List String)      -- per key: the replies a get may give after recovery (C06)
  exact : List (Bytes × String)             -- per key: the reply required (C07: the value before the pass)
  label : String
  durable : List (Bytes × Store.Pos × Nat × String) := []   -- the acknowledged writes whose record lies completely in the surviving bytes
  life2 : Bool := false     -- taken in the second process life: version numbers are not compared (whether a delete marker's
                            -- version survives the first recovery depends on which index files the kill left — C02's proviso)

structure St where
  cfg : Cfg := {}
  caseId : String := ""
  buckets : Array Store.Bucket := #[]
  spec : Spec.KV := []
  inexact : List Spec.Key := []          -- keys whose version is not compared (C02 proviso)
  dataVer : List (Spec.Key × Int) := []  -- version carried by the last DATA write of each key (what a rebuild recovers)
  scfg : Store.Cfg := {}
  active : Bool := false
  lastFiles : String := ""               -- the implementation's last data-file inventory (independent scan)
  gcPending : Option (Nat × Nat × Nat × String) := none   -- bucket, start, end, inventory before the pass
  -- engine crash
  writes : List (Bytes × Store.Pos × Nat × String) := []  -- acknowledged writes in order: key, position, on-disk size, what a get returns afterwards
  snaps : List (Nat × Snap) := []
  inLife2 : Bool := false
  gcSpec : Option Spec.KV := none                          -- the reference map when the GC pass began (C07)
  gcPre : Option (Store.Bucket × Nat × Nat) := none        -- the bucket model before the pass, and the resolved range
  groups : List (List Bytes) := []                         -- mix collide (C13): keys forced onto one key hash; the model is not compared
  safe : Bool := false                                     -- mix collide-safe: every colliding key was written and read once first; no known finding applies
  phase : String := "plain"                                -- mix collide: the strongest structural event of the case so far (plain < reload < rebuild < gc)

def depthOf (nb : Nat) : Nat := if nb ≥ 256 then 2 else if nb ≥ 16 then 1 else 0

def keyHash (k : Bytes) : Nat := (Gen.getKeyHashDefalut k).toNat

def bucketOf (nb : Nat) (k : Bytes) : Nat :=
  let d := depthOf nb
  if d = 0 then 0 else keyHash k / 2 ^ (64 - 4 * d)

/-- the bucket the REFERENCE key hash (C16) names — the oracle for C15 -/
def refBucketOf (nb : Nat) (k : Bytes) : Nat :=
  let d := depthOf nb
  if d = 0 then 0 else Ref.keyHash k / 2 ^ (64 - 4 * d)

def bodysum (b : Bytes) : String := s!"{b.length}.{(Gen.utilsFnv1a b).toNat}"
def valSummary (b : Bytes) : String := if b.length ≤ 64 then tohex b else "S" ++ bodysum b

def parseInt (s : String) : Int :=
  if s.startsWith "-" then - ((s.drop 1).toNat!) else s.toNat!

def kvOpt (ws : List String) (name : String) : Option String :=
  ws.findSome? fun w => match w.splitOn "=" with
    | [n, v] => if n == name then some v else none
    | _ => none

def fmtPos (bkt : Nat) (p : Option Store.Pos) : String :=
  match p with
  | some p => s!"{bkt}/{p.chunk}:{p.off}"
  | none => "-"

/-- expected on-disk size of an uncompressed record -/
def plainSize (klen blen : Nat) : Nat := (24 + klen + blen + 255) / 256 * 256

def hex16 (n : Nat) : String :=
  String.mk ((List.range 16).map fun i => hexDigit ((n / 16 ^ (15 - i)) % 16))

def hexVal1 (c : Char) : Nat := hexVal c

/-- canonical text of a listing: node lines in order; item lines sorted (leaf order is insertion order) -/
def fmtListing : Tree.Listing → String
  | .nodes ch => "[" ++ "|".intercalate ((List.range ch.length).map fun i =>
      let (h, c) := ch.getD i (0, 0); s!"{String.mk [hexDigit i]}/ {h} {c}") ++ "]"
  | .items es =>
      let lines := (es.map fun e => s!"{hex16 e.khash} {e.vhash} {e.ver}").toArray.qsort (· < ·)
      "[" ++ "|".intercalate lines.toList ++ "]"
  | .none => "NIL"

def canonListing (obs : String) : String :=
  -- sort item lines of an observed listing (node listings keep their order)
  if obs.startsWith "[" && obs.endsWith "]" then
    let body := ((obs.drop 1).dropEnd 1).toString
    let lines := if body.isEmpty then [] else body.splitOn "|"
    if lines.all (fun l => l.contains '/') then obs
    else "[" ++ "|".intercalate (lines.toArray.qsort (· < ·)).toList ++ "]"
  else obs

def contentOfTree (t : List (Nat × Store.TItem)) : Tree.Content :=
  t.map fun (h, it) => { khash := h, ver := it.ver, vhash := it.vhash }

def contentOfSpec (sp : Spec.KV) : Tree.Content :=
  sp.map fun (k, e) => { khash := Ref.keyHash k, ver := e.ver, vhash := if e.ver > 0 then Ref.vhash e.body else 0 }

/-- the listing at a hex prefix, from per-bucket contents -/
def listAt (cfg : Cfg) (content : Nat → Tree.Content) (prefixStr : String) : Tree.Listing :=
  let ds := prefixStr.toList.map hexVal1
  let depth := depthOf cfg.nb
  if ds.length ≥ depth then
    let bkt := Tree.digitsVal (ds.take depth)
    if !(cfg.served.contains bkt) then .items []
    else Tree.listBucket (content bkt) depth cfg.height cfg.listKey ds
  else
    Tree.listUpper (fun b => if cfg.served.contains b then Tree.nodeSum (content b) depth b (cfg.height - 1) else (0, 0)) depth ds

def filesOfModel (buckets : Array Store.Bucket) : String := Id.run do
  let mut out := ""
  let mut bi := 0
  for b in buckets do
    let mut ci := 0
    for c in b.chunkList do
      let onDisk := c.recs.take c.flushed
      if !onDisk.isEmpty then
        let sz := match onDisk.getLast? with
          | some (o, r) => o + r.size
          | none => 0
        let items := ",".intercalate (onDisk.map fun (o, r) => s!"{o}:{tohex r.key}:{r.ver}")
        out := out ++ s!" {bi}/{ci}:{sz}:{items}"
      else if c.created then
        out := out ++ s!" {bi}/{ci}:0:"
      ci := ci + 1
    bi := bi + 1
  return out

def fmtGet (r : Spec.Reply) : String := match r with
  | .value f body => s!"VAL {f} {valSummary body}" | .miss => "MISS" | _ => "ERR"

/-- remember an acknowledged write that put a record on (eventually) disk -/
def noteWrite (st : St) (scfg : Spec.Cfg) (k : Bytes) (pos : Option Store.Pos) (size : Nat) : St :=
  match pos with
  | some p => { st with writes := st.writes ++ [(k, p, size, fmtGet (Spec.step scfg st.spec (.get k)).2)] }
  | none => st

def parseSizes (s : String) : List (Nat × Nat) :=
  if s == "-" then [] else (s.splitOn ",").filterMap fun x => match x.splitOn ":" with
    | [c, n] => some (c.toNat!, n.toNat!)
    | _ => none

def run (lines : Array String) : IO Report := do
  let rep ← IO.mkRef ({} : Report)
  let mut st : St := {}
  let mut ln := 0
  let mut cases := 0
  let mut nontrivial := 0
  let mut caseNontrivial := false
  for l in lines do
    ln := ln + 1
    if l.startsWith "#" then continue
    let (ws, obs) := splitLine l
    let cid := st.caseId
    match ws with
    | "case" :: id :: opts =>
        let nb := ((kvOpt opts "nb").getD "1").toNat!
        let served := (((kvOpt opts "served").getD "").splitOn ",").filterMap (fun s => s.toNat?)
        let cv := (kvOpt opts "checkvhash").getD "0" == "1"
        let dfmax := ((kvOpt opts "dfmax").getD "0").toNat!
        let cfg : Cfg := { nb := nb, served := served, height := ((kvOpt opts "height").getD "3").toNat!, checkVHash := cv, dfmax := dfmax,
                           listKey := ((kvOpt opts "listkey").getD "256").toNat! }
        st := { cfg := cfg, caseId := id, buckets := Array.replicate nb ({} : Store.Bucket), spec := [],
                scfg := { dataFileMax := dfmax, checkVHash := cv, bodyMax := ((kvOpt opts "bodymax").getD "1048576").toNat! }, active := true }
        cases := cases + 1
        caseNontrivial := false
    | ["open"] => st := { st with active := false }
    | "groups" :: gs :: more =>
        st := { st with groups := (gs.splitOn ";").map fun g => (g.splitOn ",").map unhex, safe := more.contains "safe" }
    | _ =>
    if !st.active then continue
    -- mix collide: every key of a group has the key hash of the group's first key
    let hash : Bytes → Nat := fun k => match st.groups.find? (fun g => g.contains k) with
      | some (leader :: _) => keyHash leader
      | _ => keyHash k
    let colliding : Bytes → Bool := fun k => st.groups.any (fun g => g.contains k)
    let opfx : Bytes → String := fun k => if colliding k then "C13" else "C01"
    let servedKey := fun (k : Bytes) => st.cfg.served.contains (bucketOf st.cfg.nb k)
    let scfgSpec : Spec.Cfg := { checkVHash := st.cfg.checkVHash }
    -- C15: the code's (regenerated) key hash must route every key like the reference key hash
    match ws with
    | op :: kh :: _ =>
        if ["set", "del", "incr", "get", "meta"].contains op then
          let k := unhex kh
          if bucketOf st.cfg.nb k ≠ refBucketOf st.cfg.nb k then
            diff rep ln "oracle" s!"case={cid} key=C15/route-hash key {kh.take 40} is routed to bucket {bucketOf st.cfg.nb k} but the leading digits of its reference key hash name bucket {refBucketOf st.cfg.nb k}"
    | _ => pure ()
    match ws with
    | "set" :: kh :: bh :: flag :: rev :: ts :: rest =>
        let k := unhex kh; let body := unhex bh
        let size := ((kvOpt rest "size").getD "0").toNat!
        let bkt := bucketOf st.cfg.nb k
        if !servedKey k then
          if obs ≠ "STORED pos=-" then diff rep ln "oracle" s!"case={cid} key=C15/unserved-bucket-write set on a key of unserved bucket {bkt}: {obs}"
          ok rep
        else
          let b := st.buckets[bkt]!
          let (b', r, pos) := Store.step hash st.scfg b (.set k body flag.toNat! (parseInt rev) ts.toNat! size)
          let m := (if r == .stored then "STORED" else "ERR") ++ " pos=" ++ fmtPos bkt pos
          if m ≠ obs then diffIf st.groups.isEmpty rep ln "model" s!"case={cid} set: model={m} impl={obs}"
          -- C10 decision oracle: the on-disk size is the plain padded size, or smaller only when compression was allowed
          -- (judged on what the IMPLEMENTATION wrote: in mix collide the bucket model is not in step with the store, so
          --  whether the model would have written is no evidence that a record exists)
          if pos.isSome && !(obs.endsWith "pos=-") then
            let plain := plainSize k.length body.length
            let mayCompress : Bool := decide (plain > 256) && (flag.toNat! &&& 0x10) == 0 && (flag.toNat! &&& 0x10000) == 0
            if !(size == plain || (mayCompress && decide (size < plain) && size % 256 == 0 && decide (size > 0))) then
              if colliding k then diff rep ln "oracle" s!"case={cid} key=C13/{if st.safe then "safe/" else ""}write-path-takes-other-keys-item set of a colliding key acknowledged but {size} bytes written (plain {plain})"
              else diff rep ln "oracle" s!"case={cid} key=C10/size record of {k.length}+{body.length} bytes occupies {size} bytes (plain {plain}, compression allowed: {mayCompress})"
          let (sp', sr) := Spec.step scfgSpec st.spec (.set k body flag.toNat! (parseInt rev) ts.toNat!)
          let so : String := if sr == .stored then "STORED" else "NOT_STORED"
          let overflow : Bool := match AMap.get st.spec k with | some e => decide (e.ver.natAbs ≥ 2147483647) | none => false
          if !(obs.startsWith so) then
            if overflow then diff rep ln "oracle" s!"case={cid} key={opfx k}/version-overflow set refused ({obs}) because the stored version has reached the int32 limit"
            else diff rep ln "oracle" s!"case={cid} key={opfx k}/set-status spec={so} impl={obs}"
          -- version proviso: a tree-only version change makes this key's version inexact from now on
          let treeOnly : Bool := st.cfg.checkVHash && pos.isNone && parseInt rev != 0 &&
            (match AMap.get st.spec k with | some e => decide (e.ver > 0) && Ref.vhash e.body == Ref.vhash body | none => false)
          -- F1: same value hash, different bytes: acknowledged but not written
          let stale : Bool := st.cfg.checkVHash && (match AMap.get st.spec k with
            | some e => decide (e.ver > 0) && Ref.vhash e.body == Ref.vhash body && (e.body != body || e.flag != flag.toNat!) | none => false)
          if stale then diff rep ln "oracle" s!"case={cid} key={opfx k}/stale-after-stored/same-vhash set acknowledged STORED but skipped because the 16-bit value hash equals the stored one while bytes or flags differ"
          -- after a version-overflow refusal the reference follows the implementation (the finding is reported once)
          let sp' := if overflow && !(obs.startsWith so) then st.spec else sp'
          let dv := if pos.isSome then (match AMap.get b'.tree (hash k) with | some it => AMap.set st.dataVer k it.ver | none => st.dataVer) else st.dataVer
          st := { st with buckets := st.buckets.set! bkt b', spec := sp', dataVer := dv, inexact := if treeOnly then k :: st.inexact else st.inexact }
          st := noteWrite st scfgSpec k pos size
          caseNontrivial := true
          ok rep
    | "del" :: kh :: rest =>
        let k := unhex kh
        let size := ((kvOpt rest "size").getD "0").toNat!
        let bkt := bucketOf st.cfg.nb k
        if !servedKey k then
          if obs ≠ "DELETED pos=-" then diff rep ln "oracle" s!"case={cid} key=C15/unserved-bucket-write delete on a key of unserved bucket {bkt}: {obs}"
          ok rep
        else
          let b := st.buckets[bkt]!
          let wts := ((kvOpt rest "ts").getD "0").toNat!
          let (b', r, pos) := Store.step hash st.scfg b (.delete k size wts)
          let m := (match r with | .deleted => "DELETED" | .notFound => "NOT_FOUND" | _ => "ERR") ++ " pos=" ++ fmtPos bkt pos
          if m ≠ obs then diffIf st.groups.isEmpty rep ln "model" s!"case={cid} del: model={m} impl={obs}"
          let (sp', sr) := Spec.step scfgSpec st.spec (.delete k)
          let so : String := match sr with | .deleted => "DELETED" | _ => "NOT_FOUND"
          if !(obs.startsWith so) then
            if colliding k then
              -- the write path takes the tree item of the key hash as this key's own old version, whichever key it belongs to
              diff rep ln "oracle" s!"case={cid} key=C13/{if st.safe then "safe/" else ""}write-path-takes-other-keys-item delete of a colliding key: reference says {so}, reply {obs}"
            else diff rep ln "oracle" s!"case={cid} key={opfx k}/delete-status spec={so} impl={obs}"
          if sr == .deleted && pos.isNone && obs.startsWith "DELETED" && !(colliding k) then
            diff rep ln "oracle" s!"case={cid} key={opfx k}/delete-not-written delete acknowledged but no tombstone record written"
          -- colliding keys: the reference follows what the client was told (a refused delete deleted nothing)
          let sp' := if colliding k && !(obs.startsWith so) then (if obs.startsWith "NOT_FOUND" then st.spec else sp') else sp'
          let dv := if pos.isSome then (match AMap.get b'.tree (hash k) with | some it => AMap.set st.dataVer k it.ver | none => st.dataVer) else st.dataVer
          st := { st with buckets := st.buckets.set! bkt b', spec := sp', dataVer := dv }
          st := noteWrite st scfgSpec k pos size
          ok rep
    | "incr" :: kh :: delta :: rest =>
        let k := unhex kh
        let size := ((kvOpt rest "size").getD "0").toNat!
        let bkt := bucketOf st.cfg.nb k
        if !servedKey k then
          if obs ≠ "0 pos=-" then diff rep ln "oracle" s!"case={cid} key=C15/unserved-bucket-write incr on a key of unserved bucket {bkt}: {obs}"
          ok rep
        else
          let b := st.buckets[bkt]!
          let wts := ((kvOpt rest "ts").getD "0").toNat!
          let (b', r, pos) := Store.step hash st.scfg b (.incr k (parseInt delta) size wts)
          let m := (match r with | .num v => s!"{v}" | _ => "ERR") ++ " pos=" ++ fmtPos bkt pos
          if m ≠ obs then diffIf st.groups.isEmpty rep ln "model" s!"case={cid} incr: model={m} impl={obs}"
          let (sp', sr) := Spec.step scfgSpec st.spec (.incr k (parseInt delta))
          let so : String := match sr with | .num v => s!"{v} " | _ => "ERR"
          if !(obs.startsWith so) then diff rep ln "oracle" s!"case={cid} key={if colliding k then s!"C13/{if st.safe then "safe/" else ""}incr/{st.phase}" else "C01/incr-value"} spec={so} impl={obs}"
          let dv := if pos.isSome then (match AMap.get b'.tree (hash k) with | some it => AMap.set st.dataVer k it.ver | none => st.dataVer) else st.dataVer
          st := { st with buckets := st.buckets.set! bkt b', spec := sp', dataVer := dv }
          st := noteWrite st scfgSpec k pos size
          ok rep
    | ["get", kh] =>
        let k := unhex kh
        let bkt := bucketOf st.cfg.nb k
        if !servedKey k then
          if obs ≠ "MISS" then diff rep ln "oracle" s!"case={cid} key=C15/unserved-bucket-read get of a key of unserved bucket {bkt}: {obs}"
          ok rep
        else
          let b := st.buckets[bkt]!
          let (_, r, _) := Store.step hash st.scfg b (.get k)
          let fmt := fun (r : Spec.Reply) => match r with
            | .value f body => s!"VAL {f} {valSummary body}" | .miss => "MISS" | _ => "ERR"
          if fmt r ≠ obs then diffIf st.groups.isEmpty rep ln "model" s!"case={cid} get: model={(fmt r).take 100} impl={obs.take 100}"
          let (_, sr) := Spec.step scfgSpec st.spec (.get k)
          if fmt sr ≠ obs then
            if colliding k then
              let symptom := if obs == "ERR" then "error" else if obs == "MISS" then "live-key-missing"
                else if fmt sr == "MISS" then "deleted-key-back" else "other-or-older-value"
              diff rep ln "oracle" s!"case={cid} key=C13/{if st.safe then "safe/" else ""}{symptom}/{st.phase} get of a colliding key: reference {(fmt sr).take 80} reply {obs.take 80}"
            else diff rep ln "oracle" s!"case={cid} key={opfx k}/get-value spec={(fmt sr).take 100} impl={obs.take 100}"
          ok rep
    | ["meta", kh] =>
        let k := unhex kh
        let bkt := bucketOf st.cfg.nb k
        if !servedKey k then
          if obs ≠ "MISS" then diff rep ln "oracle" s!"case={cid} key=C15/unserved-bucket-read meta of a key of unserved bucket {bkt}: {obs}"
          ok rep
        else
          let b := st.buckets[bkt]!
          let (_, r, pos) := Store.step hash st.scfg b (.info k)
          let ows := obs.splitOn " "
          let m := match r with
            | .info ver vh fl len ts =>
                let tss := match ts with | some t => s!"{t}" | none => ows.getD 4 "?"
                let p := match pos with | some p => s!"{p.chunk} {p.off}" | none => "? ?"
                s!"{ver} {vh} {fl} {len} {tss} {p}"
            | .miss => "MISS" | _ => "ERR"
          if m ≠ obs then diffIf st.groups.isEmpty rep ln "model" s!"case={cid} meta: model={m} impl={obs}"
          let (_, sr) := Spec.step scfgSpec st.spec (.info k)
          match (if colliding k then Spec.Reply.error else sr) with
          | .info ver vh fl len ts =>
              let verOk : Bool := st.inexact.contains k || colliding k || ows.getD 0 "" == s!"{ver}"
              let tsOk : Bool := match ts with | some t => ows.getD 4 "" == s!"{t}" | none => true
              if !(verOk && ows.getD 1 "" == s!"{vh}" && ows.getD 2 "" == s!"{fl}" && ows.getD 3 "" == s!"{len}" && tsOk) then
                diff rep ln "oracle" s!"case={cid} key={opfx k}/meta spec=({ver} {vh} {fl} {len}) impl={obs}"
          | .miss => if obs ≠ "MISS" then diff rep ln "oracle" s!"case={cid} key={opfx k}/meta spec=MISS impl={obs}"
          | _ => pure ()
          ok rep
    | ["unload", b] =>
        -- a served bucket was hot-unloaded: from here on it is an unserved bucket (C15)
        if obs ≠ "ok" then diff rep ln "oracle" s!"case={cid} key=C15/unload hot unload of bucket {b}: {obs}"
        st := { st with cfg := { st.cfg with served := st.cfg.served.filter (· != b.toNat!) } }
    | ["list", pfx] =>
        if !st.groups.isEmpty then continue
        let pfx := if pfx == "-" then "" else pfx
        let depth := depthOf st.cfg.nb
        let m := fmtListing (listAt st.cfg (fun b => contentOfTree (st.buckets[b]!).tree) pfx)
        let o := canonListing obs
        if m ≠ o then diffIf st.groups.isEmpty rep ln "model" s!"case={cid} list {pfx}: model={m.take 160} impl={o.take 160}"
        -- oracle: recomputation from the reference content alone
        let specContent := contentOfSpec st.spec
        let sc := fun (b : Nat) => specContent.filter (fun e => Tree.topDigits e.khash depth == b)
        let sl := listAt st.cfg sc pfx
        match sl with
        | .nodes _ =>
            if fmtListing sl ≠ o then diff rep ln "oracle" s!"case={cid} key=C08/node-summary list {pfx}: content says {(fmtListing sl).take 160} impl={o.take 160}"
        | .items es =>
            -- live entries exactly; tombstones may or may not be listed; nothing else
            let body : String := if o.length ≥ 2 then ((o.drop 1).dropEnd 1).toString else ""
            let lines := if body.isEmpty then [] else body.splitOn "|"
            if lines.any (fun l => l.contains '/') then
              diff rep ln "oracle" s!"case={cid} key=C08/node-summary list {pfx}: content says items, impl lists nodes {o.take 120}"
            else
              let live := (es.filter (fun e => e.ver > 0)).map fun e => s!"{hex16 e.khash} {e.vhash} {e.ver}"
              let tomb := (es.filter (fun e => e.ver < 0)).map fun e => s!"{hex16 e.khash} {e.vhash} {e.ver}"
              let inexactLine := fun (l : String) => st.inexact.any (fun k => l.startsWith (hex16 (Ref.keyHash k)))
              for l in live do
                if !(lines.contains l) && !(inexactLine l) then diff rep ln "oracle" s!"case={cid} key=C08/missing-live-item list {pfx}: live entry {l} not listed"
              for l in lines do
                if !(live.contains l) && !(tomb.contains l) && !(inexactLine l) then
                  diff rep ln "oracle" s!"case={cid} key=C08/spurious-item list {pfx}: listed entry {l} is neither a live key nor a tombstone of the content"
        | .none => pure ()
        ok rep
    | ["flush"] =>
        st := { st with buckets := st.buckets.map fun b => (Store.step hash st.scfg b .flush).1 }
    | "restart" :: opts =>
        if obs ≠ "OK" then
          diff rep ln "oracle" s!"case={cid} key=C02/refused-after-clean-shutdown restart after a clean shutdown: {obs}"
          st := { st with active := false }
        else
          let keep := (kvOpt opts "keeptree").getD "1" == "1"
          let bs := Id.run do
            let mut out : Array Store.Bucket := #[]
            let mut i := 0
            for b in st.buckets do
              out := out.push (if st.cfg.served.contains i then (Store.step hash st.scfg b (.reopen keep)).1 else b)
              i := i + 1
            return out
          -- C02: tombstones are intentionally dropped when the tree is rebuilt
          -- C02: tombstones are intentionally dropped when the tree is rebuilt; a version that was changed
          -- without a data write (check_vhash + explicit revision) falls back to the version in the data
          let sp := if keep then st.spec else
            (st.spec.filter (fun p => p.2.ver > 0)).map fun (k, e) =>
              if st.inexact.contains k then (k, { e with ver := (AMap.get st.dataVer k).getD e.ver }) else (k, e)
          let rank := fun (p : String) => if p == "gc" then 3 else if p == "rebuild" then 2 else if p == "reload" then 1 else 0
          let np := if keep then "reload" else "rebuild"
          st := { st with buckets := bs, spec := sp, inexact := if keep then st.inexact else [],
                          phase := if rank np > rank st.phase then np else st.phase }
          caseNontrivial := true
        ok rep
    | "gc" :: opts =>
        let geti := fun (n : String) => parseInt ((kvOpt opts n).getD "0")
        let bkt := (geti "bkt").toNat
        let b := st.buckets[bkt]!
        let g : Store.GcArgs := { start := geti "begin", stop := geti "end", noGCDays := geti "nogcdays", now := geti "now" }
        let pretend := geti "pretend" == 1
        match Store.gcCheckRange st.scfg b g with
        | .error _ =>
            if obs ≠ "REFUSED" then diffIf st.groups.isEmpty rep ln "model" s!"case={cid} gc range: model=REFUSED impl={obs.take 80}"
        | .ok (s, e) =>
            -- C17 oracle on the resolved range: inside the store, below the head, non-empty start
            if !(obs.startsWith s!"RANGE {s} {e}") then diffIf st.groups.isEmpty rep ln "model" s!"case={cid} gc range: model=RANGE {s} {e} impl={obs.take 80}"
            if obs.startsWith "RANGE" && st.groups.isEmpty then
              let ow := obs.splitOn " "
              let os := (ow.getD 1 "0").toNat!; let oe := (ow.getD 2 "0").toNat!
              if !(os ≤ oe && oe < b.head) then
                diff rep ln "oracle" s!"case={cid} key=C17/range resolved range [{os},{oe}] is not below the head file {b.head}"
              -- age limit: the first file after the range that has data on disk must be older than no_gc_days
              let days : Int := if g.noGCDays < 0 then st.scfg.noGCDays else g.noGCDays
              let succ := (List.range (b.head + 1)).find? (fun i => decide (i > oe) && (b.chunks i).hasDisk)
              match succ with
              | some i =>
                  match (b.chunks i).firstTs with
                  | some ts => if !(g.now - (ts : Int) > days * 86400) then
                      diff rep ln "oracle" s!"case={cid} key=C17/age-limit range [{os},{oe}] accepted although the first record of the next file {i} (ts {ts}) is not older than {days} days at {g.now}"
                  | none => pure ()
              | none => pure ()
            if !pretend && obs.startsWith "RANGE" then
              -- a pass cancelled at a file boundary (CancelGC) has looked at the files [s, stopped): it is the pass over
              -- that shorter range; cancelled before its first file it changes nothing
              let stopped := ((obs.splitOn " ").findSome? fun w => if w.startsWith "stopped=" then (w.drop 8).toNat? else none).getD (e + 1)
              let e := if stopped ≤ e then stopped - 1 else e
              -- (cancelled before its first file the pass still chooses its destination, opens the writer on it — which
              --  creates the file if an earlier pass had removed it — and ends the writing: `gcRun` over no file at all)
              --  When the destination is the first source itself (rewrite in place) nothing has been written and the file
              --  keeps every byte: `endGCWriting` removes it only if its size is 0.
              let (b', stats) := if stopped ≤ s then
                  (if Store.gcDst st.scfg b s == s then (b, ({} : Store.GcStats))
                   else
                     let s0 := Store.gcBegin b (Store.gcDst st.scfg b s) s {}
                     (s0.endWriting, s0.stats))
                else Store.gcRun hash st.scfg b s e
              let m := s!"before={stats.numBefore} released={stats.numReleased} sizebefore={stats.sizeBefore} sizereleased={stats.sizeReleased}"
              if !(obs.endsWith m) then diffIf st.groups.isEmpty rep ln "model" s!"case={cid} gc stats: model={m} impl={obs.take 160}"
              -- model-internal tie: the concrete pass lays the records out as  before ++ kept ++ after
              if stopped > s && (b'.log.map (·.2)) != StoreLemmas.gcAbstract hash b s e then
                diffIf st.groups.isEmpty rep ln "model" s!"case={cid} gc-abstraction: concrete gcRun differs from the abstract pass (Lemmas/GCLog.gcAbstract)"
              st := { st with buckets := st.buckets.set! bkt b', gcPending := (if stopped ≤ s then none else some (bkt, s, e, st.lastFiles)), gcPre := some (b, s, e), phase := "gc" }
              caseNontrivial := true
        ok rep
    | ["files"] =>
        -- oracles on the implementation's files right after a GC pass (C17 touch set, C18 only-current)
        match (if st.groups.isEmpty then st.gcPending else none) with
        | some (bkt, gs, ge, pre) =>
            let seg := fun (txt : String) => ((txt.splitOn " ").filter (· ≠ "")).filterMap fun sg =>
              match sg.splitOn ":" with
              | bc :: _ => match bc.splitOn "/" with
                | [b, c] => if b.toNat! == bkt then some (c.toNat!, sg) else none
                | _ => none
              | _ => none
            let preS := seg pre; let postS := seg obs
            -- C17: every file outside [gs, ge] is untouched, except one earlier file that may only grow
            let mut grown := 0
            for (c, sg) in preS do
              if c < gs || c > ge then
                match postS.find? (fun p => p.1 == c) with
                | some (_, sg2) =>
                    if sg2 ≠ sg then
                      let body := fun (x : String) => ":".intercalate ((x.splitOn ":").drop 2)
                      if c < gs && (body sg2).startsWith (body sg) then grown := grown + 1
                      else diff rep ln "oracle" s!"case={cid} key=C17/touched-outside-range gc [{gs},{ge}] changed file {c}: before={sg.take 120} after={sg2.take 120}"
                | none => diff rep ln "oracle" s!"case={cid} key=C17/touched-outside-range gc [{gs},{ge}] removed file {c} outside the range"
            if grown > 1 then diff rep ln "oracle" s!"case={cid} key=C17/touched-outside-range gc [{gs},{ge}] appended to {grown} files below the range"
            -- relocated records may also go into previously EMPTY slots below the range (new files); nothing may
            -- appear above the range
            for (c, _) in postS do
              if c > ge && !(preS.any (fun p => p.1 == c)) then
                diff rep ln "oracle" s!"case={cid} key=C17/touched-outside-range gc [{gs},{ge}] created file {c} above the range"
            -- C18: inside the range only current records survive, each key once
            let mut seen : List String := []
            for (c, sg) in postS do
              if c ≥ gs && c ≤ ge then
                let items := (":".intercalate ((sg.splitOn ":").drop 2)).splitOn ","
                for it in items do
                  match it.splitOn ":" with
                  | [_, kh, ver] =>
                      let k := unhex kh
                      let v := parseInt ver
                      let cur : Bool := match AMap.get st.spec k with
                        | some e => e.ver == v || st.inexact.contains k
                        | none => decide (v < 0) && decide (gs > 0)   -- a tombstone of a key the (rebuilt) tree no longer knows: kept only by a pass that does not start at file 0 (C18_range_holds_only_current)
                      if !cur then diff rep ln "oracle" s!"case={cid} key=C18/superseded-survives file {c} of the collected range still holds {kh}:{ver}, not the current record of its key"
                      if v > 0 && seen.contains kh then diff rep ln "oracle" s!"case={cid} key=C18/duplicate-record key {kh} appears twice in the collected range"
                      seen := kh :: seen
                  | _ => pure ()
            st := { st with gcPending := none }
        | none => pure ()
        st := { st with lastFiles := obs }
        let m := filesOfModel st.buckets
        -- the model's files hold the flushed prefix; at a restart everything is flushed by close
        let mFlushed := filesOfModel (st.buckets.map fun b => { b with chunks := fun i => { b.chunks i with flushed := (b.chunks i).recs.length } })
        if m.trimAscii.toString != obs.trimAscii.toString && mFlushed.trimAscii.toString != obs.trimAscii.toString then
          let ms := (mFlushed.splitOn " ").filter (· ≠ "")
          let os := (obs.splitOn " ").filter (· ≠ "")
          let firstBad := (ms.zip os).find? (fun (a, b) => a ≠ b)
          let detail := match firstBad with
            | some (a, b) => s!"model={a.take 300} impl={b.take 300}"
            | none => s!"model has {ms.length} files, impl has {os.length}: model-last={(ms.getLast?.getD "").take 150} impl-last={(os.getLast?.getD "").take 150}"
          diffIf st.groups.isEmpty rep ln "model" s!"case={cid} data files differ: {detail}"
        ok rep
    | ["dumphints"] => pure ()
    | ["close"] => st := { st with buckets := st.buckets.map fun b => (Store.step hash st.scfg b .flush).1 }
    | ["history-end"] => pure ()
    | ["gcbegin"] => st := { st with gcSpec := some st.spec }
    | ["gcend"] => st := { st with gcSpec := none }
    | "snap" :: n :: opts =>
        let sizes := parseSizes ((kvOpt opts "sizes").getD "-")
        let cut := fun (i : Nat) => ((sizes.find? (fun p => p.1 == i)).map (·.2)).getD 0
        let present := fun (i : Nat) => sizes.any (fun p => p.1 == i)
        let b := st.buckets[0]!
        let inGC := (kvOpt opts "gc").getD "0" == "1"
        let keys := (st.writes.map (·.1)).eraseDups
        let allowed := keys.map fun k =>
          let ws := st.writes.filter (fun w => w.1 == k)
          -- the last write of k whose record lies completely inside the surviving bytes of its file
          let durableIdx := (List.range ws.length).filter fun i => match ws[i]? with
            | some (_, p, sz, _) => decide (p.off + sz ≤ cut p.chunk)
            | none => false
          match durableIdx.getLast? with
          | some i => (k, (ws.drop i).map (·.2.2.2))
          | none => (k, "MISS" :: ws.map (·.2.2.2))
        let exact := match st.gcSpec with
          | some sp => keys.map fun k => (k, fmtGet (Spec.step scfgSpec sp (.get k)).2)
          | none =>
            -- the state right after an orderly shutdown returned: everything acknowledged must be there (C02)
            if opts.contains "ev=closed" then keys.map fun k => (k, fmtGet (Spec.step scfgSpec st.spec (.get k)).2) else []
        -- C07 tie: the data files of a crash state inside the pass are one of the abstract intermediate states
        --   before ++ kept(processed) ++ tail ++ rest ++ after      (Lemmas/GCLog.lean)
        if inGC then
          match st.gcPre, kvOpt opts "files" with
          | some (b0, gs, ge), some inv =>
              let fmtR := fun (x : Store.Pos × Store.Rec) => s!"{tohex x.2.key}:{x.2.ver}"
              let observed : List String := if inv == "-" then [] else (inv.splitOn ",").map fun it =>
                match it.splitOn ":" with
                | [_, _, kh, ver] => s!"{kh}:{ver}"
                | _ => it
              let full := b0.log
              let before := full.filter (fun x => decide (x.1.chunk < gs))
              let mid := full.filter (fun x => decide (gs ≤ x.1.chunk) && decide (x.1.chunk ≤ ge))
              let after := full.filter (fun x => decide (x.1.chunk > ge))
              let hasEntry := fun k => (AMap.get b0.tree (hash k)).isSome
              let keep := StoreLemmas.gcKeep hasEntry (decide (gs > 0)) full
              let found := (List.range (mid.length + 1)).any fun j =>
                let processed := mid.take j
                let rest := mid.drop j
                let kept := processed.filter keep
                let lastChunk := (processed.getLast?.map (·.1.chunk)).getD 0
                let curProc := processed.filter (fun x => x.1.chunk == lastChunk)
                (List.range (curProc.length + 1)).any fun t =>
                  let tail := curProc.drop (curProc.length - t)
                  (before ++ kept ++ tail ++ rest ++ after).map fmtR == observed
              -- a write in the middle of an existing file that is not a whole number of blocks (or is cut) may leave
              -- a record half overwritten: that is the byte-granular territory of the known finding, judged by the oracle
              let ws := opts
              let partialInPlace := ws.contains "app=0" && !(ws.contains "cut=0" &&
                (((kvOpt ws "off").getD "0").toNat! % 256 == 0) && (((kvOpt ws "len").getD "0").toNat! % 256 == 0))
              if !found && !partialInPlace then
                diffIf st.groups.isEmpty rep ln "model" s!"case={cid} gc-interm-abstraction: the data files at ({" ".intercalate (opts.filter (fun o => !o.startsWith "files="))}) are none of the abstract intermediate states of the pass [{gs},{ge}]: {(",".intercalate observed).take 300}"
          | _, _ => pure ()
        let sn : Snap := { inGC := inGC, torn := b.tornAt cut, recovered := b.recover hash st.scfg cut present,
                           allowed := allowed, exact := exact, label := " ".intercalate (opts.filter (fun o => !o.startsWith "files=")),
                           durable := st.writes.filter (fun w => decide (w.2.1.off + w.2.2.1 ≤ cut w.2.1.chunk)), life2 := st.inLife2 }
        st := { st with snaps := (n.toNat!, sn) :: st.snaps }
        caseNontrivial := true
    | ["crash", n] =>
        match st.snaps.find? (fun p => p.1 == n.toNat!) with
        | none => diff rep ln "driver" s!"crash of unknown snapshot {n}"
        | some (_, sn) =>
            if obs ≠ "OK" then
              if sn.inGC then
                -- a relocated record that was being APPENDED to the destination file and reached it only in part
                let lw := sn.label.splitOn " "
                let unaligned := (((kvOpt lw "sizes").getD "").splitOn ",").any fun x => match x.splitOn ":" with
                  | [_, n] => n.toNat! % 256 != 0
                  | _ => false
                -- the file being appended to ends in a partial record (also: between the writes of a record larger than the buffer)
                let evFile := ((kvOpt lw "file").getD "").take 3
                let partialEnd := (((kvOpt lw "partial").getD "-").splitOn ",").any fun c => c != "-" && c.toNat? == evFile.toString.toNat?
                let tornAppend := lw.contains "app=1" && (!(lw.contains "cut=0") || unaligned || partialEnd)
                if tornAppend then
                  diff rep ln "oracle" s!"case={cid} key=C07/refused-torn-appended-record the store refuses to start when the kill cut the relocated record being appended to the destination file ({sn.label})"
                else
                  diff rep ln "oracle" s!"case={cid} key=C07/refused-after-kill-in-gc the store refuses to start from the state a kill inside the GC pass leaves ({sn.label})"
              else if !sn.torn then
                diff rep ln "oracle" s!"case={cid} key=C06/refused-without-torn-tail the store refuses to start although no data file ends in a partial record ({sn.label})"
            ok rep
    | ["cget", n, kh] =>
        match st.snaps.find? (fun p => p.1 == n.toNat!) with
        | none => diff rep ln "driver" s!"cget of unknown snapshot {n}"
        | some (_, sn) =>
            let k := unhex kh
            if sn.inGC then
              match sn.exact.find? (fun p => p.1 == k) with
              | some (_, want) =>
                  if obs ≠ want then
                    let lw := sn.label.splitOn " "
                    let partialInPlace := lw.contains "app=0" && !(lw.contains "cut=0" &&
                      (((kvOpt lw "off").getD "0").toNat! % 256 == 0) && (((kvOpt lw "len").getD "0").toNat! % 256 == 0))
                    if partialInPlace then
                      diff rep ln "oracle" s!"case={cid} key=C07/lost-after-partial-inplace-move key {kh.take 40}: before the pass {want.take 60}, after a kill inside an in-place write ({sn.label}) {obs.take 60}"
                    else
                      diff rep ln "oracle" s!"case={cid} key=C07/value-after-kill-in-gc key {kh.take 40}: before the pass {want.take 60}, after a kill inside it ({sn.label}) {obs.take 60}"
              | none => if obs ≠ "MISS" then diff rep ln "oracle" s!"case={cid} key=C07/value-after-kill-in-gc key {kh.take 40} never written reads {obs.take 60}"
            else
              let (_, r, _) := Store.step hash st.scfg sn.recovered (.get k)
              if fmtGet r ≠ obs then diffIf st.groups.isEmpty rep ln "model" s!"case={cid} crash-recovery ({sn.label}) get {kh.take 40}: model={(fmtGet r).take 80} impl={obs.take 80}"
              match sn.exact.find? (fun p => p.1 == k) with
              | some (_, want) =>
                  if obs ≠ want then diff rep ln "oracle" s!"case={cid} key=C02/lost-on-clean-shutdown key {kh.take 40} held {want.take 60} when the orderly shutdown returned and reads {obs.take 60} at the next start ({sn.label})"
              | none => pure ()
              match sn.allowed.find? (fun p => p.1 == k) with
              | some (_, al) =>
                  if !(al.contains obs) then
                    diff rep ln "oracle" s!"case={cid} key=C06/value-after-kill key {kh.take 40} reads {obs.take 60} after a kill at ({sn.label}); allowed: {(" | ".intercalate (al.map (fun x => (x.take 40).toString))).take 200}"
              | none => if obs ≠ "MISS" then diff rep ln "oracle" s!"case={cid} key=C06/value-after-kill key {kh.take 40} never written reads {obs.take 60}"
            ok rep
    | ["life2", n] =>
        -- engine crash, second process life: the kill really happened at crash state n; the store now is what the
        -- model says recovery made of it, the reference map is its content, and of the acknowledged writes only
        -- those that were completely on disk still exist
        match st.snaps.find? (fun p => p.1 == n.toNat!) with
        | none => diff rep ln "driver" s!"life2 of unknown snapshot {n}"
        | some (_, sn) =>
            let b := sn.recovered
            let keys := (st.writes.map (·.1)).eraseDups
            let sp : Spec.KV := keys.foldl (fun m k => match AMap.get b.tree (hash k) with
              | some it => match b.readAt it.pos with
                | some r => AMap.set m k { ver := it.ver, flag := r.flag, body := r.body, ts := r.ts }
                | none => m
              | none => m) []
            let dv : List (Spec.Key × Int) := keys.foldl (fun m k => match AMap.get sp k with
              | some e => AMap.set m k e.ver
              | none => m) []
            st := { st with buckets := #[b], spec := sp, inexact := keys, dataVer := dv, writes := sn.durable, gcSpec := none, lastFiles := "", inLife2 := true }
    | ["clist", n, pfx] =>
        match st.snaps.find? (fun p => p.1 == n.toNat!) with
        | none => diff rep ln "driver" s!"clist of unknown snapshot {n}"
        | some (_, sn) =>
            if !sn.inGC then
              let pfx := if pfx == "-" then "" else pfx
              -- the listing of the recovered tree is the listing of its content (C08), also after an unclean stop
              let content := contentOfTree sn.recovered.tree
              let sl := listAt st.cfg (fun _ => content) pfx
              let o := canonListing obs
              match sl with
              | .nodes _ =>
                  if fmtListing sl ≠ o then diff rep ln "oracle" s!"case={cid} key=C08/node-summary-after-kill list {pfx} after a kill at ({sn.label}): content says {(fmtListing sl).take 160} impl={o.take 160}"
              | .items es =>
                  let body : String := if o.length ≥ 2 then ((o.drop 1).dropEnd 1).toString else ""
                  let lines := if body.isEmpty then [] else body.splitOn "|"
                  if lines.any (fun l => l.contains '/') then
                    diff rep ln "oracle" s!"case={cid} key=C08/node-summary-after-kill list {pfx} after a kill at ({sn.label}): content says items, impl lists nodes {o.take 120}"
                  else
                    let noVer := fun (l : String) => if sn.life2 then " ".intercalate ((l.splitOn " ").dropLast) else l
                    let live := (es.filter (fun e => e.ver > 0)).map fun e => noVer s!"{hex16 e.khash} {e.vhash} {e.ver}"
                    let tombLine := fun (l : String) => (l.splitOn " ").getLast?.map (·.startsWith "-") == some true
                    let lines := lines.filter (fun l => !(sn.life2 && tombLine l)) |>.map noVer
                    for l in live do
                      if !(lines.contains l) then diff rep ln "oracle" s!"case={cid} key=C08/missing-live-item-after-kill list {pfx} after a kill at ({sn.label}): live entry {l} not listed"
                    for l in lines do
                      -- a listed line is a live entry, or a tombstone (negative version) the tree still carries
                      if !(live.contains l) && !(tombLine l) then
                        diff rep ln "oracle" s!"case={cid} key=C08/spurious-item-after-kill list {pfx} after a kill at ({sn.label}): listed entry {l} is not a live key of the recovered content"
              | .none => pure ()
            ok rep
    | ["stray"] =>
        if obs ≠ "-" then diff rep ln "oracle" s!"case={cid} key=C15/stray-file files outside the served buckets' directories: {obs.take 200}"
        ok rep
    | ["fatal"] =>
        diff rep ln "oracle" s!"case={cid} key=C01/fatal-error a goroutine of the store hit a fatal error (the process would exit): {obs.take 200}"
        st := { st with active := false }
    | ["end"] =>
        if caseNontrivial then nontrivial := nontrivial + 1
        st := { st with active := false }
    | _ => diff rep ln "driver" s!"unparsed line: {l.take 60}"
  IO.println s!"#cases {cases} nontrivial={nontrivial}"
  rep.get

end Driver.Seq
