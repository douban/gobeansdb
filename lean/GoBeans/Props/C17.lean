/-
  C17 — GC only touches eligible files and runs at most once per bucket.

  Model: `Store.gcCheckRange` / `gcRun` (GoBeans/Model/GC.lean, mirror of store/gc.go gcCheckStart/gcCheckEnd/gc).
  Pretend mode is the range resolution alone — a function with no state output (the real code returns before the pass:
  call-order fact `hstore.gc.check`).  The age limit is part of `gcCheckEnd`: proved only as "the range lies below the
  head"; its exact choice is tied by correspondence.
  Tied by engine `seq`: requests with arguments from {-2 … head+1}², no_gc_days ∈ {-1,0,1,30,5000}, merge on/off,
  pretend; resolved range, per-file statistics, positions of every key and the record inventory of every data
  file are compared with the model; oracle on the implementation's files: outside the range no existing file is
  rewritten, truncated or removed — at most one earlier file grows (its old content a prefix), relocated
  records may open files in empty slots below the range, nothing changes at or above end+1.
  Single pass per bucket: `C17_one_pass` — when "is a pass registered?" and "register it" are one step (as in HStore.GC
  since /repo "fix: register the GC pass…"), every interleaving of requests and pass ends keeps at most one pass per
  bucket; `C17_two_step_admits_two` is the behaviour before that commit (check at once, register later inside the
  spawned goroutine): two requests both pass the check.  Tied by engine `conc` (mix c17): two requests for one
  bucket 0..3000 µs apart (with and without the merge preparation), the maximal number of simultaneously running
  passes is observed through hook points at the begin and end of a pass.
-/
import GoBeans.Lemmas.GCRange
import GoBeans.Lemmas.GCHistory
open Store

theorem gcBack_le (b : Bucket) (start : Nat) : ∀ fuel e, gcBack b start fuel e ≤ e := StoreLemmas.gcBack_le b start

theorem gcScan_le (b : Bucket) (start : Nat) (now days : Int) :
    ∀ fuel next r, gcScan b start now days fuel next = .ok r → r ≤ next - 1 := StoreLemmas.gcScan_le b start now days

/-- Every accepted GC request, whatever its arguments (negative, beyond the head, any no-GC-days, any clock) and the
    bucket state, resolves to  start ≤ end < head:  the file receiving appends is never inside the range. -/
theorem C17_range (cfg : Cfg) (b : Bucket) (g : GcArgs) (s e : Nat)
    (h : gcCheckRange cfg b g = .ok (s, e)) : s ≤ e ∧ e < b.head := StoreLemmas.gcCheckRange_range cfg b g s e h

/-- Touch set: an accepted request (any arguments) on a bucket satisfying `HInv` (the invariants of C01/C02, well-formed
    files within `dataFileMax`, no record of version 0) leaves every file above the resolved range — the head file among
    them — and every file below the first destination untouched; a destination below the range (the single earlier file
    GC appends to) keeps its old records as a prefix; the destination never lies above the first file of the range. -/
theorem C17_touch (hash : Spec.Key → Nat) (K : Spec.Key → Prop) (cfg : Cfg) (hInj : StoreLemmas.InjOn hash K)
    {n : Nat} {b : Bucket} {m : Spec.KV} (h : StoreLemmas.HInv hash K cfg n b m) (g : GcArgs) (s e : Nat)
    (hr : gcCheckRange cfg b g = .ok (s, e)) :
    (gcRun hash cfg b s e).1.chunks b.head = b.chunks b.head
    ∧ (∀ i, e < i → (gcRun hash cfg b s e).1.chunks i = b.chunks i)
    ∧ (∀ i, i < gcDst cfg b s → (gcRun hash cfg b s e).1.chunks i = b.chunks i)
    ∧ (gcDst cfg b s < s → ∃ ext, ((gcRun hash cfg b s e).1.chunks (gcDst cfg b s)).recs = (b.chunks (gcDst cfg b s)).recs ++ ext)
    ∧ gcDst cfg b s ≤ s ∧ (gcRun hash cfg b s e).1.head = b.head := by
  obtain ⟨h1, h2⟩ := C17_range cfg b g s e hr
  have post := StoreLemmas.gcRun_post_inv hash K cfg hInj h.inv h.lr h.wf h.nz s e h1 h2
  exact ⟨post.touch.high b.head h2, post.touch.high, post.touch.low, post.touch.pfx, (StoreLemmas.gcDst_spec cfg b s).1, post.head⟩

/-- non-vacuity: a bucket with three flushed files and head 3 (empty) resolves (-1, -1) to [0, 1]: the newest file with
    data is never collected while the head is empty -/
def exB : Bucket :=
  { chunks := fun i => if i < 3 then { recs := [(0, { key := [97], ver := 1, flag := 0, ts := some 5, body := [], size := 256, wts := 5 })], flushed := 1, size := 256 } else {},
    head := 3 }
example : (gcCheckRange {} exB { start := -1, stop := -1, noGCDays := 0, now := 1000 }).toOption = some (0, 1) := by decide +kernel
example : (gcCheckRange {} exB { start := 4, stop := -1, noGCDays := 0, now := 1000 }).toOption = none := by decide +kernel
example : (gcCheckRange {} exB { start := 0, stop := 7, noGCDays := 30, now := 1000 }).toOption = none := by decide +kernel

namespace GCReg

inductive Ev
  | request          -- HStore.GC: test "no pass registered" and register, in one step
  | finish           -- the pass ends and unregisters
deriving DecidableEq, Repr

def step (running : Nat) : Ev → Nat
  | .request => if running = 0 then 1 else running
  | .finish => running - 1

inductive Ev2
  | check (req : Nat)       -- request `req` looks: allowed iff nothing is registered
  | register (req : Nat)    -- … and later registers and starts its pass, if it was allowed
  | finish
deriving DecidableEq, Repr

structure St2 where
  running : Nat := 0
  allowed : List Nat := []

def step2 (s : St2) : Ev2 → St2
  | .check r => if s.running = 0 then { s with allowed := r :: s.allowed } else s
  | .register r => if s.allowed.contains r then { running := s.running + 1, allowed := s.allowed.erase r } else s
  | .finish => { s with running := s.running - 1 }

end GCReg

theorem C17_one_pass (evs : List GCReg.Ev) : evs.foldl GCReg.step 0 ≤ 1 :=
  List.foldlRecOn evs GCReg.step (motive := (· ≤ 1)) (Nat.zero_le 1) fun n hn e _ => by
    cases e <;> simp only [GCReg.step]
    · split <;> omega
    · omega

theorem C17_two_step_admits_two :
    ([GCReg.Ev2.check 1, .check 2, .register 1, .register 2].foldl GCReg.step2 {}).running = 2 := by decide
