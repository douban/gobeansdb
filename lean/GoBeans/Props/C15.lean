/-
  C15 — keys are routed to exactly one bucket by the top hash digits.

  Proved here, of the regenerated `Gen.ParsePathUint64` (store/key.go) and `Gen.InitTree`: the 16 hex digits of the
  path (`C15_path_digits`) and the depth (`C15_depth`).  `KeyInfo.Prepare` folds the first `depth` digits into the
  bucket id (`id = id<<4 + digit`), i.e. the leading hex digits name the bucket.
  Tied by engine `seq`: real HStore with 1/16/256 buckets and served subsets {one, some, all}; the model routes
  by `hash / 16^(16-depth)`; every reply, position and data-file location is compared; any file outside a
  served bucket's directory and any non-miss answer for an unserved bucket is an oracle failure.
  Not proved (partial): the numeric identity fold(digits) = hash / 16^(16-depth) over Int64/UInt64 conversions and
  `GetBucketDir` (fmt.Sprintf, outside the translator's subset) — both covered by the correspondence only.
-/
import GoBeans.Gen.Kernels
namespace RouteLemmas
-- the buffer `ParsePathUint64` is called with
def zeros16 : List Int64 := List.replicate 16 0
end RouteLemmas
open RouteLemmas

/-- digit i of the path = bits [63-4i .. 60-4i] of the key hash, for every hash -/
theorem C15_path_digits (kh : UInt64) :
    Gen.ParsePathUint64 kh zeros16 = (List.range 16).map (fun i => ((Go.shr64 kh (4 * (15 - i))).toInt64 &&& 15)) := by
  unfold Gen.ParsePathUint64
  simp only [Id.run, Std.Legacy.Range.forIn_eq_forIn_range', Std.Legacy.Range.size]
  simp [List.range', zeros16, List.range, List.range.loop]
  rfl

/-- tree depth (= number of leading digits that name the bucket) for the three supported bucket counts,
    whatever the tree height -/
theorem C15_depth (h : Int64) : (Gen.InitTree 1 h).1 = 0 ∧ (Gen.InitTree 16 h).1 = 1 ∧ (Gen.InitTree 256 h).1 = 2 := by
  refine ⟨?_, ?_, ?_⟩ <;> (unfold Gen.InitTree; simp only [Id.run, Std.Legacy.Range.forIn_eq_forIn_range', Std.Legacy.Range.size]; rfl)

/-- the loop `for n > 1 { depth++; n /= 16 }` was translated with fuel 64: it has terminated (n ≤ 1) within the
    fuel for the supported bucket counts -/
example : ∀ nb ∈ [(1 : Int64), 16, 256], (Gen.InitTree nb 3).1 < 3 := by decide +kernel

example : Gen.ParsePathUint64 0xc80f795945b78f6b zeros16 = [12, 8, 0, 15, 7, 9, 5, 9, 4, 5, 11, 7, 8, 15, 6, 11] := by decide +kernel
