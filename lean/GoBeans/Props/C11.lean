/-
  C11 — protocol: one well-formed reply per command, binary-safe, never wedged.

  Model: GoBeans/Model/Proto.lean — `readReq` (Request.Read: line, fields, numbers, length-prefixed body and its
  terminator), `process` (Request.Process over the StorageClient: ordinary, '@' and '?' keys), `Resp.write`
  (Response.Write), `serveOnce` (ServerConn.ServeOnce: error classification, reply, close).
  Tied to the real memcache.ServerConn + gobeansdb.StorageClient + HStore by engine `proto`, per served command:
  bytes consumed from the stream, bytes written (byte-exact up to the server clock), closing flag.

  Proved here, for every state and EVERY input byte sequence (`serveOnce` is total: no input makes it fail to return):
   * `C11_cut_stream`  — the stream ends inside a command: no reply, orderly close;
   * `C11_error_reply` — a complete line that is malformed / too large / badly terminated / unknown: a reply (which
                          one: `Proto.serveOnce_err`), the connection stays open, and the server state is untouched
                          (`C11_error_no_effect`), so later commands are unaffected;
   * `C11_one_reply`   — a complete well-formed command: exactly one reply, none iff it said noreply (or is `quit`,
                          which closes; the unsupported append/prepend with noreply also end in an orderly close).
   * request round trip (`C11_roundtrip_get`, `_delete`, `_incr`, `_store`): parsing what `writeReq` (= Request.Write,
     tied byte for byte by engine proto) wrote gives the SAME request back — for a store command whatever bytes the
     value holds (CR, LF, NUL, command look-alikes: `body` is arbitrary) —, consumes EXACTLY the bytes of that
     command and is independent of everything that follows it on the stream (`rest` is arbitrary): pipelining keeps
     requests and replies in step.  Keys and numbers are tokens (non-empty, no space, no LF); numbers are int64.
     The four are the verbs of `Proto.WFReq`, one theorem (`Proto.rt_req`, Lemmas/ProtoRT).
   * `C11_set_then_get_same_bytes` — through `process` and the bucket model (a statement about `processStore` and
     `processGet`, not about `serveOnce` on bytes): the `get` of a key after a `set` of it replies with exactly the
     bytes that were sent and the flag modulo 2^32, for any value bytes, any other content of the store (keys whose
     hashes do not collide with it), any noreply flag.
   * reply round trip (Lemmas/ProtoResp*; `C11_reply_values`, `C11_reply_line`, `C11_reply_number`, end to end
     `C11_get_reply_parses_back`): for EVERY byte string the server may put on the wire for a reply (`Resp.Wire`: blocks
     in any order, as Go's map iteration gives them) a client's `readResp` (= Response.Read) recovers what was sent,
     whatever the bodies hold (CR LF, NUL, "END\r\n", "VALUE ..." look-alikes), consumes exactly the reply and leaves
     what follows untouched (pipelining).  Two reply classes Response.Read refuses are proved as such: the "none" of
     optimize_stat (`C11_reply_none_refused`); a STAT line with an empty value (`readResp_wire_stat_refused`,
     Lemmas/ProtoRespWire).
  Partial: the statement for every reply of `serveOnce` on arbitrary input (`Proto.serveOnce_reply_readable_statement`) is
  stated, not proved (each constructor is; the case split over `process` is missing); the reply forms are tied to the real
  Response.Read by engine proto (`rresp` lines on every third reply).
-/
import GoBeans.Lemmas.Proto
import GoBeans.Lemmas.ProtoRT
import GoBeans.Lemmas.ProtoE2E
import GoBeans.Lemmas.ProtoResp
open Proto

theorem C11_cut_stream (cfg : Cfg) (st : St) (inp : Bytes) (h : (readReq cfg st.led inp).res = .net) :
    (serveOnce cfg st inp).resp = none ∧ (serveOnce cfg st inp).closing = true := by
  rw [serveOnce_net h]; exact ⟨rfl, rfl⟩

theorem C11_error_reply (cfg : Cfg) (st : St) (inp : Bytes) (e : RErr) (h : (readReq cfg st.led inp).res = .err e) :
    (serveOnce cfg st inp).resp.isSome = true ∧ (serveOnce cfg st inp).closing = false := by
  rw [serveOnce_err h]; exact ⟨rfl, rfl⟩

theorem C11_error_no_effect (cfg : Cfg) (st : St) (inp : Bytes) (h : (readReq cfg st.led inp).res ≠ .ok) :
    (serveOnce cfg st inp).st = st :=
  serveOnce_refused cfg st inp h

theorem C11_one_reply (cfg : Cfg) (st : St) (inp : Bytes) (h : (readReq cfg st.led inp).res = .ok) :
    (serveOnce cfg st inp).resp.isSome = (!(readReq cfg st.led inp).req.noreply && (readReq cfg st.led inp).kind != .quit)
    ∧ (serveOnce cfg st inp).closing = ((readReq cfg st.led inp).kind == .quit
          || ((readReq cfg st.led inp).kind == .append && (readReq cfg st.led inp).req.noreply)) := by
  obtain ⟨-, hk, hnr⟩ := (readReq_post cfg st.led inp).of_ok h
  rw [serveOnce_ok h]
  exact process_resp cfg _ _ _ _ hk hnr

theorem C11_roundtrip_get (cfg : Cfg) (led : Ledger) (gets : Bool) (ks : List Bytes) (rest : Bytes)
    (hks : ∀ k ∈ ks, Tok k) (hne : ks ≠ []) :
    let c := if gets then ascii "gets" else ascii "get"
    let r : Req := { cmd := c, keys := ks }
    (readReq cfg led (writeReq r ++ rest)).res = .ok ∧ (readReq cfg led (writeReq r ++ rest)).req = r
      ∧ (readReq cfg led (writeReq r ++ rest)).n = (writeReq r).length :=
  rt_req cfg led _ rest (.get gets ks hks hne)

theorem C11_roundtrip_delete (cfg : Cfg) (led : Ledger) (k : Bytes) (nr : Bool) (rest : Bytes) (hk : Tok k) :
    let r : Req := { cmd := ascii "delete", keys := [k], noreply := nr }
    (readReq cfg led (writeReq r ++ rest)).res = .ok ∧ (readReq cfg led (writeReq r ++ rest)).req = r
      ∧ (readReq cfg led (writeReq r ++ rest)).n = (writeReq r).length :=
  rt_req cfg led _ rest (.delete k nr hk)

theorem C11_roundtrip_incr (cfg : Cfg) (led : Ledger) (decr : Bool) (k num : Bytes) (nr : Bool) (rest : Bytes)
    (hk : Tok k) (hn : Tok num) :
    let c := if decr then ascii "decr" else ascii "incr"
    let r : Req := { cmd := c, keys := [k], body := num, noreply := nr }
    (readReq cfg led (writeReq r ++ rest)).res = .ok ∧ (readReq cfg led (writeReq r ++ rest)).req = r
      ∧ (readReq cfg led (writeReq r ++ rest)).n = (writeReq r).length :=
  rt_req cfg led _ rest (.incr decr k num nr hk hn)

theorem C11_roundtrip_store (cfg : Cfg) (led : Ledger) (c k : Bytes) (flag exptime cas : Int) (body rest : Bytes) (nr : Bool)
    (hc : c ∈ storeVerbs) (hk : Tok k) (hf : I64 flag) (he : I64 exptime) (hcas : I64 cas)
    (hlen : body.length ≤ cfg.bodyMax) (hlen2 : body.length < 4294967296) :
    let r : Req := { cmd := c, keys := [k], flag := flag, exptime := exptime, cas := if c == ascii "cas" then cas else 0,
                     body := body, noreply := nr }
    (readReq cfg led (writeReq r ++ rest)).res = .ok ∧ (readReq cfg led (writeReq r ++ rest)).req = r
      ∧ (readReq cfg led (writeReq r ++ rest)).n = (writeReq r).length :=
  rt_req cfg led _ rest (.store c k flag exptime cas body nr hc hk hf he hcas hlen hlen2)

/-- (`hflag`: a client flag without the server-reserved bit 0x10000 — a set carrying that bit is refused, NOT_STORED) -/
theorem C11_set_then_get_same_bytes (cfg : Cfg) (hcv : cfg.store.checkVHash = false) (hmk : cfg.maxKeyLen = 250)
    (K : Spec.Key → Prop) (hInj : StoreLemmas.InjOn hashOf K) (n : Nat) (hn : n + 1 < 2147483647)
    (st : St) (m : Spec.KV) (hb : Backed K n st m)
    (k body : Bytes) (flag : Int) (nr : Bool) (buf : Buf)
    (hk : K k) (hv : validKeyString k = true) (hlen : body.length < 2^63)
    (hflag : ((flag % 4294967296).toNat / 65536) % 2 ≠ 1) :
    let rset : Req := { cmd := ascii "set", keys := [k], flag := flag, exptime := 0, body := body, noreply := nr }
    let rget : Req := { cmd := ascii "get", keys := [k] }
    (processGet cfg (processStore cfg st rset buf).1 rget).2.1
      = some (.value false [{ key := k, flag := ((flag % 4294967296).toNat : Int), body := [.lit body], len := body.length }]) := by
  intro rset rget
  have hkeys : rset.keys.headD [] = k := rfl
  have hb1 : (processStore cfg st rset buf).1.b = _ :=
    processStore_b cfg st rset buf (by rw [hkeys]; exact hv) (by simp [rset]) hflag
  have hrev : Int32.toInt (Int32.ofInt rset.exptime) = 0 := by simp [rset]
  rw [hkeys, hrev] at hb1
  have hsz := plainSize_pos k.length rset.body.length
  obtain ⟨_, hinv⟩ := StoreLemmas.set_refines hashOf K cfg.store hInj hn hb k body (rset.flag % 4294967296).toNat 0 0
    (plainSize k.length rset.body.length) hk hsz hlen (by omega) (by simp)
  have hget := StoreLemmas.get_refines hashOf K cfg.store hinv k hk
  rw [hcv] at hget
  have hspec := spec_get_after_set m k body (rset.flag % 4294967296).toNat 0
  have hbody : rset.body = body := rfl
  rw [hbody] at hb1 hinv hget
  generalize hst1 : (processStore cfg st rset buf).1 = st1 at *
  have hstep : (Store.step hashOf cfg.store st1.b (.get k)).2.1 = .value (rset.flag % 4294967296).toNat body := by
    rw [hb1, hget.1]
    exact hspec
  exact processGet_ordinary cfg st1 k body _ hv hmk hstep

/-- on a fresh server, for the single key involved, the hypotheses hold -/
theorem C11_fresh_server_backed (k : Bytes) : Backed (fun x => x = k) 0 ({} : St) [] ∧ StoreLemmas.InjOn hashOf (fun x => x = k) :=
  ⟨StoreLemmas.inv_init hashOf _, fun a b ha hb _ => by rw [ha, hb]⟩

/-! Non-vacuity: the three situations occur; a value made of a terminator and a command look-alike travels unchanged
    and the pipelined command behind it is left untouched. -/
def exSet : Req := { cmd := ascii "set", keys := [ascii "k"], flag := 5, exptime := 0, body := ascii "\r\nget x\r\n" }
example : (readReq {} {} (writeReq exSet ++ ascii "get k\r\n")).req.body = ascii "\r\nget x\r\n" := by decide +kernel
example : (readReq {} {} (writeReq exSet ++ ascii "get k\r\n")).n = 24 ∧ (writeReq exSet).length = 24 := by decide +kernel
example : (readReq {} {} (ascii "set k 0 0 5\r\nab")).res = .net := by decide +kernel
example : (readReq {} {} (ascii "set k 0 0\r\n")).res = .err .invalidCmd := by decide +kernel
example : (readReq {} {} (ascii "set k 0 0 2\r\nabcd\r\n")).res = .err .badChunk := by decide +kernel
example : (readReq {} {} (ascii "get a b c\r\nget d\r\n")).res = .ok ∧ (readReq {} {} (ascii "get a b c\r\nget d\r\n")).n = 11 := by decide +kernel
example : (serveOnce {} {} (ascii "set k 0 0 2 noreply\r\n\r\n\r\n")).resp = none := by decide +kernel

/-- VALUE replies: whatever order the blocks are written in, the client reads back a permutation of exactly the items sent -/
theorem C11_reply_values (cfg : Cfg) (hmax : cfg.bodyMax < 9223372036854775808) (cas : Bool) (vs : List PItem)
    (hv : ∀ p ∈ vs, ItemOK cfg p) (hnd : (vs.map (·.key)).Nodup) (w : Bytes)
    (hw : (Resp.value cas (vs.map RItem.ofLit)).Wire w) :
    ∃ ps : List PItem, ps.Perm vs ∧
      ∀ (rest : Bytes) (fuel : Nat), vs.length + 1 ≤ fuel →
        readResp cfg fuel (w ++ rest) []
          = some ({ status := ascii "END", msg := [], items := ps.map (PItem.norm cas) }, rest) :=
  readResp_wire_value_lit cfg hmax cas vs hv hnd w hw

/-- one-line replies (STORED, NOT_FOUND, DELETED, …, and the error lines with their messages) -/
theorem C11_reply_line (cfg : Cfg) (status msg w : Bytes)
    (hs : (status ∈ endStatuses ∧ msg = []) ∨ (status ∈ msgStatuses ∧ Words msg))
    (hw : (Resp.line status msg).Wire w) (rest : Bytes) (fuel : Nat) (hf : 1 ≤ fuel) :
    readResp cfg fuel (w ++ rest) [] = some ({ status := status, msg := msg, items := [] }, rest) :=
  readResp_wire_line cfg status msg w hs hw rest fuel hf

/-- the number an incr replies with -/
theorem C11_reply_number (cfg : Cfg) (v : Int) (hv : I64 v) (w : Bytes) (hw : (Resp.num (itoa v)).Wire w)
    (rest : Bytes) (fuel : Nat) (hf : 1 ≤ fuel) :
    readResp cfg fuel (w ++ rest) [] = some ({ status := ascii "INCR", msg := itoa v, items := [] }, rest) :=
  readResp_wire_num cfg v hv w hw rest fuel hf

theorem C11_reply_none_refused (cfg : Cfg) (w : Bytes) (hw : (Resp.line (ascii "none") []).Wire w) (rest : Bytes) (fuel : Nat) :
    readResp cfg fuel (w ++ rest) [] = none :=
  readResp_wire_none_refused cfg w hw rest fuel

/-- end to end: a served get / gets of token keys consumes exactly the request, keeps the connection, and every wire form
    of its reply parses back to the items the server looked up (or, for a single key whose lookup failed, to the
    SERVER_ERROR line with its message).  `hstore` (flags int64, values within BodyMax) is what `set` accepts; it is a
    hypothesis, since no invariant of the bucket model bounds the flags and sizes it holds -/
theorem C11_get_reply_parses_back (cfg : Cfg) (hmax : cfg.bodyMax < 9223372036854775808) (st : St) (gets : Bool)
    (ks : List Bytes) (more : Bytes) (hks : ∀ k ∈ ks, Tok k) (hne : ks ≠ [])
    (hlen : ∀ k ∈ ks, k.length ≤ cfg.maxKeyLen)
    (hstore : ∀ it ∈ lookedUp cfg st ks, I64 it.flag ∧ it.len ≤ cfg.bodyMax) :
    let r : Req := { cmd := if gets then ascii "gets" else ascii "get", keys := ks }
    let s := serveOnce cfg st (writeReq r ++ more)
    s.n = (writeReq r).length ∧ s.closing = false ∧
    ((s.resp = some (.value gets (lookedUp cfg st ks)) ∧
        ∀ w, (Resp.value gets (lookedUp cfg st ks)).Wire w →
          ∃ (its : List RItem) (ps : List PItem), its.Perm (lookedUp cfg st ks) ∧ Carries its ps ∧
            ∀ (rest : Bytes) (fuel : Nat), (lookedUp cfg st ks).length + 1 ≤ fuel →
              readResp cfg fuel (w ++ rest) []
                = some ({ status := ascii "END", msg := [], items := ps.map (PItem.norm gets) }, rest))
     ∨ (∃ k msg, ks = [k] ∧ (clientGet cfg st k).1 = .err msg ∧ s.resp = some (.line (ascii "SERVER_ERROR") msg) ∧
        ∀ w, (Resp.line (ascii "SERVER_ERROR") msg).Wire w → ∀ (rest : Bytes) (fuel : Nat), 1 ≤ fuel →
          readResp cfg fuel (w ++ rest) [] = some ({ status := ascii "SERVER_ERROR", msg := msg, items := [] }, rest))) :=
  serveOnce_get_roundtrip cfg hmax st gets ks more hks hne hlen hstore
