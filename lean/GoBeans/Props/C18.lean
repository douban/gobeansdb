/-
  C18 — GC actually reclaims: no superseded record survives in the collected range.

  Proved about the concrete pass `Store.gcRun` (Model/GC.lean), for every bucket satisfying the invariants of C01/C02
  with well-formed files within `dataFileMax` (`WF`) and no record of version 0 (`NoZero`), and every range below the
  head; `C18_only_current` and `C18_superseded_dropped` are the abstract forms (every log / range / key).
  Tied by engine `seq`: after every pass the implementation's files of the range are scanned by an independent
  scanner: every surviving record must be the current record of its key in the reference map (or a tombstone of a key
  the rebuilt tree no longer knows), no live key twice; the per-pass counters equal the model's.
-/
import GoBeans.Lemmas.GCLog
import GoBeans.Lemmas.GCHistory
import GoBeans.Lemmas.GCAgain
open Store Spec StoreLemmas

/-- Every record the pass leaves in a file of the range is either THE last record of its key in the whole store with the
    tree pointing at it — so no overwritten or deleted version survives — or a delete marker of a key the tree does not
    know, which only a pass that does not start at file 0 retains. -/
theorem C18_range_holds_only_current (hash : Key → Nat) (K : Key → Prop) (cfg : Store.Cfg) (hInj : InjOn hash K)
    {n : Nat} {b : Bucket} {m : KV} (inv : Inv hash K n b m) (lr : LastRec hash K b) (w : WF cfg b) (nz : NoZero b)
    (begin stop : Nat) (hbs : begin ≤ stop) (hs : stop < b.head)
    (i : Nat) (hi1 : begin ≤ i) (hi2 : i ≤ stop) (o : Nat) (r : Rec)
    (hmem : (o, r) ∈ ((gcRun hash cfg b begin stop).1.chunks i).recs) :
    (∃ it, AMap.get (gcRun hash cfg b begin stop).1.tree (hash r.key) = some it ∧ it.pos = { chunk := i, off := o }
        ∧ lastOf r.key (gcRun hash cfg b begin stop).1.log = some (({ chunk := i, off := o } : Pos), r))
    ∨ (AMap.get (gcRun hash cfg b begin stop).1.tree (hash r.key) = none ∧ begin > 0 ∧ r.ver < 0) := by
  have post := gcRun_post_inv hash K cfg hInj inv lr w nz begin stop hbs hs
  generalize gcRun hash cfg b begin stop = res at *
  have hlog : (({ chunk := i, off := o } : Pos), r) ∈ res.1.log := mem_log.2 ⟨by show i ≤ res.1.head; rw [post.head]; omega, hmem⟩
  have hc := post.cur _ hlog hi1 hi2
  cases hg : AMap.get res.1.tree (hash r.key) with
  | none => exact Or.inr ⟨rfl, (curT_none hg).1 hc⟩
  | some it =>
    have hp := (curT_some hg).1 hc
    exact Or.inl ⟨it, rfl, hp, post.vinv.last_of_pos hlog hg hp⟩

/-- no key the tree knows survives twice in the range -/
theorem C18_each_once (hash : Key → Nat) (K : Key → Prop) (cfg : Store.Cfg) (hInj : InjOn hash K)
    {n : Nat} {b : Bucket} {m : KV} (inv : Inv hash K n b m) (lr : LastRec hash K b) (w : WF cfg b) (nz : NoZero b)
    (begin stop : Nat) (hbs : begin ≤ stop) (hs : stop < b.head)
    (i j : Nat) (hi1 : begin ≤ i) (hi2 : i ≤ stop) (hj1 : begin ≤ j) (hj2 : j ≤ stop) (o o' : Nat) (r r' : Rec)
    (h1 : (o, r) ∈ ((gcRun hash cfg b begin stop).1.chunks i).recs)
    (h2 : (o', r') ∈ ((gcRun hash cfg b begin stop).1.chunks j).recs) (hk : r.key = r'.key)
    (hknown : AMap.get (gcRun hash cfg b begin stop).1.tree (hash r.key) ≠ none) :
    i = j ∧ o = o' ∧ r = r' := by
  rcases C18_range_holds_only_current hash K cfg hInj inv lr w nz begin stop hbs hs i hi1 hi2 o r h1 with ⟨it, a1, a2, a3⟩ | ⟨a1, _⟩
  · rcases C18_range_holds_only_current hash K cfg hInj inv lr w nz begin stop hbs hs j hj1 hj2 o' r' h2 with ⟨it', c1, c2, c3⟩ | ⟨c1, _⟩
    · rw [← hk, a3] at c3
      simp only [Option.some.injEq, Prod.mk.injEq, Pos.mk.injEq] at c3
      exact ⟨c3.1.1, c3.1.2, c3.2⟩
    · rw [← hk] at c1; exact absurd c1 hknown
  · exact absurd a1 hknown

/-- the earlier file GC merely appended to keeps its old records (as a prefix) -/
theorem C18_appended_file_prefix (hash : Key → Nat) (K : Key → Prop) (cfg : Store.Cfg) (hInj : InjOn hash K)
    {n : Nat} {b : Bucket} {m : KV} (inv : Inv hash K n b m) (lr : LastRec hash K b) (w : WF cfg b) (nz : NoZero b)
    (begin stop : Nat) (hbs : begin ≤ stop) (hs : stop < b.head) (hd : gcDst cfg b begin < begin) :
    ∃ ext, ((gcRun hash cfg b begin stop).1.chunks (gcDst cfg b begin)).recs = (b.chunks (gcDst cfg b begin)).recs ++ ext :=
  (gcRun_post_inv hash K cfg hInj inv lr w nz begin stop hbs hs).touch.pfx hd

theorem C18_second_pass_releases_nothing (hash : Key → Nat) (K : Key → Prop) (cfg : Store.Cfg) (hInj : InjOn hash K)
    {n : Nat} {b : Bucket} {m : KV} (inv : Inv hash K n b m) (lr : LastRec hash K b) (w : WF cfg b) (nz : NoZero b)
    (begin stop : Nat) (hbs : begin ≤ stop) (hs : stop < b.head) :
    (gcRun hash cfg (gcRun hash cfg b begin stop).1 begin stop).2.numReleased = 0
    ∧ (gcRun hash cfg (gcRun hash cfg b begin stop).1 begin stop).2.sizeReleased = 0 := by
  have post := gcRun_post_inv hash K cfg hInj inv lr w nz begin stop hbs hs
  exact gcRun_releases_nothing hInj cfg post.wf begin stop hbs (by rw [post.head]; exact hs) post.vinv post.cur

/-- Only current records of known keys survive, each once. -/
theorem C18_only_current (hasEntry : Key → Bool) (beginPos : Bool) (full mid : List (Pos × Rec)) (x : Pos × Rec)
    (hx : x ∈ mid.filter (gcKeep hasEntry beginPos full)) (he : hasEntry x.2.key = true) :
    lastOf x.2.key full = some x ∧ ∀ y ∈ mid.filter (gcKeep hasEntry beginPos full), y.2.key = x.2.key → y = x := by
  have hk := (gcKeep_known he).1 (List.mem_filter.mp hx).2
  refine ⟨hk, fun y hy hyk => ?_⟩
  have hky := (gcKeep_known (hyk ▸ he)).1 (List.mem_filter.mp hy).2
  rw [hyk, hk] at hky
  exact (Option.some.inj hky).symm

theorem C18_superseded_dropped (hasEntry : Key → Bool) (beginPos : Bool) (full mid : List (Pos × Rec)) (x : Pos × Rec)
    (he : hasEntry x.2.key = true) (hnot : lastOf x.2.key full ≠ some x) :
    x ∉ mid.filter (gcKeep hasEntry beginPos full) :=
  fun hx => hnot (C18_only_current hasEntry beginPos full mid x hx he).1

/-- the regenerated statistics kernel `GCFileState.addRecord`: the count of released records moves exactly for records
    that are not kept -/
theorem C18_stats (nb nr nrd sb sr sd sbr : Int64) (size : UInt32) (isNewest isDeleted : Bool) :
    let r := Gen.gcAddRecord nb nr nrd sb sr sd sbr size isNewest isDeleted 0
    r.1 = nb + 1 ∧ r.2.1 = (if isNewest then nr else nr + 1)
    ∧ r.2.2.2.1 = sb + (size + 0).toUInt64.toInt64 := by
  unfold Gen.gcAddRecord
  cases isNewest <;> cases isDeleted <;> simp [Id.run] <;> exact ⟨rfl, rfl, rfl⟩
