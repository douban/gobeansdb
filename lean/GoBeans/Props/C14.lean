/-
  C14 — hint files: faithful round-trip, total lookup, correct merge.

  Model: GoBeans/Model/Hint.lean — byte-level writer (`writeFile`: 16-byte header from the REGENERATED
  `Gen.hintMetaDumps`, 23-byte item heads + keys, sparse index with the code's append rule), sequential reader,
  `loadIndex`, `lookup` (binary search in the sparse index + bounded forward scan), list-level `merge`.
  Tied byte-for-byte to the real hintFileWriter / hintFileReader / loadHintIndex / hintFileIndex.get / merge by
  engine `hint` (files of 0..5000 items, arbitrary hashes incl. 0 and 2^64-1, same-hash groups, index intervals
  1..4096, present / absent / equal-hash-different-key lookups, 1..8-way merges with duplicates).

  Proved here (no bound on the number of items, key lengths ≤ 255, any hashes):
   * an item survives encode → decode unchanged, whatever follows it in the file;
   * reading a region of encoded items sequentially returns exactly those items in order;
   * the lookup scan of a hash-sorted region is total (`C14_lookup_total`);
   * MERGE (GoBeans/Model/HintMerge.lean — the k-way loop of store/hintmerge.go step by step: open every source, the
     priority queue with Go's container/heap Init/Pop/Push transcribed and PROVED to be a priority queue for the
     code's `Less`, the writer's last-item / same-key / same-hash bookkeeping, the final flush; tied to the real
     `merge` by engine `hint`, incl. inputs with repeated chunk ids): for all sources that are strictly sorted by
     (hash, key) and hold an item (`srcsOK`; that they hold an item is asked for and used by no proof,
     `HintMergeLemmas.kway_spec` asks for sortedness alone: sources WITHOUT items are skipped,
     `C14_merge_never_panics`) the merge ends normally (`C14_merge_total`); that its output is
     strictly sorted is `HintMergeLemmas.Merged.sorted`, not restated here; without position ties the output holds
     exactly the entries of greatest position (`C14_merge_exact`).
  Partial: the theorems about reading speak of a region `encAll items` of a file; that `writeFile` lays the items out
  as such a region behind the header, its offset and index bookkeeping, the header round trip and the choice of the
  start entry in the sparse index are validated by the correspondence, not proved.  A merge cut short (GC abort,
  read error) still flushes its collision reports, possibly with a position that is not the greatest
  (`HintMergeLemmas.abort_stale` below; notes/REPORT-hintmerge.md) — outside C14's quantifier (completed merges).
-/
import GoBeans.Lemmas.HintFile
import GoBeans.Lemmas.HintMerge
import GoBeans.Lemmas.HintMergeHeap
open Hint HintLemmas

theorem C14_item_roundtrip (it : Item) (hw : WF it) (rest : Bytes) :
    decItem (encItem it ++ rest) = some (it, 23 + it.key.length) :=
  decItem_encItem it hw rest

theorem C14_read_region (items : List Item) (hw : ∀ it ∈ items, WF it) (pre post : Bytes) (cnt fuel : Nat)
    (hf : items.length < fuel) :
    readFrom (pre ++ encAll items ++ post) (cnt + sizeAll items) fuel pre.length cnt = .ok items :=
  readFrom_encAll _ items hw post pre.length cnt fuel (by rw [List.append_assoc, List.drop_left' rfl]) hf

/-- scanning a hash-sorted region for a (hash, key) pair returns the item if and only if it is present, and never an
    error for an absent pair, provided the reader's offset counter is in step with the file position (that is the
    repaired code: /repo commit 7dc2b09; before it the counter stayed at 16 after the seek and an absent key above
    every stored hash ended in an EOF error: known_findings.txt, C14/lookup-error-for-absent-key) -/
theorem C14_lookup_total (kh : Nat) (key : Bytes) (items : List Item) (hw : ∀ it ∈ items, WF it) (hs : SortedByHash items)
    (pre post : Bytes) (cnt fuel : Nat) (hf : items.length < fuel) :
    lookupFrom (pre ++ encAll items ++ post) (cnt + sizeAll items) kh key fuel pre.length cnt
      = .ok (items.find? (fun it => it.khash == kh && it.key == key)) :=
  lookupFrom_of_readFrom kh key (C14_read_region items hw pre post cnt fuel hf) hs

theorem C14_merge_total (srcs : List (Nat × List Item)) (hok : HintMerge.srcsOK srcs = true) :
    ∃ out coll, HintMerge.kway HintMerge.goHeap srcs = .ok out coll :=
  let ⟨out, coll, h, _⟩ := HintMergeLemmas.kway_spec HintMergeLemmas.goLaws srcs (HintMergeLemmas.srcsOK_sorted hok)
  ⟨out, coll, h⟩

/-- hint files without items are simply skipped, and the model of the merge has no way to the outcome `panic` (before
    /repo "fix: a hint file without items made the merge panic" the code panicked iff some source was empty:
    known_findings.txt C14/panic-empty-source; that the code now does not is the correspondence's part) -/
theorem C14_merge_never_panics (srcs : List (Nat × List Item)) :
    HintMerge.kway HintMerge.goHeap srcs ≠ .panic ∧
    HintMerge.kway HintMerge.goHeap srcs = HintMerge.kway HintMerge.goHeap (HintMergeLemmas.nonEmpty srcs) :=
  ⟨HintMergeLemmas.merge_never_panics HintMerge.goHeap srcs, HintMergeLemmas.kway_nonEmpty HintMerge.goHeap srcs⟩

/-- for each key: one entry, taken from a source, with the greatest position (`posKey`, the code's `CmpKey`: the order
    of (file, offset) for offsets below 2^32, `HintMergeLemmas.posKey_lt_iff`) -/
theorem C14_merge_greatest_position (srcs : List (Nat × List Item)) (hok : HintMerge.srcsOK srcs = true)
    {out coll : List Item} (h : HintMerge.kway HintMerge.goHeap srcs = .ok out coll) :
    (∀ x ∈ out, x ∈ HintMerge.allItems srcs)
    ∧ (∀ x ∈ out, ∀ x' ∈ out, HintMergeLemmas.SameKey x x' → x = x')
    ∧ (∀ y ∈ HintMerge.allItems srcs, ∃ x ∈ out, HintMergeLemmas.SameKey x y ∧ posKey y ≤ posKey x) :=
  have m := HintMergeLemmas.kway_merged HintMergeLemmas.goLaws (HintMergeLemmas.srcsOK_sorted hok) h
  ⟨m.mem, m.unique, m.greatest⟩

theorem C14_merge_exact (srcs : List (Nat × List Item)) (hok : HintMerge.srcsOK srcs = true)
    (hnt : HintMerge.noTies (HintMerge.allItems srcs) = true) {out coll : List Item}
    (h : HintMerge.kway HintMerge.goHeap srcs = .ok out coll) (x : Item) :
    x ∈ out ↔ x ∈ HintMerge.allItems srcs ∧ ∀ y ∈ HintMerge.allItems srcs, HintMergeLemmas.SameKey x y → posKey y ≤ posKey x :=
  (HintMergeLemmas.kway_merged HintMergeLemmas.goLaws (HintMergeLemmas.srcsOK_sorted hok) h).exact hnt x

/-- every member of every group of different keys sharing a hash is reported; nothing of a singleton group is -/
theorem C14_merge_reports_collisions (srcs : List (Nat × List Item)) (hok : HintMerge.srcsOK srcs = true)
    {out coll : List Item} (h : HintMerge.kway HintMerge.goHeap srcs = .ok out coll) (x : Item) :
    x ∈ coll ↔ x ∈ out ∧ ∃ y ∈ HintMerge.allItems srcs, y.khash = x.khash ∧ y.key ≠ x.key :=
  (HintMergeLemmas.kway_merged HintMergeLemmas.goLaws (HintMergeLemmas.srcsOK_sorted hok) h).coll_iff x

/-- the code computes the functional specification when the sources have different chunk ids, which excludes ties
    (`hintMgr.Merge` makes one reader per hint file: two splits of one chunk come with the same id, and for them only
    `HintMergeLemmas.merge_eq_spec`, which asks `noTies`, applies) -/
theorem C14_merge_is_spec (srcs : List (Nat × List Item)) (hok : HintMerge.srcsOK srcs = true)
    (hd : HintMerge.distinctChunks srcs = true) :
    HintMerge.kway HintMerge.goHeap srcs = .ok (Hint.merge srcs).1 (Hint.merge srcs).2 :=
  HintMergeLemmas.merge_eq_spec_distinct HintMergeLemmas.goLaws srcs hok hd

/-! Non-vacuity, and the lookup that failed before /repo commit 7dc2b09: three items, an index entry per item (interval 1);
    the absent hash 2^64-1 is "not found" with the counter in step (true) and an error with the historical
    counter (false). -/
def exItems : List Item := [
  { khash := 10, chunk := 0, off := 0, ver := 1, vhash := 7, key := [97, 97] },
  { khash := 20, chunk := 0, off := 256, ver := 1, vhash := 8, key := [98, 98] },
  { khash := 30, chunk := 0, off := 512, ver := -2, vhash := 9, key := [99, 99] }]
def exFile : Bytes := writeFile 1 exItems 4096
example : readAll exFile = .ok (exItems, { indexOffset := 91, numKey := 3, datasize := 4096 }) := by decide +kernel
example : loadIndex exFile = .ok [(10, 16), (20, 41), (30, 66)] := by decide +kernel
example : lookup true exFile [(10, 16), (20, 41), (30, 66)] 18446744073709551615 [122] = .ok none := by decide +kernel
example : lookup false exFile [(10, 16), (20, 41), (30, 66)] 18446744073709551615 [122] = .error .shortItem := by decide +kernel
example : lookup true exFile [(10, 16), (20, 41), (30, 66)] 30 [99, 99] = .ok (exItems.getLast? ) := by decide +kernel
example : ∀ it ∈ exItems, WF it := by
  intro it h; simp [exItems] at h
  rcases h with rfl | rfl | rfl <;> exact ⟨by decide, by decide, by decide, by decide, by decide, by decide⟩

namespace HintMergeLemmas
open HintMerge

def exItem (kh k off : Nat) (ver : Int) : Item :=
  { khash := kh, chunk := 0, off := off, ver := ver, vhash := 0, key := [k.toUInt8] }

/-- three sources (chunk ids 3, 1, 2): key (1,[2]) and (5,[1]) and (9,[9]) occur in several sources; hashes 1 and 5
    are shared by two keys each, hashes 3 and 9 by one -/
def exSrcs : List (Nat × List Item) :=
  [(3, [exItem 1 1 0 1, exItem 1 2 256 1, exItem 5 1 512 1, exItem 9 9 768 1]),
   (1, [exItem 1 2 0 2, exItem 3 1 256 2, exItem 5 1 512 2]),
   (2, [exItem 5 2 0 3, exItem 9 9 256 3])]

example : srcsOK exSrcs = true := by decide +kernel
example : noTies (allItems exSrcs) = true := by decide +kernel
example : distinctChunks exSrcs = true := by decide +kernel
example : kway goHeap exSrcs = .ok
    [{ exItem 1 1 0 1 with chunk := 3 }, { exItem 1 2 256 1 with chunk := 3 }, { exItem 3 1 256 2 with chunk := 1 },
     { exItem 5 1 512 1 with chunk := 3 }, { exItem 5 2 0 3 with chunk := 2 }, { exItem 9 9 768 1 with chunk := 3 }]
    [{ exItem 1 1 0 1 with chunk := 3 }, { exItem 1 2 256 1 with chunk := 3 },
     { exItem 5 1 512 1 with chunk := 3 }, { exItem 5 2 0 3 with chunk := 2 }] := by decide +kernel
example : kway listHeap exSrcs = kway goHeap exSrcs := by decide +kernel
example : kway goHeap exSrcs = .ok (Hint.merge exSrcs).1 (Hint.merge exSrcs).2 := by decide +kernel
/-- a source that is not sorted is outside the theorems (and the output is then not sorted either) -/
example : srcsOK [(0, [exItem 2 1 0 1, exItem 1 1 0 1])] = false := by decide +kernel
/-- a source without items is skipped, wherever it stands (it made the historical code panic) -/
example : kway goHeap [(0, [exItem 1 1 0 1]), (1, [])] = .ok [exItem 1 1 0 1] [] := by decide +kernel
example : kway goHeap [] = .ok [] [] := by decide +kernel

/-- CORNER (ties): three sources with the SAME chunk id hold the same key at the same offset with different
    versions.  Every queue returns an item of greatest position (`Merged.greatest`), but WHICH one depends on the
    queue: the list queue keeps the last source's, Go's container/heap the second one's (this is what the real
    code does, checked against it), and the functional `Hint.merge` the first one's. -/
def tieSrcs : List (Nat × List Item) := [(0, [exItem 1 1 0 1]), (0, [exItem 1 1 0 2]), (0, [exItem 1 1 0 3])]
example : srcsOK tieSrcs = true ∧ noTies (allItems tieSrcs) = false := by decide +kernel
example : kway listHeap tieSrcs = .ok [exItem 1 1 0 3] [] := by decide +kernel
example : kway goHeap tieSrcs = .ok [exItem 1 1 0 2] [] := by decide +kernel
example : Hint.merge tieSrcs = ([exItem 1 1 0 1], []) := by decide +kernel

/-- CORNER (cut-short merge): chunk 1 holds keys [1] and [2] under hash 7, chunk 2 holds key [2] again (newer).
    Cut after two pops (gc abort, or a read error), the final `flush` reports key [2] with its OLD position
    (chunk 1); the complete merge reports the new one (chunk 2). -/
def staleSrcs : List (Nat × List Item) := [(1, [exItem 7 1 0 1, exItem 7 2 256 1]), (2, [exItem 7 2 0 2])]
theorem abort_stale :
    kwayAbort goHeap 2 staleSrcs = .aborted [{ exItem 7 1 0 1 with chunk := 1 }, { exItem 7 2 256 1 with chunk := 1 }] ∧
    kway goHeap staleSrcs = .ok [{ exItem 7 1 0 1 with chunk := 1 }, { exItem 7 2 0 2 with chunk := 2 }]
                                [{ exItem 7 1 0 1 with chunk := 1 }, { exItem 7 2 0 2 with chunk := 2 }] := by decide +kernel

end HintMergeLemmas
