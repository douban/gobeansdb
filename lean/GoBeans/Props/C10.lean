/-
  C10 — server-side compression is invisible to clients.

  Store level: in the bucket model the compression outcome appears only as the on-disk size of a record (`size`, an
  arbitrary positive input of every write), and every reply equals the reply of the reference map, which has no notion
  of size at all (C01_refines).
  Decision rule (regenerated constants): engine `seq` checks on every write that the record occupies either the plain
  padded size or — only when compression was allowed (record > 256 bytes, neither the client-compressed flag 0x10 nor the
  reserved 0x10000 set) — a smaller multiple of 256.
  Codec: `GoBeans/Model/Qlz.lean` is the Go port of QuickLZ exactly as written (headerLen / SizeDecompressed / SizeCompressed,
  Compress at levels 1 and 3, Decompress with every slice index an explicit bounds check (= a Go panic), DecompressSafe).
  It is tied to the real code by engine `qlz`: the model's compressor is byte-identical to the Go Compress and its decoder
  agrees with the real Decompress / DecompressSafe on result class, length and digest, also on arbitrary and mutated
  streams.  The stored ("gave up") form is one of the outcomes the round-trip theorems cover (`QlzRT.stored_roundtrip`,
  either level).
  Engine `qlz` also runs the C implementation (in a child process): round trips C→C, C→Go, Go→C, Go→Go exact on every
  generated value (classes incl. boundary-distance markers); arbitrary bytes into CDecompressSafe: KNOWN FINDINGS
  (the C decoder is built without QLZ_MEMORY_SAFE: crashes / reads past its input).
  Partial: the C code is compared, not modelled.
-/
import GoBeans.Lemmas.Store
import GoBeans.Lemmas.QlzEnc3
import GoBeans.Lemmas.Qlz1Enc
import GoBeans.Lemmas.QlzExamples  -- nothing below uses it: imported so that `./check C10` builds the test vectors
open Store Spec StoreLemmas

def eraseSize : Op → Op
  | .set k body flag rev ts _ => .set k body flag rev ts 256
  | .delete k _ w => .delete k 256 w
  | .incr k d _ w => .incr k d 256 w
  | op => op

theorem cmdOf_eraseSize (op : Op) : Store.cmdOf (eraseSize op) = Store.cmdOf op := by
  cases op <;> rfl

theorem opOK_eraseSize (K : Key → Prop) (R : Nat) (op : Op) (h : OpOK K R op) : OpOK K R (eraseSize op) := by
  cases op <;> simp_all [OpOK, eraseSize]

/-- Whatever the server decided to compress (any sizes), the client sees the same replies. -/
theorem C10_invisible (hash : Key → Nat) (K : Key → Prop) (hInj : InjOn hash K) (cfg : Store.Cfg) (R : Nat)
    (ops : List Op) (hops : ∀ op ∈ ops, OpOK K R op) (hbound : R + ops.length < 2147483647) :
    (Store.run hash cfg {} ops).2 = (Store.run hash cfg {} (ops.map eraseSize)).2 := by
  have h1 := (run_refines hash K cfg hInj R ops R {} [] (inv_mono hash K (Nat.zero_le R) (inv_init hash K)) (Nat.le_refl R) hbound hops).1
  have hops' : ∀ op ∈ ops.map eraseSize, OpOK K R op := by
    intro op hop
    rw [List.mem_map] at hop
    obtain ⟨o, ho, rfl⟩ := hop
    exact opOK_eraseSize K R o (hops o ho)
  have h2 := (run_refines hash K cfg hInj R (ops.map eraseSize) R {} [] (inv_mono hash K (Nat.zero_le R) (inv_init hash K))
    (Nat.le_refl R) (by simpa using hbound) hops').1
  have hc : (ops.map eraseSize).filterMap Store.cmdOf = ops.filterMap Store.cmdOf := by
    rw [List.filterMap_map]
    congr 1
    funext op
    exact cmdOf_eraseSize op
  rw [h1, h2, hc]

/-- The value hash the tree (and hence hint files and listings) carries for a live key is the hash of the bytes the
    client sent — it does not depend on the stored (possibly compressed) size. -/
theorem C10_vhash_uncompressed (hash : Key → Nat) (cfg : Store.Cfg) (b : Bucket) (r : Rec) (hv : r.ver > 0) :
    (AMap.get (b.put hash cfg r).1.tree (hash r.key)).map (·.vhash) = some (Store.vhashOf r.body) := by
  simp [Bucket.put, hv]

/-- regenerated thresholds of the decision rule (store/item.go) -/
example : Gen.TRY_COMPRESS_SIZE = 10240 ∧ Gen.COMPRESS_RATIO_LIMIT_num = 7 ∧ Gen.COMPRESS_RATIO_LIMIT_den = 10
    ∧ Gen.PADDING = 256 ∧ Gen.FLAG_COMPRESS = 0x10000 ∧ Gen.FLAG_CLIENT_COMPRESS = 0x10 := by decide

/-- level 3 (the level of the C build, whose output the Go decoder must read): `Compress(x, 3)` never panics and
    `Decompress` gives x back, for every non-empty input below 4 GiB − 400 (`Compress` returns nil for the empty one) -/
theorem C10_go_roundtrip_level3 (x : Qlz.Buf) (hx : x.size ≠ 0) (hsz : x.size + 400 < 2 ^ 32) :
    ∃ c, Qlz.compress x 3 = some c ∧ Qlz.decompress c = .ok x :=
  let ⟨c, hc, hd, _⟩ := QlzRT.compress_total_roundtrip (QlzRT.level3 x) hx hsz
  ⟨c, hc, hd⟩

/-- level 1 (Go only, unused by the server; hash-table tokens: the decoder rebuilds the compressor's table while it
    decodes): `Compress(x, 1)` never panics and both decoders give x back, for every non-empty input below 4 GiB − 400 -/
theorem C10_go_roundtrip_level1 (x : Qlz.Buf) (hx : x.size ≠ 0) (hsz : x.size + 400 < 2 ^ 32) :
    ∃ c, Qlz.compress x 1 = some c ∧ Qlz.decompress c = .ok x ∧ Qlz.decompressSafe c = .ok x :=
  QlzRT.compress_total_roundtrip (QlzRT.level1 x) hx hsz

/-- the header a level-1 stream carries states its own length and the length of the original -/
theorem C10_go_header_level1 {x c : Qlz.Buf} (hx : x.size ≠ 0) (hsz : x.size + 400 < 2 ^ 32) (h : Qlz.compress x 1 = some c) :
    Qlz.sizeCompressed c = some c.size ∧ Qlz.sizeDecompressed c = some x.size :=
  QlzRT.compress_header (QlzRT.level1 x) hx hsz h

/-- level 3: whatever `Compress(x, 3)` returns, `Decompress` and the safe entry point `DecompressSafe` give the original back -/
theorem C10_go_roundtrip_safe_entry {x c : Qlz.Buf} (hx : x.size ≠ 0) (hsz : x.size + 400 < 2 ^ 32)
    (h : Qlz.compress x 3 = some c) : Qlz.decompress c = .ok x ∧ Qlz.decompressSafe c = .ok x :=
  QlzRT.compress_roundtrip (QlzRT.level3 x) hx hsz h

/-- arbitrary bytes: the main loop of `Decompress` terminates, after at most len − header + 1 passes
    (`QlzLemmas.decompressFuel_stable`); `recover` would not catch a hang -/
theorem C10_go_decompress_terminates (s : Qlz.Buf) : Qlz.decompress s ≠ .fuel :=
  QlzLemmas.decompress_terminates s

/-- arbitrary bytes into the safe entry point: an error, or exactly the announced number of bytes -/
theorem C10_go_decompress_safe (s : Qlz.Buf) :
    (∃ out, Qlz.decompressSafe s = .ok out ∧ Qlz.sizeCompressed s = some s.size ∧ Qlz.sizeDecompressed s = some out.size)
    ∨ Qlz.decompressSafe s = .error .badSizeC ∨ Qlz.decompressSafe s = .error .recovered :=
  QlzLemmas.decompressSafe_spec s

/-- what `Decompress` allocates before any check: the announced size (< 2^32) plus 36 864 bytes of tables; attained by the
    9-byte input of known finding C10/nine-bytes-allocate-gigabytes (`QlzLemmas.hostile9_alloc`) -/
theorem C10_alloc_bound {s : Qlz.Buf} {a : Nat} (h : Qlz.allocBeforeChecks s = some a) : a ≤ 4294967295 + 36864 :=
  QlzLemmas.allocBeforeChecks_le h
