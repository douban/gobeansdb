/-
  C08 — Merkle tree listing is an exact, history-independent function of content.

  Specification (GoBeans/Model/Tree.lean): `nodeSum` / `listBucket` / `listUpper` recompute every per-prefix hash,
  count and item listing from the CONTENT — the set of (key hash, version, value hash) entries — alone.
  Engine `seq` asks the real server `get @<prefix>` for prefixes of every length 0..16 of present keys and of
  neighbours, after arbitrary histories with overwrites, deletes, restarts (tree dump loaded or rebuilt from hints)
  and GC, and compares (a) with the listing recomputed from the model tree's content (kind=model) and (b) with the
  listing recomputed from the reference map alone (kind=oracle: node lines exact; item lines: live entries exact,
  tombstones optional, nothing else).

  Proved here (every content, prefix, depth; no bound on the number of keys):
   * history independence: `nodeSum` (every hash and count) is invariant under any reordering of the content, hence
     under any history that produced the same set of entries (`C08_history_independent`); the item listings of
     `listBucket` follow the order of the content and are not covered;
   * counts equal the number of live keys under the prefix at every level (`C08_count`);
   * the incremental bookkeeping of `setToLeaf` / `remvoeFromLeaf` (count ±1, hash += Δvhash·lo16(khash>>32) in
     uint16 arithmetic) keeps the leaf summary equal to the sum over its live items, after ANY sequence of
     set / remove on the leaf (`C08_leaf_summary`);
   * section `Impl`, the IMPLEMENTATION-LEVEL TREE (GoBeans/Model/HTreeImpl.lean — store/htree.go: the `levels` array
     with `Node{count,hash,isHashUpdated}`, the walk of set/remove/movePos that clears the flag of the ancestors, the
     lazy `updateNodes` recomputation from the 16 children, `ListDir`; tied to the real HTree by engine `htree`: every
     call, the reply and EVERY node of every level after every call): the theorems hold for every sequence of set /
     remove / movePos / Update / ListDir on a tree of height ≥ 2, the keys that are set belonging to the bucket and the
     listing paths well formed (`OpOk`) — so for every pattern of stale flags.
  Partial: the byte-level leaf (truncated hashes, C-accelerated search) is validated by the correspondence, not proved.
  Nothing is proved about `listUpper` (prefixes shorter than the bucket depth); engine `seq` compares it with the server.
-/
import GoBeans.Lemmas.Tree
import GoBeans.Lemmas.HTreeImpl
open Tree TreeLemmas

theorem C08_leaf_summary (ops : List LeafOp) :
    let lf := ops.foldl applyOp {}
    (lf.count, lf.hash) = leafSum lf.items := by
  intro lf
  exact (leaf_reachable_inv ops).summary

theorem C08_count (c : Content) (below n p : Nat) (h : n + below ≤ 16) :
    (nodeSum c n p below).1 = ((under c n p).filter (fun e => decide (e.ver > 0))).length :=
  node_count c below n p h

theorem C08_history_independent {a b : Content} (h : a.Perm b) (below n p : Nat) :
    nodeSum a n p below = nodeSum b n p below :=
  nodeSum_perm h below n p

/-- tombstones never count and never contribute to a hash -/
theorem C08_tombstones_invisible (c : Content) (t : Ent) (ht : ¬ t.ver > 0) : leafSum (t :: c) = leafSum c := by
  rw [leafSum_eq, leafSum_eq, liveCount_cons, hashSum_cons, if_neg ht, if_neg ht, Nat.zero_add, Nat.zero_add]

section Impl
open HTreeImpl HTreeImplLemmas

/-- any sequence of calls, any stale pattern: the next call does not panic and its reply (the summary `Update` returns,
    every listing) is the specification of the content at that moment -/
theorem C08_lazy_never_stale (depth bid height : Nat) (t0 t : HTree) (h0 : newHTree depth bid height = some t0)
    (hh : 2 ≤ height) (hr : Reach t0 t) (op : Op) (ok : OpOk t op) :
    ∃ t' out, step t op = some (t', out) ∧ out = specOut t0 (content t) op ∧ Reach t0 t' ∧
      (isReader op = true → content t' = content t) :=
  HTreeImplLemmas.C08_lazy_never_stale depth bid height t0 t h0 hh hr op ok

/-- what a reader obtains for ANY node at ANY level is `nodeSum` of the current content -/
theorem C08_every_node_exact (depth bid height : Nat) (t0 t : HTree) (h0 : newHTree depth bid height = some t0)
    (hh : 2 ≤ height) (hr : Reach t0 t) (level offset : Nat) (hl : level < height) (ho : offset < 16 ^ level) :
    ((updateAt t level offset).2.count, (updateAt t level offset).2.hash)
      = nodeSum (content t) (depth + level) (bid * 16 ^ level + offset) (height - 1 - level) ∧
    (updateAt t level offset).2 = (updateAt t level offset).1.node level offset ∧
    content (updateAt t level offset).1 = content t :=
  HTreeImplLemmas.C08_every_node depth bid height t0 t h0 hh hr level offset hl ho

theorem C08_flagged_node_is_exact (depth bid height : Nat) (t0 t : HTree) (h0 : newHTree depth bid height = some t0)
    (hh : 2 ≤ height) (hr : Reach t0 t) (level offset : Nat) (hl : level < height) (ho : offset < 16 ^ level)
    (hf : (t.node level offset).upd = true) :
    ((t.node level offset).count, (t.node level offset).hash)
      = nodeSum (content t) (depth + level) (bid * 16 ^ level + offset) (height - 1 - level) := by
  obtain ⟨inv, _, rfl, rfl, rfl⟩ := reach_new_inv depth bid height t0 t h0 hh hr
  exact flagged_exact t inv level offset ho hf

/-- the output of the call at ANY position of ANY sequence is the specification of the content at that moment -/
theorem C08_run_output_exact (t : HTree) (pre post : List Op) (op : Op) (inv : Inv t) (ok : OpsOk t (pre ++ op :: post)) :
    ∃ t1 o1 t2 o2 out, run t pre = some (t1, o1) ∧ run t (pre ++ op :: post) = some (t2, o1 ++ out :: o2) ∧
      out = specOut t (content t1) op := by
  obtain ⟨t1, o1, h1, inv1, p1, _⟩ := run_total t pre inv (fun o ho => ok o (List.mem_append_left _ ho))
  obtain ⟨ta, out, s1, r⟩ := step_exact t1 op inv1 (opOk_params p1 op (ok op (by simp)))
  obtain ⟨t2, o2, h2, _⟩ := run_total ta post r.inv (fun o ho => opOk_params (p1.trans r.params) o (ok o (by simp [ho])))
  exact ⟨t1, o1, t2, o2, out, h1, run_append_some h1 (by simp only [run, s1, h2]), by rw [r.out_eq, specOut_params p1]⟩

/-- after ANY admissible history from an empty tree, every node summary is `nodeSum` of the dictionary the history
    builds (set = upsert, remove = delete).  Admissible is here `OpOk'`, which asks of removed keys too that they belong
    to the bucket; `HTreeImplLemmas.history_to_summary` has the same conclusion under `OpOk` alone. -/
theorem C08_history_to_summary (depth bid height : Nat) (t0 t : HTree) (ops : List Op) (outs : List Out)
    (h0 : newHTree depth bid height = some t0) (hh : 2 ≤ height) (ok : ∀ op ∈ ops, OpOk' t0 op)
    (hr : run t0 ops = some (t, outs)) (level offset : Nat) (hl : level < height) (ho : offset < 16 ^ level) :
    ((updateAt t level offset).2.count, (updateAt t level offset).2.hash)
      = nodeSum (absRun [] ops) (depth + level) (bid * 16 ^ level + offset) (height - 1 - level) :=
  HTreeImplLemmas.C08_history_to_summary depth bid height t0 t ops outs h0 hh ok hr level offset hl ho

/-- what `stats curr_items` reads — the root count WITHOUT an update — is the live count at the last root refresh
    (an observation about the code, not part of C08) -/
theorem C08_root_count_unrefreshed (t t' : HTree) (ops : List Op) (outs : List Out) (inv : Inv t) (ok : OpsOk t ops)
    (hr : run t ops = some (t', outs)) : rootCountNoUpdate t' = seenAfter t (rootCountNoUpdate t) ops :=
  HTreeImplLemmas.rootCount_run t t' ops outs inv ok hr

end Impl

/-! non-vacuity: overwrite, delete-then-reset and reordering give the same summary -/
def e1 : Ent := { khash := 0x1234567890abcdef, ver := 2, vhash := 777 }
def e2 : Ent := { khash := 0x1299567890abcdef, ver := 1, vhash := 5 }
example : (([LeafOp.set { e1 with ver := 1, vhash := 3 }, .set e2, .set e1].foldl applyOp {}).count,
           ([LeafOp.set { e1 with ver := 1, vhash := 3 }, .set e2, .set e1].foldl applyOp {}).hash)
        = (([LeafOp.set e2, .set e1, .remove e1.khash, .set e1].foldl applyOp {}).count,
           ([LeafOp.set e2, .set e1, .remove e1.khash, .set e1].foldl applyOp {}).hash) := by decide +kernel
example : nodeSum [e1, e2] 0 0 2 = nodeSum [e2, e1] 0 0 2 := C08_history_independent (List.Perm.swap _ _ _) 2 0 0
