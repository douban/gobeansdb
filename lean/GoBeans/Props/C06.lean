/-
  C06 — process kill in normal operation never yields wrong or pre-durable data.

  Model: GoBeans/Model/Crash.lean — a kill keeps of every data file the bytes already written to it (`cut i` bytes of
  file `i`; the last write may be cut anywhere), loses the write buffers, and leaves arbitrary index files; the next
  start (`recover`) opens a new head file and serves the replay of the surviving records in (file, offset) order.
  Tied to the real store by engine `crash` (mix c06): before every file-system mutation of a history (data writes
  behind the bufio layer with buffer sizes 256..4096, create, rename of hint and tree files, removes, small-file
  rewrites; forced flushes, hint dumps while records are still buffered, rotations, clean restarts, the orderly
  shutdown) the bucket directory is copied, torn variants of data writes are added (256-byte boundaries and
  unaligned cuts), every copy is opened by a new HStore and every key read: compared with `recover` (kind=model)
  and with the set of values the property allows (kind=oracle: written for that key, not older than the last
  write that had completely reached its data file; a refusal to start only if a data file ends in a partial record).

  Proved here, for every history of set/delete/incr/get/flush/restart over keys with distinct hashes, every
  crash state of the reached bucket (any `cut`, aligned or not) and every key (`C06_recovery_serves_last_durable`): a get
  after recovery returns exactly the live part of the key's LAST DURABLE record (the last record of the key, in write
  order, that lies completely inside the surviving bytes of its file: `C06_last_durable`, `C06_durable_is_written`): a
  value really written for that key, never torn, never another key's, never older than a durable one.
  THROUGH THE INDEX FILES (GoBeans/Model/CrashHint.lean, on top of Model/HintIndex.lean; section
  `ThroughIndexFiles`): memory and disk of a bucket — per data file its records, the bytes on disk, the
  hint buffers and the `*.idx.s` files already renamed into place (possibly describing records that never reached the
  data file), the tree dump on disk, the close phase — and the operations that produce these states; `recover` is
  `Bucket.open` built from the hint-index definitions, with the "hint beyond data" drop of fe79633 as a switch.
  Partial: a kill DURING a start is not a step of the model; check_vhash off; through the index files GC, merged hint and
  collision table are out of scope (C07, C13).
  Colliding key hashes: C13.
-/
import GoBeans.Lemmas.Crash
import GoBeans.Lemmas.CrashHint
import GoBeans.Lemmas.GCHistory
open Store Spec StoreLemmas

theorem C06_reachable_good (hash : Key → Nat) (K : Key → Prop) (cfg : Store.Cfg) (R : Nat) (ops : List Op)
    (hops : ∀ op ∈ ops, OpOK2 K R op) : Good K (Store.run hash cfg {} ops).1 :=
  have h := run_lay_init hash K cfg R ops hops
  h.1.good h.2

theorem C06_recovery_serves_last_durable (hash : Key → Nat) (K : Key → Prop) (hInj : InjOn hash K) (cfg : Store.Cfg)
    (R : Nat) (ops : List Op) (hops : ∀ op ∈ ops, OpOK2 K R op)
    (cut : Nat → Nat) (present : Nat → Bool) (k : Key) (hk : K k) :
    let b := (Store.run hash cfg {} ops).1
    (Store.step hash cfg (b.recover hash cfg cut present) (.get k)).2.1 =
      (match lastOf k (b.log.filter (durableP cut)) with
       | some (_, r) => if r.ver > 0 then Reply.value r.flag r.body else Reply.miss
       | none => Reply.miss) := by
  intro b
  have h := run_lay_init hash K cfg R ops hops
  exact h.1.recover_get hash K hInj cfg h.2 cut present k hk

theorem C06_last_durable (k : Key) (log : List (Pos × Rec)) (cut : Nat → Nat) :
    lastOf k (log.filter (durableP cut)) = (log.filter (fun y => durableP cut y && decide (y.2.key = k))).getLast? := by
  unfold lastOf
  rw [List.filter_filter]
  congr 2
  funext y
  exact Bool.and_comm _ _

theorem C06_durable_is_written (k : Key) (log : List (Pos × Rec)) (cut : Nat → Nat) (x : Pos × Rec)
    (h : lastOf k (log.filter (durableP cut)) = some x) : x ∈ log ∧ x.2.key = k ∧ durableP cut x = true := by
  obtain ⟨hm, hk⟩ := lastOf_mem h
  have := List.mem_filter.mp hm
  exact ⟨this.1, hk, this.2⟩

/-! Non-vacuity: two writes of one key and one of another in file 0; the file cut after the first record, inside
    the second (torn), and after the second. -/
def exHash (k : Key) : Nat := k.length
def exOps : List Op := [.set [1] [10] 0 0 7 256, .set [1] [11] 0 0 8 256, .set [2, 2] [12] 0 0 9 256]
def exB : Bucket := (Store.run exHash {} {} exOps).1
example : (Store.step exHash {} (exB.recover exHash {} (fun _ => 256) (fun i => i == 0)) (.get [1])).2.1 = .value 0 [10] := by decide +kernel
example : (Store.step exHash {} (exB.recover exHash {} (fun _ => 300) (fun i => i == 0)) (.get [1])).2.1 = .value 0 [10] := by decide +kernel
example : (Store.step exHash {} (exB.recover exHash {} (fun _ => 512) (fun i => i == 0)) (.get [1])).2.1 = .value 0 [11] := by decide +kernel
example : (Store.step exHash {} (exB.recover exHash {} (fun _ => 512) (fun i => i == 0)) (.get [2, 2])).2.1 = .miss := by decide +kernel
example : exB.tornAt (fun _ => 300) = true ∧ exB.tornAt (fun _ => 512) = false := by decide +kernel

section ThroughIndexFiles
open HintIndex CrashHint CrashHintLemmas

/-- kill at ANY instant of ANY history (data flush, split dumps and tree dump in any order the code allows): without a
    torn tail the start comes up and serves, for every key, its last durable record (`live`, Lemmas/HintIndex: the
    entry, or none if its version is negative — a tombstone entry that a tree dump has kept); when no tree dump is
    used the entry is exactly `itemOfLast` of that record.  Without `live` the statement is false
    (`plain_statement_fails`; the entry with a dump in use: `crash_recovery_entry`; both, and the examples, in
    Lemmas/CrashHint.lean). -/
theorem C06_recovery_through_index_files (hash : Key → Nat) (K : Key → Prop) (cap : Nat) (hInj : InjOn hash K) (hcap : 1 ≤ cap)
    (cfg : Store.Cfg) (ops : List CrashHint.Op) (hops : ∀ op ∈ ops, CrashHintLemmas.OpOK K op)
    (ht : (CrashHint.run hash cfg cap {} ops).torn = false) :
    ∃ st, CrashHint.recover hash cap true (CrashHint.run hash cfg cap {} ops).crash = some st ∧
      ∀ k, K k →
        live (AMap.get st.tree (hash k)) = itemOfLast (lastOf k (durLog (CrashHint.run hash cfg cap {} ops))) ∧
        (usedDump (CrashHint.run hash cfg cap {} ops).crash = none →
          AMap.get st.tree (hash k) = itemOfLast (lastOf k (durLog (CrashHint.run hash cfg cap {} ops)))) :=
  crash_recovery hash K cap hInj hcap cfg ops hops ht

theorem C06_torn_tail_refuses (hash : Key → Nat) (cap : Nat) (chk : Bool) (s : CrashHint.St) (ht : s.torn = true) :
    CrashHint.recover hash cap chk s.crash = none := by
  rw [recover_eq, ht]; rfl

/-- the recovered entry points at a complete record of that key inside the surviving bytes.  `inv` holds of every
    reachable state, across kills and starts (`CrashHintLemmas.reachable_inv`) -/
theorem C06_recovered_entry_reads (hash : Key → Nat) (K : Key → Prop) (cap : Nat) {s : CrashHint.St}
    (inv : CrashHintLemmas.Inv hash K cap s) (k : Key) (it : TItem)
    (h : itemOfLast (lastOf k (durLog s)) = some it) :
    ∃ r, s.crash.readAt it.pos = some r ∧ r.key = k ∧ r.ver = it.ver ∧ 0 < it.ver ∧ it.vhash = vhashOf r.body ∧
      (it.pos, r) ∈ durLog s := by
  cases hl : lastOf k (durLog s) with
  | none => rw [hl] at h; cases h
  | some x =>
    obtain ⟨p, r⟩ := x
    obtain ⟨hmem, hkey⟩ := lastOf_mem hl
    rw [hl, itemOfLast] at h
    split at h
    · next hv =>
      cases h
      exact ⟨r, readAt_durLog hash K cap inv hmem, hkey, rfl, hv, rfl, hmem⟩
    · cases h

/-- without the "hint beyond data" drop (the code before /repo fe79633) the statement is false -/
theorem C06_historical_code_fails :
    ¬ (∀ (ops : List CrashHint.Op), (∀ op ∈ ops, CrashHintLemmas.OpOK HintIndexLemmas.exK op) → (CrashHint.run HintIndexLemmas.exHash {} 2 {} ops).torn = false →
        ∃ st, CrashHint.recover HintIndexLemmas.exHash 2 false (CrashHint.run HintIndexLemmas.exHash {} 2 {} ops).crash = some st ∧
          ∀ k, HintIndexLemmas.exK k → live (AMap.get st.tree (HintIndexLemmas.exHash k)) = itemOfLast (lastOf k (durLog (CrashHint.run HintIndexLemmas.exHash {} 2 {} ops)))) := by
  intro h
  obtain ⟨ht, htree, hlast, _⟩ := old_code_counterexample
  obtain ⟨st, h1, h2⟩ := h exHist exHist_ok ht
  have h3 := h2 [97] (by simp [HintIndexLemmas.exK])
  rw [h1] at htree
  simp only [Option.map_some, Option.some.injEq, exLookC, List.map_cons, List.cons.injEq] at htree
  rw [htree.1, hlast] at h3
  simp [live] at h3

end ThroughIndexFiles

/-- what the next start makes of what a kill leaves of a well-formed store is `Good` (what a restart that rebuilds the tree
    needs), and its log is the durable part of the log -/
theorem C06_recovered_store_is_good (hash : Key → Nat) (K : Key → Prop) {cfg : Store.Cfg} {b : Bucket} (w : WF cfg b)
    (hk : ∀ x ∈ b.log, K x.2.key) (cut : Nat → Nat) (present : Nat → Bool) :
    Good K (b.recover hash cfg cut present) ∧ (b.recover hash cfg cut present).log = b.log.filter (durableP cut) :=
  have h := w.lay.recover hash cfg cut present
  ⟨h.1.good (keys_of_filter h.2 hk), h.2⟩

/-- two lives: after a first life (client commands, flushes, restarts, GC requests), a kill, the start, a second life
    (client commands, flushes, restarts) on what that start made, a second kill and start, a get returns the live part of
    the key's last record that is durable in the SECOND crash state (engine crash exercises this: mix c06, second life).
    `hlen` (2147483647 = 2^31 - 1): the versions of the first life stay inside int32, as in C01. -/
theorem C06_two_lives (hash : Key → Nat) (K : Key → Prop) (hInj : InjOn hash K) (cfg : Store.Cfg)
    (hcv : cfg.checkVHash = false) (R : Nat) (ops1 : List HOp) (hlen : R + ops1.length < 2147483647)
    (hops1 : ∀ op ∈ ops1, HOpOK K cfg R op) (cut1 : Nat → Nat) (present1 : Nat → Bool)
    (R2 : Nat) (ops2 : List Op) (hops2 : ∀ op ∈ ops2, OpOK2 K R2 op) (cut2 : Nat → Nat) (present2 : Nat → Bool)
    (k : Key) (hk : K k) :
    let b1 := (hrun hash cfg {} ops1).1
    let r1 := b1.recover hash cfg cut1 present1
    let b2 := (Store.run hash cfg r1 ops2).1
    r1.log = b1.log.filter (durableP cut1) ∧
    (Store.step hash cfg (b2.recover hash cfg cut2 present2) (.get k)).2.1 =
      (match lastOf k (b2.log.filter (durableP cut2)) with
       | some (_, r) => if r.ver > 0 then Reply.value r.flag r.body else Reply.miss
       | none => Reply.miss) := by
  intro b1 r1 b2
  have h1 := (hrun_refines_init hash K cfg hcv hInj R ops1 hops1 hlen).2
  have l1 := h1.wf.lay.recover hash cfg cut1 present1
  have l2 := run_lay hash K cfg R2 ops2 r1 l1.1 (keys_of_filter l1.2 h1.lr.keys) hops2
  exact ⟨l1.2, l2.1.recover_get hash K hInj cfg l2.2 cut2 present2 k hk⟩
