/-
  C09 — data records round-trip, stay 256-aligned, corruption is detected.

  Model: GoBeans/Model/Codec.lean (`encode` = WriteRecord.append, `decodeAt` = readRecordAt,
  `scan` = the DataStreamReader.Next/nextValid loop), built on the regenerated kernels
  `Gen.encodeHeader/decodeHeader/getCRC/Sizes/IsValidKeySize/IsValidValueSize`; tied to the
  real encoder/reader/scanner byte-for-byte by engine `codec` on every run.
  Quantifier: every record (any key/body bytes, any 32-bit flag/version/timestamp) whose sizes the code accepts and
  whose key and body are shorter than 2^16 and 2^31 bytes, so that `uint32(len)` does not wrap (`ValidSizes`); every
  surrounding file content; every number of records.
-/
import GoBeans.Lemmas.Codec
import GoBeans.Lemmas.Hash

open Codec CodecLemmas

/-- A record occupies a whole number of 256-byte blocks: exactly `Sizes().2` bytes, the least
    multiple of 256 that holds header + key + body. -/
theorem C09_aligned (cfg : Cfg) (r : Rec) (hv : ValidSizes cfg r) :
    (encode r).length = r.padded ∧ r.padded % 256 = 0
      ∧ 24 + r.key.length + r.body.length ≤ r.padded ∧ r.padded < 24 + r.key.length + r.body.length + 256 := by
  obtain ⟨_, hmod, hle, hlt⟩ := padded_facts hv
  exact ⟨encode_length hv, hmod, hle, hlt⟩

/-- The documented beansdb layout: crc | ts | flag | ver | ksz | vsz (little-endian 32-bit) | key | value | zero padding,
    the crc being CRC-32 (C16 reference) of everything after the crc field up to the end of the value. -/
theorem C09_layout (cfg : Cfg) (r : Rec) (hv : ValidSizes cfg r) :
    ∃ crc : UInt32,
      encode r = le4 crc.toNat ++ le4 r.ts.toNat ++ le4 r.flag.toNat ++ le4 r.ver.toUInt32.toNat
                  ++ le4 r.key.length ++ le4 r.body.length ++ r.key ++ r.body
                  ++ List.replicate (r.padded - (24 + r.key.length + r.body.length)) 0
      ∧ crc.toNat = Ref.crc32 (le4 r.ts.toNat ++ le4 r.flag.toNat ++ le4 r.ver.toUInt32.toNat
                  ++ le4 r.key.length ++ le4 r.body.length ++ r.key ++ r.body) := by
  have hk := ksz_toNat hv
  have hvz := vsz_toNat hv
  refine ⟨Gen.getCRC (hdr z4 r) r.key r.body, ?_, ?_⟩
  · rw [encode_eq hv, header_eq]; simp [hdr, hk, hvz, recLen, List.append_assoc]
  · rw [HashLemmas.L_crc_chunked _ _ _ (by have := hv.klen; omega) (by have := hv.blen; omega)]
    simp [hdr, hk, hvz, List.append_assoc]

/-- Positional read returns exactly what was written, wherever the record sits in the file. -/
theorem C09_roundtrip_at (cfg : Cfg) (pre post : Bytes) (r : Rec) (hv : ValidSizes cfg r) :
    decodeAt cfg (pre ++ encode r ++ post) pre.length = .ok (r, r.padded) :=
  roundtrip_at cfg pre post r hv

/-- A sequential scan of any number of written records yields each one, in order, with its true
    offset, and ends cleanly. -/
theorem C09_roundtrip_scan (cfg : Cfg) (rs : List Rec) (hv : ∀ r ∈ rs, ValidSizes cfg r) :
    scan cfg (encodeAll rs) 0 = (withOffsets 0 rs, .eof) :=
  roundtrip_scan cfg rs hv

/-- "Any alteration is detected", in the only form true of a 32-bit checksum: a positional read
    returns a record ONLY IF the sizes are valid and the stored CRC equals the CRC-32 (reference
    definition) of the very bytes it returns.  An alteration therefore passes only on a CRC-32
    collision (stated in the trusted base, not hidden). -/
theorem C09_decode_sound (cfg : Cfg) (f : Bytes) (off : Nat) (r : Rec) (n : Nat)
    (h : decodeAt cfg f off = .ok (r, n)) (hlen : f.length < 2^63) :
    let hd := (f.drop off).take 24
    let d := Gen.decodeHeader hd
    Gen.IsValidKeySize cfg.maxKeyLen d.2.2.2.2.1 = true ∧ Gen.IsValidValueSize cfg.bodyMax d.2.2.2.2.2 = true
    ∧ r.key ++ r.body = (f.drop (off + 24)).take (d.2.2.2.2.1.toNat + d.2.2.2.2.2.toNat)
    ∧ d.1.toNat = Ref.crc32 (hd.drop 4 ++ r.key ++ r.body) := by
  intro hd d
  obtain ⟨_, hk, hv, hkv, _, _, hcrc, _⟩ := decode_sound cfg f off r n h
  refine ⟨hk, hv, hkv, ?_⟩
  have hkb : (r.key ++ r.body).length ≤ f.length := by
    rw [hkv, List.length_take, List.length_drop]; omega
  simp at hkb
  rw [hcrc]
  exact HashLemmas.L_crc_chunked _ _ _ (by omega) (by omega)

/-- The search of `nextValid` alone: started at a position `a` whole blocks before an intact record, with no
    position `a + 256 * j` in between that decodes, it finds that record, with its true offset.  (The scan as a
    whole is `C09_scan_yields_intact`.) -/
theorem C09_resync_finds_first_intact_partial (cfg : Cfg) (pre post : Bytes) (r : Rec) (hv : ValidSizes cfg r)
    (a k fuel : Nat) (hpre : pre.length = a + 256 * k) (hf : k < fuel)
    (hbad : ∀ j, j < k → ∃ e, decodeAt cfg (pre ++ encode r ++ post) (a + 256 * j) = .error e) :
    nextValid cfg (pre ++ encode r ++ post) fuel a = some (pre.length, r, r.padded) := by
  have hpos : 0 < (encode r).length := by rw [encode_length hv]; have := padded_ge hv; omega
  rw [hpre]
  apply nextValid_skips hf
  · simp; omega
  · exact hbad
  · rw [← hpre]; exact roundtrip_at cfg pre post r hv

/-- Resynchronisation: after an arbitrary damaged region of whole blocks at the start of the file in which no
    aligned position decodes (`NoFalseSync`), a scan from the start of the file
    yields exactly the intact records that follow, each with its true offset — whatever the damaged
    bytes claim as sizes (zero, huge, or in range but past the end of the file).
    (On the tree before commit 2044327 this was false: see known_findings.txt, C09/scan-aborted-before-intact-record.) -/
theorem C09_scan_yields_intact (cfg : Cfg) (pre : Bytes) (rs : List Rec) (hpre : pre.length % 256 = 0)
    (hv : ∀ r ∈ rs, ValidSizes cfg r) (hns : NoFalseSync cfg (pre ++ encodeAll rs) pre.length) :
    (scan cfg (pre ++ encodeAll rs) 0).1 = withOffsets pre.length rs :=
  (scan_junk_records hpre hv hns.junk).1

def witnessA : Rec := { key := [97], body := [1], flag := 0, ver := 1, ts := 7 }
def witnessB : Rec := { key := [98], body := [2], flag := 0, ver := 1, ts := 8 }
/-- record A with its value-size field (bytes 20..23) overwritten by 1000: in range, but past EOF -/
def witnessPre : Bytes := Go.splice (encode witnessA) 20 (Go.leBytes 4 1000)
/-- the counterexample on the tree before commit 2044327: the intact record behind the oversized length is yielded -/
example : scan {} (witnessPre ++ encodeAll [witnessB]) 0 = ([(256, witnessB)], .eof) := by decide +kernel

/-! Non-vacuity: a concrete record meets `ValidSizes` and is 512 bytes long on disk. -/
def sampleRec : Rec := { key := [107, 49], body := List.replicate 300 0xAB, flag := 0x204, ver := -3, ts := 1600000000 }
theorem sampleRec_valid : ValidSizes {} sampleRec := ⟨by decide +kernel, by decide +kernel, by decide +kernel, by decide +kernel⟩
theorem witnessB_valid : ValidSizes {} witnessB := ⟨by decide +kernel, by decide +kernel, by decide +kernel, by decide +kernel⟩
example : ValidSizes {} sampleRec := sampleRec_valid
example : (encode sampleRec).length = 512 := by decide +kernel
/-- An instance of `C09_roundtrip_scan`; only the offsets are computed.  (Evaluating the scan itself
    runs the table-driven CRC over each record twice, once to write and once to check.) -/
example : scan {} (encodeAll [sampleRec, witnessB]) 0 = ([(0, sampleRec), (512, witnessB)], .eof) :=
  (C09_roundtrip_scan {} [sampleRec, witnessB] (by simp [sampleRec_valid, witnessB_valid])).trans (by decide +kernel)
