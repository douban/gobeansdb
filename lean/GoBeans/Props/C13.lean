/-
  C13 — keys with equal 64-bit hashes never alias or lose each other.

  What the store's mechanism must achieve, on the log view (Model/LogView.lean): the tree has ONE slot per key hash,
  pointing at whichever record of that hash class was written or replayed last; a read follows the slot, compares
  the record's key and, on a mismatch, looks the wanted key up by (hash, key) in the hints — i.e. finds the last
  record of THAT key (`readVia`).

  Engine `seq`, mix `collide`: 1..3 groups of 2..4 pool keys forced onto one key hash (the store's package-level hash
  function is overridden through a verif shim), mixed with ordinary keys; full histories with restarts (tree dump
  kept / dropped; hint files and the collision table stay) and GC (merge on/off).  The bucket model is NOT compared
  in these cases (it has no collision table); every reply is judged by the reference map, which treats the keys as
  independent (versions of colliding keys are not compared).

  Status on the unchanged tree: the property is violated systematically — the write path takes the tree item of the
  key hash as the key's own old version whichever key it belongs to (deletes refused or accepted wrongly, explicit
  revisions compared with the other key's version), tombstone replay removes the shared slot, GC then discards
  records of keys the tree does not know.  These are KNOWN FINDINGS, classified by symptom and by the strongest
  structural event of the history so far (known_findings.txt, C13/*); none has a small fix (the tree item carries no
  key; a collision-aware write path needs a read).  One crash was repaired: GC dereferenced a nil collision item
  (/repo 667fdc2).  A violation outside the listed classes is still reported.

  COLLISION-PATH MODEL (GoBeans/Model/Collide.lean, lemma modules Lemmas/Collide*): what the code actually does with
  colliding keys, defects included.  Tied by engine `collide`: every reply and position, after every operation the
  collision table, what the write path sees for every key and every *.idx.s file, after a pass range / statistics / data
  files.  The model reproduces every KNOWN deviation from the reference map (twelve minimal witness histories W1–W12, one
  per mechanism, in corpus/C13/collide-witnesses.txt and as `decide` theorems, Lemmas/CollideWitness.lean), so that a
  difference between model and implementation is behaviour that is NOT known (seed C13-d).  Proved of the model, below: it
  answers like the reference map with a key hash injective on the keys in use (`C13_collide_extends_store_general`,
  Lemmas/CollideRstMain.lean, admits restarts until the first GC request) and, for ANY key hash, on the decidable class
  `SafeR` of histories.  Stated, not proved: an injective hash with a restart AFTER a GC request
  (`C13_collide_extends_store_restarts_gc_statement`, Lemmas/CollideRst.lean; one instance by kernel evaluation).
-/
import GoBeans.Lemmas.GCLog
import GoBeans.Lemmas.Collide
import GoBeans.Lemmas.CollideRst
open Store Spec StoreLemmas

def classLast (hash : Key → Nat) (h : Nat) (l : List (Pos × Rec)) : Option (Pos × Rec) :=
  (l.filter (fun p => hash p.2.key = h)).getLast?

def readVia (hash : Key → Nat) (slot : Nat → Option (Pos × Rec)) (l : List (Pos × Rec)) (k : Key) : Option (Pos × Rec) :=
  match slot (hash k) with
  | none => none
  | some x => if x.2.key = k then some x else lastOf k l

theorem getLast?_filter_sub {α} (l : List α) (p q : α → Bool) (hpq : ∀ a, q a = true → p a = true) (x : α)
    (hx : (l.filter p).getLast? = some x) (hq : q x = true) : (l.filter q).getLast? = some x := by
  have e : l.filter q = (l.filter p).filter q := by
    rw [List.filter_filter]
    exact List.filter_congr (fun a _ => by cases hqa : q a <;> simp [hpq a, hqa])
  rw [e]
  exact StoreLemmas.getLast?_filter_of_getLast? q hx hq

/-- **slot → key compare → hints**: with the slot at the last record of the hash class, every key of the class reads
    its own last record, for any log and any (non-injective) hash: overwrites and deletes of the other key cannot disturb it -/
theorem C13_slot_then_hints_reads_own_last (hash : Key → Nat) (l : List (Pos × Rec)) (k : Key) :
    readVia hash (fun h => classLast hash h l) l k = lastOf k l := by
  unfold readVia
  simp only []
  cases hc : classLast hash (hash k) l with
  | none =>
    -- no record of the class at all, so none of k
    simp only []
    unfold classLast at hc
    rw [List.getLast?_eq_none_iff, List.filter_eq_nil_iff] at hc
    symm
    rw [lastOf_none_iff]
    intro x hx hk
    exact hc x hx (by simp [hk])
  | some x =>
    simp only []
    by_cases hxk : x.2.key = k
    · rw [if_pos hxk]
      unfold classLast at hc
      unfold lastOf
      symm
      exact getLast?_filter_sub l _ _ (by intro a ha; simp at ha ⊢; rw [ha]) x hc (by simp [hxk])
    · rw [if_neg hxk]

def hCol (_ : Key) : Nat := 7
def rA : Rec := { key := [97], ver := 1, flag := 0, ts := none, body := [1], size := 256 }
def rB : Rec := { key := [98], ver := 1, flag := 0, ts := none, body := [2], size := 256 }
def rBdel : Rec := { key := [98], ver := -2, flag := 0, ts := none, body := [], size := 256 }
def logAB : List (Pos × Rec) := [(⟨0, 0⟩, rA), (⟨0, 256⟩, rB), (⟨0, 512⟩, rBdel)]

/-- the code as it is: rebuilding the tree by replay REMOVES the slot when a delete marker is replayed (by key HASH), so
    after `set A; set B; delete B` a rebuilt tree has no slot for the class and the read path never reaches the hints: the
    live key A reads as missing -/
theorem C13_tombstone_replay_loses_other_key :
    liveRec [97] logAB = some rA ∧ AMap.get (replayTree hCol logAB) (hCol [97]) = none := by decide +kernel

/-! Non-vacuity of the positive theorem on the same log: with the slot at the class's last record (the delete
    marker of B) the read path serves A its own record. -/
example : readVia hCol (fun h => classLast hCol h logAB) logAB [97] = some (⟨0, 0⟩, rA) := by decide +kernel
example : readVia hCol (fun h => classLast hCol h logAB) logAB [98] = some (⟨0, 512⟩, rBdel) := by decide +kernel

/-- with a key hash injective on the keys in use (`K`) the collision path answers like the non-colliding bucket model and
    the reference map: client commands (explicit revisions included), flush, dumper rounds, hint merges and GC requests in any
    order, no restart (`ExtOK`); check_vhash off, fewer than 2^31 - 1 operations (versions are int32) -/
theorem C13_injective_hash_answers_like_reference (hash : Spec.Key → Nat) (K : Spec.Key → Prop) (hInj : StoreLemmas.InjOn hash K)
    (cfg : Collide.Cfg) (hcv : cfg.s.checkVHash = false) (R : Nat) (ops : List Collide.Op) (hlen : R + ops.length < 2147483647)
    (hops : ∀ op ∈ ops, CollideLemmas.ExtOK K cfg R op) :
    (Collide.run hash cfg {} ops).2 = (StoreLemmas.hrun hash cfg.s {} (ops.filterMap CollideLemmas.toH)).2
    ∧ (Collide.run hash cfg {} ops).2 = (StoreLemmas.hspec { checkVHash := cfg.s.checkVHash } [] (ops.filterMap CollideLemmas.toH)).2 :=
  _root_.C13_collide_extends_store hash K hInj cfg hcv R ops hlen hops

/-- C13 for the code on the decidable class `SafeR` of histories (`TrkR.step`, Lemmas/CollideSafeR.lean), any hash function,
    any number of colliding keys.  The class: automatic-revision sets (size > 0, body below 2^63 bytes), incr, get, meta-get,
    flush, dumper rounds; a delete only of a key the collision table knows or a key without written hash-mates; a restart
    (tree kept or rebuilt) only when something has been written and every key with a written hash-mate is in the table;
    after a restart a set or incr of a key with written hash-mates only if the table knows its hash (`Trk.writeOK`).  No
    hint merge, no GC request.  Every reply is the reference map's in the view `coarse`: version numbers are not compared,
    and the meta reply of a deleted key counts as a miss (a rebuilt tree drops the delete marker).  check_vhash off, data
    files below 2^32 bytes, `SplitCap ≥ 1`, fewer than 2^31 - 1 operations -/
theorem C13_safe_class_with_restarts : CollideLemmas.C13_safe_with_restarts_statement :=
  _root_.C13_safe_with_restarts

/-- with an injective hash the collision path answers like the non-colliding model and the reference map also across
    RESTARTS (tree kept or rebuilt from the hint files), in histories without GC requests, for `SplitCap ≥ 1` -/
theorem C13_injective_hash_with_restarts (hash : Spec.Key → Nat) (K : Spec.Key → Prop) (hInj : StoreLemmas.InjOn hash K)
    (cfg : Collide.Cfg) (hcv : cfg.s.checkVHash = false) (hcap : 1 ≤ cfg.cap) (R : Nat) (ops : List Collide.Op)
    (hlen : R + ops.length < 2147483647)
    (hops : ∀ op ∈ ops, match CollideLemmas.toH op with | some h => StoreLemmas.HOpOK K cfg.s R h | none => True)
    (hno : noGC ops = true) :
    (Collide.run hash cfg {} ops).2 = (StoreLemmas.hrun hash cfg.s {} (ops.filterMap CollideLemmas.toH)).2
    ∧ (Collide.run hash cfg {} ops).2 = (StoreLemmas.hspec { checkVHash := cfg.s.checkVHash } [] (ops.filterMap CollideLemmas.toH)).2 :=
  _root_.C13_collide_extends_store_restarts hash K hInj cfg hcv hcap R ops hlen hops hno

/-- the statement with restarts for every configuration is false: with `SplitCap = 0` the hint buffers drop every item and
    a rebuilt tree is empty -/
theorem C13_first_statement_false : ¬ C13_collide_extends_store_statement := by
  intro h
  have := h CollideWitness.hW CollideExample.exK CollideExample.exInj CollideRstExample.cfg0 rfl 0 CollideRstExample.ops0 (by decide)
    CollideRstExample.ops0_ok
  rw [CollideRstExample.ops0_differ.1, CollideRstExample.ops0_differ.2] at this
  cases this
