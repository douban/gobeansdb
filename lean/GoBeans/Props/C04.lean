/-
  C04 — concurrent clients see per-key linearizable writes and reads.

  Model: GoBeans/Model/Conc.lean — per key, the register a bucket implements when every accepted write takes effect
  at one instant between its invocation and its response (in the code: the tree update that follows the append, both
  under the bucket write lock; reads take the tree lock per call and copy buffered records under the chunk lock).
  The conditions of the property on a recorded history of one key are the executable checks
      checkA  (a read returns a value some write of that key stored — invoked before the read ended — and not older
               than any write acknowledged before the read began; covers the final reads after everything stopped),
      checkB  (accepted writes have distinct versions; acknowledged-before-issued ⇒ smaller version).
  Engine `conc` (mix c04) records such histories on the real HStore — client goroutines doing set, delete and read of
  value+version on a few shared keys, a flusher and a hint dumper running freely, data files and hint splits small
  enough for rotations and dumps, yields/sleeps injected at the hook points (after append before tree update, at the
  linearisation point, inside the flush between write and buffer detach, at rotation), versions taken at the
  linearisation point; the parameters are in lib/props.json — and judges them with exactly these two functions.

  Proved here: EVERY atomic execution (`Valid`: inv < lin < resp, distinct linearisation instants; any operations, any
  number of clients) yields a history that passes both checks (`C04_atomic_executions_pass`).  So the oracle states
  exactly the property and cannot blame an implementation whose operations are atomic; conversely a history failing a
  check has no atomic explanation.
  FINE-GRAINED MODEL (GoBeans/Model/ConcFine.lean, Lemmas/ConcFine*.lean): one bucket with any number of writers
  (set/delete), readers and flushers, each a program of ATOMIC MICRO-STEPS, one per critical section of the Go code
  (listed at the head of the model file), driven by an arbitrary scheduler; invocation = first step, response = last
  step, linearisation point = the tree.set / tree.get micro-step.  Lemmas/ConcFine.lean has, of every state that
  satisfies the invariant `ConcFine.Inv`, which holds after every schedule (`ConcFine.inv_reachable`): a tree item points
  at a readable record of its key and version (`tree_item_readable`); a position a reader took from the tree stays
  readable while the record migrates from the buffer to the file (`reader_position_readable`, `read_stable`).  The
  granularity of the micro-steps is tied to the code by call-order facts (tie B: bucket.cas.locked, data.append.locked,
  chunk.append.locked, htree.set.locked, htree.get.locked, chunk.inbuffer.copy, chunk.read.buffer.first,
  data.flush.locks, chunk.flush.steps, chunk.flush.ledger) — a lock dropped or a step moved breaks a fact.
  Partial: that real schedules realise nothing else is what the recorded histories of engine `conc` test — real
  interleavings are sampled (seeded yield injection), not enumerated.  The fine-grained model assumes and leaves out:
   * a micro-step is atomic = sequential consistency + working mutexes.  The code reads shared state WITHOUT the
     protecting lock in two places — `ds.wbufSize` at data.go:103, and `dc.wbuf`/`dc.size` in `getDiskFileSize`
     (data.go:132) — these are Go data races; in the model they are atomic steps of their own (`fPre`, `fCheck`) and
     proved harmless at that level (`C04_no_fatal_no_read_error`).  `AppendRecord` reads `writingHead` under ds.Mutex
     only (modelled as such: `wSlot` and `wAppend` are different steps).
   * one bucket; no GC (C05), no incr (excluded as documented), no explicit revisions (Ver > 0), Conf.CheckVHash =
     false, no key-hash collisions, hints.set / hint dumper not modelled; versions unbounded (no int32 wrap),
     MAX_NUM_CHUNK not modelled; values are ids (0 = none), record bytes / CRC / compression not modelled (C09); bufio
     buffering of the flusher's writer is collapsed (unobservable: a reader only looks at file offsets of DETACHED
     records and the detach follows `w.wbuf.Flush()`); I/O errors and `Payload.Free()` not modelled; `ds.wbufSize` is
     modelled but nothing is proved about it (it only steers the flusher's early exits); the flusher's clock test is a
     scheduler choice; a flush of any chunk may be invoked at any time (superset of the code's flush calls).
-/
import GoBeans.Lemmas.Conc
import GoBeans.Lemmas.ConcFine
import GoBeans.Spec.KV
open Conc

theorem C04_atomic_executions_pass (ss : List Step) (hv : Valid ss) :
    checkA (run {} ss) = true ∧ checkB (run {} ss) = true :=
  ⟨checkA_sound ss hv, checkB_sound ss hv⟩

/-- C04 on the fine-grained model: after ANY schedule of any number of writers, readers and flushers that ends with
    every operation returned, the recorded history of every key passes both checks of the property. -/
theorem C04_fine_grained (cfg : ConcFine.Cfg) (sched : List (Nat × ConcFine.Act)) (k : Nat)
    (hq : ConcFine.quiescent (ConcFine.exec cfg ConcFine.init sched)) :
    checkA (ConcFine.histOf (ConcFine.exec cfg ConcFine.init sched) k) = true
    ∧ checkB (ConcFine.histOf (ConcFine.exec cfg ConcFine.init sched) k) = true :=
  (ConcFine.histInv_iff.1 (ConcFine.inv_reachable cfg sched).hist).checks_done hq k

/-- … and at any moment, with the operations still in flight completed at any later time -/
theorem C04_fine_grained_inflight (cfg : ConcFine.Cfg) (sched : List (Nat × ConcFine.Act)) (k fut : Nat)
    (hfut : (ConcFine.exec cfg ConcFine.init sched).clock ≤ fut) :
    checkA (ConcFine.histAt (ConcFine.exec cfg ConcFine.init sched) k fut) = true
    ∧ checkB (ConcFine.histAt (ConcFine.exec cfg ConcFine.init sched) k fut) = true :=
  (ConcFine.histInv_iff.1 (ConcFine.inv_reachable cfg sched).hist).checks k fut hfut

/-- under every schedule: the flusher's `Fatalf` file-size check and its index panic are unreachable, and no get ends in
    a read error -/
theorem C04_no_fatal_no_read_error (cfg : ConcFine.Cfg) (sched : List (Nat × ConcFine.Act)) :
    (ConcFine.exec cfg ConcFine.init sched).fatal = false ∧ (ConcFine.exec cfg ConcFine.init sched).readErr = false :=
  ⟨(ConcFine.inv_reachable cfg sched).alive, (ConcFine.inv_reachable cfg sched).noerr⟩

/-- the lock structure cannot wedge: whenever some thread is inside an operation, some thread can take a step -/
theorem C04_no_deadlock (cfg : ConcFine.Cfg) (sched : List (Nat × ConcFine.Act)) (t : Nat)
    (hne : ((ConcFine.exec cfg ConcFine.init sched).thr t).pc ≠ .idle) :
    ∃ u, (ConcFine.step cfg (ConcFine.exec cfg ConcFine.init sched) u .go).isSome = true := by
  have hi := ConcFine.inv_reachable cfg sched
  obtain ⟨u, hu⟩ := ConcFine.no_deadlock cfg hi.lock t hne
  refine ⟨u, ?_⟩
  unfold ConcFine.step
  simp only [hi.alive, Bool.false_eq_true, if_false, Option.isSome_map]
  exact hu

/-- `checkA` does not depend on the order in which the events are listed (the harness lists by invocation time) -/
theorem C04_checkA_perm (h h' : List Ev) (hp : ∀ e, e ∈ h ↔ e ∈ h') (hc : checkA h = true) : checkA h' = true := by
  unfold checkA at *
  rw [List.all_eq_true] at *
  intro e he
  have := hc e ((hp e).2 he)
  unfold readOK at *
  cases ho : e.out with
  | acc v => rfl
  | rej => rfl
  | got val ver =>
    rw [ho] at this
    simp only [Bool.and_eq_true, Bool.or_eq_true, List.any_eq_true, List.all_eq_true] at this ⊢
    refine ⟨?_, ?_⟩
    · rcases this.1 with h1 | ⟨w, hw, h2⟩
      · exact Or.inl h1
      · exact Or.inr ⟨w, (hp w).1 hw, h2⟩
    · intro w hw; exact this.2 w ((hp w).2 hw)

/-- the reference map's version arithmetic (`Spec.nextVersion`): a set without explicit revision and a delete both
    move the absolute version up by one, as `Conc.regStep` does with `ver` -/
theorem C04_register_is_spec (oldv : Int) :
    (Spec.nextVersion oldv 0).1.natAbs = oldv.natAbs + 1 ∧ (Spec.nextVersion oldv (-1)).1.natAbs = oldv.natAbs + 1 := by
  unfold Spec.nextVersion
  simp
  omega

/-! Non-vacuity: an atomic execution in which a read overlaps the second write (it sees the second value) and a delete
    follows; a read that returns the first value AFTER the second write was acknowledged fails `checkA`. -/
def exSteps : List Step := [
  { op := .write 11, inv := 1, lin := 2, resp := 3 },
  { op := .write 12, inv := 4, lin := 6, resp := 9 },
  { op := .read, inv := 5, lin := 7, resp := 8 },
  { op := .delete, inv := 10, lin := 11, resp := 12 },
  { op := .read, inv := 13, lin := 14, resp := 15 }]
example : Valid exSteps := by
  refine ⟨?_, ?_⟩
  · intro s hs; simp [exSteps] at hs; rcases hs with rfl | rfl | rfl | rfl | rfl <;> decide
  · simp [exSteps]
example : (run {} exSteps).map (·.out) = [.acc 1, .acc 2, .got 12 2, .acc 3, .got 0 3] := by decide +kernel
def staleHistory : List Ev := [
  { op := .write 11, inv := 1, resp := 3, out := .acc 1 }, { op := .write 12, inv := 4, resp := 9, out := .acc 2 },
  { op := .read, inv := 10, resp := 11, out := .got 11 1 }]
example : checkA staleHistory = false := by decide +kernel

/-! Non-vacuity of the fine-grained model, and sanity evaluations of its functions -/
namespace ConcFine
namespace Ex

def cfg : Cfg := { dataFileMax := 4 }
def gos (t n : Nat) : List (Nat × Act) := List.replicate n (t, .go)

/-- writer 1 sets key 7 := value 11; reader 2 takes the position from the tree while the record is only in the
    write buffer; flusher 3 has fetched the record and is about to write it to the file -/
def schedA : List (Nat × Act) :=
  [(1, .call (.write 7 11 0))] ++ gos 1 7 ++ [(2, .call (.read 7)), (2, .go)] ++
  [(3, .call (.flush none true false))] ++ gos 3 7
def sA : State := exec cfg init schedA

example : ((sA.chunks 0).file, (sA.chunks 0).wbuf) = ([], [⟨7, 1, 11, 0, 1⟩]) := by decide +kernel
-- the file write happens outside every lock but the flush lock: afterwards the record is in file AND buffer
example : ((exec cfg sA (gos 3 1)).chunks 0).file = [⟨7, 1, 11, 0, 1⟩] ∧
          ((exec cfg sA (gos 3 1)).chunks 0).wbuf = [⟨7, 1, 11, 0, 1⟩] := by decide +kernel
-- continuation 1: the reader reads now — from the buffer
example : (exec cfg sA (gos 2 1)).hist.map (fun e => (e.done, e.ev.out)) = [(true, .acc 1), (true, .got 11 1)] := by
  decide +kernel
-- continuation 2: write, detach, THEN the reader: the buffer test misses, the reader goes to the file
def sC : State := exec cfg sA (gos 3 3 ++ gos 2 1)
example : ((sC.chunks 0).file, (sC.chunks 0).wbuf) = ([⟨7, 1, 11, 0, 1⟩], []) := by decide +kernel
example : bufLookup (sC.chunks 0) 0 = .miss ∧ fileLookup (sC.chunks 0) 0 = some ⟨7, 1, 11, 0, 1⟩ := by decide +kernel
def sD : State := exec cfg sC (gos 2 1 ++ gos 3 2)
example : sD.hist.map (fun e => (e.done, e.ev.out)) = [(true, .acc 1), (true, .got 11 1)] := by decide +kernel

/-- two writers and a reader on one key, a rotation (DataFileMax = 4 blocks), a flush of the old file, a rejected
    and an accepted delete, a second key -/
def schedE : List (Nat × Act) :=
  [(1, .call (.write 7 11 1)), (4, .call (.write 7 12 2)), (2, .call (.read 7)), (1, .go), (4, .go), (1, .go), (2, .go),
   (1, .go), (1, .go), (1, .go), (2, .go), (1, .go), (4, .go), (1, .go), (4, .go), (4, .go), (2, .call (.read 7)),
   (2, .go), (4, .go), (4, .go), (3, .call (.flush (some 0) true false)), (4, .go), (3, .go), (3, .go), (4, .go), (2, .go)] ++
  gos 3 9 ++ [(5, .call (.delete 9 0)), (2, .call (.read 7))] ++ gos 2 2
def sE : State := exec cfg init schedE

-- thread 4 has been linearised (tree.set done) but has not returned: a get has already seen its value
example : sE.hist.map (fun e => (e.tid, e.done, e.ev.out)) =
    [(2, true, .got 0 0), (1, true, .acc 1), (2, true, .got 11 1), (4, false, .acc 2), (2, true, .got 12 2)] := by
  decide +kernel
example : sE.newHead = 1 ∧ (sE.chunks 0).file = [⟨7, 1, 11, 0, 2⟩] ∧ (sE.chunks 1).wbuf = [⟨7, 2, 12, 0, 3⟩] := by
  decide +kernel
-- the history WITHOUT the pending write fails check (A) — why the theorem completes pending operations …
example : Conc.checkA (histOf sE 7) = false := by decide +kernel
-- … and with it completed at any later time passes, as `C04_fine_grained_inflight` says for every schedule
example : Conc.checkA (histAt sE 7 1000) = true ∧ Conc.checkB (histAt sE 7 1000) = true :=
  C04_fine_grained_inflight cfg schedE 7 1000 (by decide +kernel)
-- thread 5 (delete of key 9) waits for the write lock thread 4 holds: its micro-step is not enabled
example : (micro cfg sE 5).isNone = true := by decide +kernel

/-- run to the end: everybody returns -/
def schedF : List (Nat × Act) := schedE ++ gos 4 1 ++ gos 5 3 ++ [(5, .call (.delete 7 0))] ++ gos 5 7 ++
  [(2, .call (.read 7))] ++ gos 2 3 ++ gos 3 2
def sF : State := exec cfg init schedF

/-- the hypothesis of `C04_fine_grained` is satisfiable on a non-trivial schedule -/
theorem sF_quiescent : quiescent sF := by unfold quiescent; decide +kernel
example : histOf sF 7 = [
    { op := .read, inv := 3, resp := 10, out := .got 0 0, lin := 6 },
    { op := .write 11, inv := 1, resp := 12, out := .acc 1, lin := 11 },
    { op := .read, inv := 15, resp := 24, out := .got 11 1, lin := 16 },
    { op := .write 12, inv := 2, resp := 38, out := .acc 2, lin := 23 },
    { op := .read, inv := 35, resp := 37, out := .got 12 2, lin := 36 },
    { op := .delete, inv := 42, resp := 49, out := .acc 3, lin := 48 },
    { op := .read, inv := 50, resp := 52, out := .got 0 3, lin := 51 }] := by decide +kernel
example : histOf sF 9 = [{ op := .delete, inv := 34, resp := 41, out := .rej, lin := 40 }] := by decide +kernel
example : Conc.checkA (histOf sF 7) = true ∧ Conc.checkB (histOf sF 7) = true := C04_fine_grained cfg schedF 7 sF_quiescent
example : (sF.fatal, sF.readErr, sF.wbufSize, sF.newHead) = (false, false, 4, 1) := by decide +kernel

example : sortSearch 5 (fun i => decide (i ≥ 3)) = 3 ∧ sortSearch 5 (fun _ => false) = 5 ∧ sortSearch 0 (fun _ => true) = 0 := by
  decide
example : checkAndUpdateVersion 3 0 = (4, true) ∧ checkAndUpdateVersion (-3) 0 = (4, true) ∧
    checkAndUpdateVersion 3 (-1) = (-4, true) ∧ checkAndUpdateVersion 0 (-1) = (-1, true) ∧
    checkAndUpdateVersion 5 4 = (1, false) ∧ checkAndUpdateVersion 5 9 = (9, true) := by decide
-- the buffer test on a buffer holding offsets 4 and 6 (writing head 9): below, hit, hole, beyond
example : let ch : Chunk := { wbuf := [⟨1, 1, 5, 4, 2⟩, ⟨2, 1, 6, 6, 3⟩], writingHead := 9, size := 9 }
    bufLookup ch 0 = .miss ∧ bufLookup ch 6 = .found ⟨2, 1, 6, 6, 3⟩ ∧ bufLookup ch 5 = .err ∧ bufLookup ch 9 = .miss := by
  decide
-- a write of the value id 0 is not a legal invocation (0 = "no live value"); a busy thread cannot be invoked
example : (invoke init 1 (.write 7 0 0)).isNone = true ∧ (invoke sA 3 (.read 7)).isNone = true := by decide +kernel

end Ex
end ConcFine
