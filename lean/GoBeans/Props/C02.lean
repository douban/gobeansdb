/-
  C02 — clean restart preserves everything; index files are rebuildable caches.

  Model: `Store.step … (.reopen keepTree)` (GoBeans/Model/Store.lean): close flushes every data file; a new
  process appends to a new file; the tree is either the loaded dump (`keepTree = true`: unchanged, tombstone
  entries included) or rebuilt by replaying all records in (file, offset) order, live record sets, tombstone
  removes (`replayTree`).  Which hint files survive does not appear in the model at all: hints are derived
  from the data (rebuilt when missing or short) — that abstraction is what engine `seq` checks against the
  real store by deleting a subset of *.idx.hash / *.idx.s / *.idx.m before reopening (none, all, a random one, the tree
  dump or the hints alone, the tree dump with the first or the last split of each data file).
  Reference: `specStep` = client commands on the plain map; a rebuild drops tombstones (allowed by C02).

  HINT FILES (GoBeans/Model/HintIndex.lean — store/hint.go hintMgr / hintChunk / HintBuffer.Set, split files sorted by
  (hash, key), `findValidPaths` (gap-free prefix of the split files kept), `loadHintsByChunk`, `checkHintWithData` /
  `buildHintFromData` (the rest of the data file rescanned from the largest `datasize` kept, through the same buffer
  code), `updateHtreeFromHint` (`Ver > 0 → set, else remove`); the merged hint is never read at open): the abstraction
  "restart = replay of the data" used by the other theorems is what the hint mechanism computes, whichever hint files
  survive (section `Hints`).
  Model/HintIndex is tied to the real store by engine `hintdiff` (hint split file contents after the write path and
  after a start, and the tree item of every key, after removing random subsets of *.idx.s files).

  Quantifier: every history as in C01 with a restart of either kind inserted at every position, repeatedly.
  Proviso of the property, as hypothesis: `check_vhash` off (versions changed without a data write — the
  same-value explicit-revision sets — are not recoverable from data; with `keepTree = true` they survive).
-/
import GoBeans.Lemmas.Log
import GoBeans.Lemmas.HintIndex
import GoBeans.Props.C01

open Store Spec StoreLemmas

/-- A restart that loads the tree dump changes nothing observable: the bucket still agrees with the same
    reference map (so every later reply is the reference reply, by C01). -/
theorem C02_restart_tree_loaded (hash : Key → Nat) (K : Key → Prop) (cfg : Store.Cfg) {n : Nat} {b : Bucket} {m : KV}
    (inv : Inv hash K n b m) (lr : LastRec hash K b) :
    Inv hash K n (Store.step hash cfg b (.reopen true)).1 m :=
  reopen_keep hash K cfg inv

/-- A restart that rebuilds the tree from the data files yields the same mapping for every live key —
    position, version, value hash — and no entry for deleted keys. -/
theorem C02_restart_rebuilt (hash : Key → Nat) (K : Key → Prop) (cfg : Store.Cfg) (hInj : InjOn hash K)
    {n : Nat} {b : Bucket} {m : KV} (inv : Inv hash K n b m) (lr : LastRec hash K b) (hnd : AMap.NodupKeys m) :
    Inv hash K n (Store.step hash cfg b (.reopen false)).1 (Spec.dropTombstones m) :=
  reopen_rebuild hash K cfg hInj inv lr hnd

/-- The rebuilt tree IS the replay of the data: for every key, the live part of its last record. -/
theorem C02_rebuild_is_replay (hash : Key → Nat) (K : Key → Prop) (hInj : InjOn hash K) (b : Bucket)
    (lr : LastRec hash K b) (k : Key) (hk : K k) :
    AMap.get (replayTree hash b.log) (hash k) = itemOfLast (lastOf k b.log) :=
  replay_get hash K hInj b.log lr.keys k hk

/-- Index independence: whichever index files survive (tree dump loaded or not), a get of any key returns
    the same reply after the restart. -/
theorem C02_index_independent (hash : Key → Nat) (K : Key → Prop) (cfg : Store.Cfg) (hInj : InjOn hash K)
    {n : Nat} {b : Bucket} {m : KV} (inv : Inv hash K n b m) (lr : LastRec hash K b) (hnd : AMap.NodupKeys m)
    (k : Key) (hk : K k) :
    (Store.step hash cfg (Store.step hash cfg b (.reopen true)).1 (.get k)).2.1
      = (Store.step hash cfg (Store.step hash cfg b (.reopen false)).1 (.get k)).2.1
    ∧ (Store.step hash cfg (Store.step hash cfg b (.reopen true)).1 (.get k)).2.1 = (Store.step hash cfg b (.get k)).2.1 := by
  -- a get reads the log (`get_of_lastRec`), and a restart of either kind leaves the log as it is
  rw [get_of_lastRec hash K cfg (lr.reopen cfg hInj inv.pos true) k hk,
    get_of_lastRec hash K cfg (lr.reopen cfg hInj inv.pos false) k hk, get_of_lastRec hash K cfg lr k hk,
    (reopen_quiet hash cfg b inv.pos true).1.log, (reopen_quiet hash cfg b inv.pos false).1.log]
  exact ⟨rfl, rfl⟩

/-- FULL sequential statement: histories with restarts of either kind at every position, repeatedly —
    every reply equals the reference reply, and the last-record invariant still holds at the end (the agreement `Inv`
    too: `run_refines_restart`).  `hbound`: 2147483647 = 2^31 - 1 is the version bound of C01, an operation raises a
    version by one at most. -/
theorem C02_history_with_restarts (hash : Key → Nat) (K : Key → Prop) (hInj : InjOn hash K) (cfg : Store.Cfg)
    (hcv : cfg.checkVHash = false) (R : Nat) (ops : List Op) (hops : ∀ op ∈ ops, OpOK2 K R op)
    (hbound : R + ops.length < 2147483647) :
    (Store.run hash cfg {} ops).2 = (specRun { checkVHash := cfg.checkVHash } [] ops).2
    ∧ LastRec hash K (Store.run hash cfg {} ops).1 := by
  have := run_refines_restart hash K cfg hcv hInj R ops R {} []
    (inv_init hash K) (lr_init hash K) (by simp [AMap.NodupKeys]) (Nat.le_refl R) hbound hops
  exact ⟨this.1, this.2.2⟩

section Hints
open HintIndex HintIndexLemmas HintLoadLemmas HintBufferLemmas

/-- every log, every cut into splits per file, every subset of files whose hints were rebuilt from the data: the tree
    built from hint files answers every key like the replay of the data -/
theorem C02_hint_files_are_caches (hash : Key → Nat) (K : Key → Prop) (hInj : InjOn hash K) (files : List FileRecs)
    (hK : ∀ f ∈ files, ∀ p ∈ f, K p.2.key) (cuts : List (List Nat)) (gone : List Bool) (k : Key) (hk : K k) :
    AMap.get (hintReplay (chooseHints hash files cuts gone)) (hash k) =
      AMap.get (replayTree hash (logOf files)) (hash k) :=
  hintReplay_eq_replay hash K hInj files hK _ (chooseHints_of hash files cuts gone) k hk

/-- the code path of a start: split files as the write path leaves them under ANY interleaving of record writes and
    split closings, ANY subset of the *.idx.s files removed, then `Bucket.open` -/
theorem C02_any_hint_subset_removed (hash : Key → Nat) (K : Key → Prop) (hInj : InjOn hash K) (cap : Nat) (hcap : 1 ≤ cap)
    (ess : List (List (Option (Nat × Rec))))
    (hK : ∀ es ∈ ess, ∀ p ∈ es.filterMap id, K p.2.key) (hc : ∀ es ∈ ess, Contig (es.filterMap id))
    (disks : List (List (Option SplitFile)))
    (hm : Forall2 (fun es disk => Masked (HChunk.run cap (es.map (evOf hash false))).disk disk) ess disks)
    (k : Key) (hk : K k) :
    AMap.get (restartTree hash cap (ess.map (fun es => es.filterMap id)) disks) (hash k) =
      AMap.get (replayTree hash (logOf (ess.map (fun es => es.filterMap id)))) (hash k) := by
  have hd : Forall2 (DiskOK hash) (ess.map (fun es => es.filterMap id)) disks := by
    clear hK
    induction hm with
    | nil => exact Forall2.nil
    | @cons es disk ess' ds hmask _ ih =>
      exact Forall2.cons (written_diskOK hash cap hcap es (hc es (by simp)) disk hmask)
        (ih (fun e he => hc e (List.mem_cons_of_mem _ he)))
  apply restart_eq_replay hash K hInj cap hcap _ _ _ disks hd k hk
  · intro f hf p hp
    obtain ⟨es, hes, rfl⟩ := List.mem_map.mp hf
    exact hK es hes p hp
  · intro f hf
    obtain ⟨es, hes, rfl⟩ := List.mem_map.mp hf
    exact hc es hes

/-- on a bucket reached by any history with restarts: the tree the hint mechanism builds from whatever split files are
    left equals, on every key, the tree of the model's rebuilding restart -/
theorem C02_restart_on_reachable_bucket (hash : Key → Nat) (K : Key → Prop) (hInj : InjOn hash K) (cfg : Store.Cfg)
    (cap : Nat) (hcap : 1 ≤ cap) (R : Nat) (ops : List Op) (hops : ∀ op ∈ ops, OpOK2 K R op)
    (hK : ∀ x ∈ (Store.run hash cfg {} ops).1.log, K x.2.key)
    (disks : List (List (Option SplitFile)))
    (hd : Forall2 (DiskOK hash) ((Store.run hash cfg {} ops).1.chunkList.map (·.recs)) disks) (k : Key) (hk : K k) :
    AMap.get (restartTree hash cap ((Store.run hash cfg {} ops).1.chunkList.map (·.recs)) disks) (hash k) =
      AMap.get (Store.step hash cfg (Store.run hash cfg {} ops).1 (.reopen false)).1.tree (hash k) :=
  (reopen_tree_is_hintReplay hash K hInj cfg _ hK _
    (openFiles_spec hash cap hcap _ disks hd (run_contig hash K cfg R ops hops)).1 k hk).symm

end Hints

/-- Shutdown against the post-rotation flushes: in the model a clean shutdown leaves EVERY data file completely on
    disk, whatever had been flushed before — the head file and every file left behind by a rotation whose flush goroutine
    has not run yet (`flushed` arbitrary).  That `Bucket.close` really does this for every file below the head is the
    repaired code (/repo d2aaa9d `flushPending`; call-order fact `bucket.close.order`), exercised by engine crash mix c02
    with several rotations and only SOME of their flushes held while Close runs (seed C02-e). -/
theorem C02_close_flushes_every_file (hash : Key → Nat) (cfg : Store.Cfg) (b : Bucket) (keep : Bool) (i : Nat) :
    ((Store.step hash cfg b (.reopen keep)).1.chunks i).flushed = ((Store.step hash cfg b (.reopen keep)).1.chunks i).recs.length
    ∧ ((Store.step hash cfg b (.reopen keep)).1.chunks i).recs = (b.chunks i).recs :=
  ⟨rfl, rfl⟩

/-! Non-vacuity: a history with two restarts (one loading the tree, one rebuilding it) around a delete. -/
def exOps2 : List Op := [
  .set [97] [1,2,3] 0 0 100 256, .set [98] [9] 7 0 101 256, .delete [98] 256 50, .reopen true, .info [98], .get [97],
  .reopen false, .info [98], .get [97], .set [98] [7] 0 0 102 256, .info [98]]
example : ∀ op ∈ exOps2, OpOK2 exK 5 op := by
  intro op h; simp [exOps2] at h
  rcases h with rfl | rfl | rfl | rfl | rfl | rfl | rfl | rfl | rfl | rfl | rfl <;> simp [OpOK2, OpOK, exK]
example : (Store.run exHash { dataFileMax := 512 } {} exOps2).2 =
    [.stored, .stored, .deleted, .info (-2) 0 0 0 none, .value 0 [1,2,3], .miss, .value 0 [1,2,3], .stored,
     .info 1 (Ref.vhash [7]) 0 1 (some 102)] := by decide +kernel
