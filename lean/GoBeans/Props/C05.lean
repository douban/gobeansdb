/-
  C05 — GC running beside live traffic loses no acknowledged write.

  Model: GoBeans/Model/Conc.lean (second part) — for one key: the tree item (version, position) and the value stored
  at every position; a client write/delete appends its record at a fresh position and sets the item (one step, under
  the bucket write lock); GC, per relocated record, appends a copy at a fresh position (`gcCopy`) and later repoints
  the item from the old position to the copy ONLY IF the item still points at the old position (`gcMove`: test and
  update in one step under the tree lock — /repo "fix: GC repoints a tree item…"; before it the repoint was blind).
  Engine `conc` (mix c05) on the real HStore: files laid out over 2..4 process lives, "cold" keys whose current
  records lie in the range, 2..8 clients writing hot keys and reading all keys beside one pass (any range, merge
  on/off), yields injected at GC's per-record steps; in 60% of the cases the pass is PARKED on a chosen cold key
  between its newest-check and the copy, or between copy and repoint, while a client writes that very key; the
  recorded history is checked with the C04 checks, the final value of every key again after a restart.

  What is proved is said at the theorems below: the first three are about this model, the last about `Store.gcRun`, the
  others about the FINE-GRAINED MODEL (GoBeans/Model/ConcGC.lean on top of Model/ConcFine.lean): the client writers /
  readers / flushers of C04 plus ONE GC thread of 16 micro-steps at the lock granularity of gc.go / datachunk.go, any
  scheduler.
  Three MONITORS mark schedules in which the code leaves the regime the proofs cover (they never change behaviour):
  `hazInplace` (the destination IS the source: a record overwritten in place before the tree is repointed), `hazReuse`
  (`gc.Dst++` lands on a file this pass has emptied), `hazCold` (a flush of a file at or below the range while the pass
  runs / a source whose buffer was never flushed).  The positive theorems are about EVERY schedule in which no monitor
  fires, with the conditional repoint.
  TIED to the real store step by step by engine `concgc`: the GC goroutine is parked at every micro-step boundary
  (hook points cg.*), 16 scripted schedules - those of the counterexamples below and a positive control, each also
  through the request path HStore.GC - are run on the real code and `ConcGC.step` is compared after EVERY decision
  (file lengths, buffers, heads, tree items, locks, thread labels, the gc writer's position and buffer, replies).
  With a monitor fired the statements FAIL ON THE MODEL — counterexamples proved by evaluation, and REPRODUCED ON THE
  REAL CODE by engine concgc (`ConcGC.ExReal.*`, Lemmas/ConcGCReal.lean: the schedules of the real runs evaluated in
  the model; DESIGN.md §9.4): F25 (`unflushed_partial_lost`) was REPAIRED in /repo (168eada: the pass flushes the
  files of its range first - in the model a schedule, a flusher run to completion before `gcStart`, on which
  `hazCold` does not fire at the start); the others are KNOWN FINDINGS with schedule-specific keys.
  `C05_cancelled_pass_is_a_shorter_pass` is tied by engine seq: CancelGC before the first file / after the first /
  second one.  The list (`ConcGC.Ex`, Lemmas/ConcGC.lean): `ce_inplace_get_fails`, `ce_reuse_wrong_value` (a reader parked
  across the reuse of an emptied file returns the key's NEWER value under its older version), `ce_coldflush_fatal`,
  `ce_unflushed_lost` (F25), `ce_stale_reader_fails` (no monitor: a get that took its position before the repoint fails
  after the source file is removed — an error, never a wrong value).
  Partial: sequential consistency, one bucket, one pass, no collisions / hint / collision-table state; interleavings
  on the real code are sampled plus the targeted placements (engine conc), not enumerated.
-/
import GoBeans.Lemmas.Conc
import GoBeans.Lemmas.ConcGC
import GoBeans.Lemmas.ConcGCReal
import GoBeans.Lemmas.GCHistory
open Conc

/-- for every schedule of client operations and GC steps on a key (any interleaving, any number of relocations, copies
    and repoints arbitrarily far apart, positions used once), the register the clients see evolves exactly as under the
    client operations alone; with C04 every such execution passes the history checks: no acknowledged write is replaced
    by the value GC was relocating -/
theorem C05_gc_invisible (steps : List GStep) (s : KeyState) (pend : List (Nat × Nat))
    (hwf : WF s pend steps) (hp : PendOK s pend) :
    (steps.foldl gstep s).reg = (steps.filterMap clientOp).foldl (fun r op => (regStep r op).1) s.reg := by
  induction steps generalizing s pend with
  | nil => rfl
  | cons st rest ih =>
    cases st with
    | client op p =>
      simp only [WF] at hwf
      obtain ⟨_, h2, h3⟩ := hwf
      have hp' : PendOK (gstep s (.client op p)) pend := by
        intro q hq
        have := h2 q hq
        rw [client_data s op p q.2 (Ne.symm this.2), client_data s op p q.1 (Ne.symm this.1)]
        exact hp q hq
      simp only [List.foldl_cons, List.filterMap_cons, clientOp]
      rw [ih _ pend h3 hp', client_step_reg s op p]
    | gcCopy o n =>
      simp only [WF] at hwf
      obtain ⟨h1, h2, h3, h4⟩ := hwf
      have hp' : PendOK (gstep s (.gcCopy o n)) ((o, n) :: pend) := by
        intro q hq
        rcases List.mem_cons.mp hq with hq | hq
        · subst hq; exact gcCopy_data s o n h2
        · have := h3 q hq
          simp only [gstep, setData, Ne.symm this.1, Ne.symm this.2, if_false]
          exact hp q hq
      simp only [List.foldl_cons, List.filterMap_cons, clientOp]
      rw [ih _ _ h4 hp', gcCopy_reg s o n h1]
    | gcMove o n =>
      simp only [WF] at hwf
      obtain ⟨h1, h2⟩ := hwf
      have hd : (gstep s (.gcMove o n)).data = s.data := by
        simp only [gstep]; split <;> rfl
      have hp' : PendOK (gstep s (.gcMove o n)) pend := by
        intro q hq; rw [hd]; exact hp q hq
      simp only [List.foldl_cons, List.filterMap_cons, clientOp]
      rw [ih _ pend h2 hp', gcMove_reg s o n (hp (o, n) h1)]
    | gcMoveBlind o n => simp only [WF] at hwf

/-- a client write placed between copy and repoint survives the conditional repoint -/
theorem C05_conditional_keeps (s : KeyState) (old new p v : Nat) (hp : p ≠ old) :
    (gstep (gstep s (.client (.write v) p)) (.gcMove old new)).reg = { ver := s.item.ver + 1, val := v } := by
  simp [gstep, KeyState.reg, setData, hp]

/-- the same write is lost by the blind repoint: the item keeps the new version and points at the copy of the old record,
    which is what the engine observed before the repair -/
theorem C05_blind_loses (s : KeyState) (old new p v : Nat) (hp : p ≠ new) :
    (gstep (gstep s (.client (.write v) p)) (.gcMoveBlind old new)).reg = { ver := s.item.ver + 1, val := s.data new } := by
  simp [gstep, KeyState.reg, setData, Ne.symm hp]

/-! Non-vacuity: the value 7 at position 1; GC copies it to 5, a client writes 9 at position 8, GC repoints. -/
def exK : KeyState := { item := { ver := 1, pos := 1 }, data := fun q => if q = 1 then 7 else 0 }
def exSched : List GStep := [.gcCopy 1 5, .client (.write 9) 8, .gcMove 1 5, .client .read 0]
example : WF exK [] exSched := by
  simp only [WF, exSched, exK, gstep]
  decide
example : (exSched.foldl gstep exK).reg = { ver := 2, val := 9 } := by decide +kernel
example : ([GStep.gcCopy 1 5, .client (.write 9) 8, .gcMoveBlind 1 5].foldl gstep exK).reg = { ver := 2, val := 7 } := by decide +kernel

/-- per-key histories are atomic executions, failed gets not being events; the tree item of a key always points at a
    record of that key and version readable by the reader's code path: `ConcGC.tree_item_readable`, Lemmas/ConcGC.lean -/
theorem C05_fine_grained (cfg : ConcGC.GCfg) (hb : cfg.blind = false) (sched : List (Nat × ConcGC.Act))
    (hz : ConcGC.noHaz (ConcGC.exec cfg ConcGC.init sched)) (k fut : Nat)
    (hfut : (ConcGC.exec cfg ConcGC.init sched).base.clock ≤ fut) :
    checkA (ConcFine.histAt (ConcGC.exec cfg ConcGC.init sched).base k fut) = true ∧
    checkB (ConcFine.histAt (ConcGC.exec cfg ConcGC.init sched).base k fut) = true :=
  ConcGC.C05_fine_general cfg hb sched hz k fut hfut

/-- `htree.movePos`: an item that no longer points at the record GC looked at (a client has written the key since
    the newest-check) is left alone -/
theorem C05_repoint_keeps_client_write {cfg : ConcGC.GCfg} {s s' : ConcGC.State} (hb : cfg.blind = false)
    {r : ConcFine.Rec} {off : Nat} (hpc : s.gc.pc = .gMove r off) {it : ConcFine.Item}
    (hit : s.base.tree r.key = some it) (hne : it.pos ≠ ⟨s.gc.src, r.off⟩)
    (h : ConcGC.gmicro cfg s = some s') : s'.base.tree = s.base.tree := by
  rcases ConcGC.gmicro_tree h with he | ⟨r', off', it', hpc', hit', hcnd, _⟩
  · exact he
  · obtain ⟨rfl, rfl⟩ := ConcGC.GPC.gMove.inj (hpc.symm.trans hpc')
    obtain rfl := Option.some.inj (hit.symm.trans hit')
    exact absurd (hcnd.resolve_left (by rw [hb]; nofun)) hne

/-- **GC is invisible**: no GC micro-step changes the register (version, value read) of any key -/
theorem C05_gc_invisible_fine {cfg : ConcGC.GCfg} {s s' : ConcGC.State} (hb : cfg.blind = false) (hi : ConcGC.Inv s)
    (hz : ConcGC.noHaz s') (h : ConcGC.gmicro cfg s = some s') (k : Nat) :
    ConcFine.absReg s'.base k = ConcFine.absReg s.base k :=
  ConcGC.gmicro_absReg hb hi.sinv hz h k

/-- at every moment — in particular when the GC thread stands at a file boundary, has been cancelled there, or has
    finished — the register of every key (version of the tree item, value the reader's code path reads at the item's
    position) is the register reached by the key's linearised operations: the item points at the last linearised write -/
theorem C05_every_boundary (cfg : ConcGC.GCfg) (hb : cfg.blind = false) (sched : List (Nat × ConcGC.Act))
    (hz : ConcGC.noHaz (ConcGC.exec cfg ConcGC.init sched)) (hbd : ConcGC.atBoundary (ConcGC.exec cfg ConcGC.init sched) = true) (k : Nat) :
    ConcFine.absReg (ConcGC.exec cfg ConcGC.init sched).base k
        = ConcFine.regFold {} (ConcFine.opsOf (ConcFine.keyHist (ConcGC.exec cfg ConcGC.init sched).base k)) ∧
    ∀ it, (ConcGC.exec cfg ConcGC.init sched).base.tree k = some it →
      ∃ r, ConcFine.lookup ((ConcGC.exec cfg ConcGC.init sched).base.chunks it.pos.chunk) it.pos.off = some r ∧ r.key = k ∧ r.ver = it.ver := by
  have hi := ConcGC.inv_reachable cfg hb sched hz
  refine ⟨(hi.hist.reg k).symm, fun it hit => ?_⟩
  obtain ⟨r, h1, h2, h3, _⟩ := ConcGC.tree_item_readable hi hit
  exact ⟨r, h1, h2, h3⟩

/-- no `Fatalf`, no index panic of the flusher (`fatal`); no get takes the error branch of `ConcFine.micro` (`readErr`): a get
    that fails beside the pass is `ConcGC.readFail`, counted in `fails`, of which this says nothing -/
theorem C05_no_fatal (cfg : ConcGC.GCfg) (hb : cfg.blind = false) (sched : List (Nat × ConcGC.Act))
    (hz : ConcGC.noHaz (ConcGC.exec cfg ConcGC.init sched)) :
    (ConcGC.exec cfg ConcGC.init sched).base.fatal = false ∧ (ConcGC.exec cfg ConcGC.init sched).base.readErr = false :=
  ⟨(ConcGC.inv_reachable cfg hb sched hz).alive, (ConcGC.inv_reachable cfg hb sched hz).noerr⟩

/-- WITHOUT the monitor hypothesis the statement is false on the model: the schedule of the real run `reuse`
    (`ConcGC.ExReal.reuse_wrong_pair`: a reader parked across the reuse of a file the pass has emptied) -/
theorem C05_unrestricted_statement_false : ¬ ConcGC.C05_fine_statement := by
  intro h
  have hx := ConcGC.ExReal.reuse_wrong_pair
  unfold ConcGC.ExReal.sR at hx
  have h1 := (h ConcGC.ExReal.cfgR _ 7 1000 rfl hx.2.2.2.2.1).1
  rw [hx.2.2.2.2.2.2] at h1
  exact Bool.noConfusion h1

/-- the statement for the in-place path alone (`ConcGC.C05_inplace_statement`, Lemmas/ConcGC.lean) is false as well: the
    schedule of the real run `reuse-delete` (a delete marker lands on the position a parked reader holds) -/
theorem C05_inplace_statement_false : ¬ ConcGC.C05_inplace_statement := ConcGC.ExReal.C05_inplace_statement_false

/-- "(or is cancelled)": a pass cancelled at a file boundary has looked at the files [begin, stop'] for some stop' below
    the end of its range - it IS the pass over that shorter range, which re-establishes every invariant of the store
    with the SAME reference map (so every key holds its last acknowledged write, also after a restart) -/
theorem C05_cancelled_pass_is_a_shorter_pass (hash : Spec.Key → Nat) (K : Spec.Key → Prop) (cfg : Store.Cfg)
    (hInj : StoreLemmas.InjOn hash K) {n : Nat} {b : Store.Bucket} {m : Spec.KV}
    (inv : StoreLemmas.Inv hash K n b m) (lr : StoreLemmas.LastRec hash K b) (w : StoreLemmas.WF cfg b) (nz : StoreLemmas.NoZero b)
    (begin stop stop' : Nat) (h1 : begin ≤ stop') (h2 : stop' ≤ stop) (hs : stop < b.head) :
    StoreLemmas.Inv hash K n (Store.gcRun hash cfg b begin stop').1 m ∧ StoreLemmas.LastRec hash K (Store.gcRun hash cfg b begin stop').1
    ∧ StoreLemmas.WF cfg (Store.gcRun hash cfg b begin stop').1 ∧ StoreLemmas.NoZero (Store.gcRun hash cfg b begin stop').1
    ∧ (Store.gcRun hash cfg b begin stop').1.head = b.head :=
  StoreLemmas.gcRun_refines hash K cfg hInj inv lr w nz begin stop' h1 (by omega)
