/-
  C12 — request tokens and buffer accounting return to zero at quiescence.

  Model: GoBeans/Model/Proto.lean — one `serveOnce` per call of the real `ServerConn.ServeOnce`, threading the
  ledger (GetData / SetData / FlushData / AllocRL count and size, free request tokens) through the same
  acquire / hand-over / release steps as the code: token taken in `Request.Read`, body allocated and counted as
  SetData, handed to the store (SetData -> FlushData when the record is written, released when it is not),
  read buffers counted as GetData until `CleanBuffer`, token returned by the deferred `RL.Put`, FlushData and
  the C allocation released by the flusher.
  Tied to the real memcache.ServerConn + gobeansdb.StorageClient + HStore by engine `proto`: after every served
  command the eight counters and the free-token count of the implementation must equal the model's, and be all
  zero (tokens = max_req) after the final flush.

  One connection (`C12_step` … `C12_quiescence`): EVERY byte stream (any length, any content, cut anywhere), any number
  of served commands.
  SEVERAL CONNECTIONS (GoBeans/Model/LedgerConc.lean, `C12_conc_*`): every command is the ordered list of ATOMIC
  micro-operations the code performs (token take `<-rl.Chan`, one atomic add on one of the eight counters, hand-over of a
  buffer to the write buffer, I/O, token return), derived per command kind and outcome and PROVED to fold to exactly what
  `Proto.serve` does to the ledger (`C12_micro_ops_are_serve`; the flusher: `LedgerConc.flushOps_flush`); any number of
  connections and flusher threads, an arbitrary scheduler, a token take enabled only while a token is free.  The
  hypotheses of the quiescence theorems: no served command took one of the paths that do not give back what they took
  (`Outcome.clean`), and every get released what its keys returned, in any order (`RelOK`); the commands of
  Model/Proto.lean satisfy both (`LedgerConc.outcomeOf_ok`).
  Of the four leaking paths of Model/LedgerConc.lean the RECV_TIMEOUT one is the code before /repo dbaaaea; the code now
  gives back on it.
  Partial:
  in Model/Proto.lean values are not compressed (a compressed value changes only the size carried by FlushData), and the
  OOM refusal, malloc failure and connection write errors are not modelled.  Model/LedgerConc.lean has compression and
  malloc failure as outcomes (`Attempt`, `RdBuf.dec`, `StoreEnd.allocFail`); no command of Model/Proto.lean takes them.
-/
import GoBeans.Lemmas.Proto
import GoBeans.Lemmas.LedgerConcProto
import GoBeans.Lemmas.LedgerConc
open Proto

/-- the server at start: nothing stored, nothing buffered, all tokens free -/
def C12_init (cfg : Cfg) : St := { led := zero cfg }

theorem C12_init_quiet (cfg : Cfg) : Quiet cfg (C12_init cfg) := rfl

/-- one served command, whatever the bytes: the ledger stays the ownership of the write buffer -/
theorem C12_step (cfg : Cfg) (st : St) (inp : Bytes) (h : Quiet cfg st) : Quiet cfg (serveOnce cfg st inp).st :=
  serveOnce_quiet cfg st inp h

/-- between commands: get and set counters zero, all tokens free, FlushData count = number of buffers the write buffer owns -/
theorem C12_idle_ledger (cfg : Cfg) (fuel : Nat) (inp : Bytes) :
    let st := (serve cfg fuel (C12_init cfg) inp).1
    st.led.getC = 0 ∧ st.led.getS = 0 ∧ st.led.setC = 0 ∧ st.led.setS = 0 ∧ st.led.tokens = cfg.maxReq
    ∧ st.led.flushC = st.pend.length := by
  have h := serve_quiet cfg fuel (C12_init cfg) inp (C12_init_quiet cfg)
  generalize (serve cfg fuel (C12_init cfg) inp).1 = st at h
  have := LedgerConc.ownSum_proj st.pend
  have := LedgerConc.ownSum_tokens st.pend
  simp only [show st.led = _ from h, LedgerConc.idle_eq, LedgerConc.zero, LedgerConc.add_getC, LedgerConc.add_getS,
    LedgerConc.add_setC, LedgerConc.add_setS, LedgerConc.add_tokens, LedgerConc.add_flushC]
  omega

/-- quiescence: any stream, any number of commands, then the flusher: every counter zero, every token free -/
theorem C12_quiescence (cfg : Cfg) (fuel : Nat) (inp : Bytes) :
    (flush (serve cfg fuel (C12_init cfg) inp).1).led = zero cfg :=
  (flush_zero cfg _ (serve_quiet cfg fuel (C12_init cfg) inp (C12_init_quiet cfg))).1

/-- the micro-operations of the commands served on a connection fold to exactly what `serve` does to ledger and write
    buffer -/
theorem C12_micro_ops_are_serve (cfg : Cfg) (fuel : Nat) (st : Proto.St) (inp : Bytes) :
    LedgerConc.applyOps ((LedgerConc.outcomes cfg fuel st inp).flatMap LedgerConc.microOps) st.led = (Proto.serve cfg fuel st inp).1.led
    ∧ st.pend ++ LedgerConc.pushes ((LedgerConc.outcomes cfg fuel st inp).flatMap LedgerConc.microOps) = (Proto.serve cfg fuel st inp).1.pend := by
  induction fuel generalizing st inp with
  | zero => simp [LedgerConc.outcomes, Proto.serve, LedgerConc.applyOps]
  | succ n ih =>
    have h1 := LedgerConc.serveOnce_microOps cfg st inp
    unfold LedgerConc.outcomes Proto.serve
    simp only []
    split
    · simpa using h1
    · have h2 := ih (Proto.serveOnce cfg st inp).st (inp.drop (Proto.serveOnce cfg st inp).n)
      simp only [List.flatMap_cons, LedgerConc.applyOps_append, LedgerConc.pushes_append, h1.1, ← List.append_assoc, h1.2]
      exact h2

namespace LedgerConc

/-- the flusher's half of `C12_micro_ops_are_serve` -/
theorem flushOps_flush (st : Proto.St) : applyOps (flushOps st.pend) st.led = (Proto.flush st).led := by
  rw [applyOps_eq, eff_flushOps, Proto.flush_eq]

/-- EVERY schedule, any number of connections / commands / flushers, ANY outcomes (leaking ones included):
    the ledger is the sum of what every thread holds, what completed commands left behind and what the write buffers
    own; free tokens = maxReq − commands holding one, between 0 and maxReq -/
theorem C12_conc_invariant (cfg : Cfg) (conns : List (List Outcome)) (nf : Nat) (sched : List Action) :
    let s := run (system cfg conns nf) sched
    s.led = zero cfg + vsum (s.conns.map Conn.share) + vsum (s.flushers.map Flusher.held) + ownSum s.pend
    ∧ s.led.tokens = (cfg.maxReq : Int) - (s.conns.countP (fun c => holding c.done))
    ∧ 0 ≤ s.led.tokens ∧ s.led.tokens ≤ cfg.maxReq := by
  intro s
  obtain ⟨hw, hi⟩ := system_inv cfg conns nf sched
  exact ⟨hi.1, tokens_eq hw hi, (tokens_bounds hw hi).1, (tokens_bounds hw hi).2⟩

/-- the C12 statement: no leaking path taken, every connection between commands (or closed — also closed in the
    middle of a body, `StoreEnd.cut`), flushers idle, write buffers empty ⇒ all eight counters zero, all tokens free -/
theorem C12_conc_quiescence (cfg : Cfg) (conns : List (List Outcome)) (nf : Nat) (sched : List Action)
    (hc : ∀ os ∈ conns, ∀ o ∈ os, o.clean = true ∧ RelOK o)
    (hq : quiescent (run (system cfg conns nf) sched) = true) :
    (run (system cfg conns nf) sched).led = zero cfg := by
  obtain ⟨hw, hi⟩ := system_inv cfg conns nf sched
  exact quiescent_zero hw (system_Bal cfg nf sched hc) hi hq

/-- between commands with data still buffered: Get and Set counters zero, all tokens free, Flush/Alloc = what
    the write buffers own.  `C12_idle_ledger` for several connections: the right side is `Proto.idle cfg pend`
    (`idle_eq`) -/
theorem C12_conc_idle (cfg : Cfg) (conns : List (List Outcome)) (nf : Nat) (sched : List Action)
    (hc : ∀ os ∈ conns, ∀ o ∈ os, o.clean = true ∧ RelOK o)
    (h1 : ∀ c ∈ (run (system cfg conns nf) sched).conns, c.todo = [])
    (h2 : ∀ f ∈ (run (system cfg conns nf) sched).flushers, f.todo = []) :
    (run (system cfg conns nf) sched).led = zero cfg + ownSum (run (system cfg conns nf) sched).pend := by
  obtain ⟨hw, hi⟩ := system_inv cfg conns nf sched
  exact idle_ledger hw (system_Bal cfg nf sched hc) hi h1 h2

/-- the exact version, leaks included: after everything was served and flushed the ledger is the idle ledger
    plus the sum of `leak o` over ALL served commands — zero exactly when no leaking path was taken -/
theorem C12_conc_finished_exact (cfg : Cfg) (conns : List (List Outcome)) (nf : Nat) (sched : List Action)
    (hr : ∀ os ∈ conns, ∀ o ∈ os, RelOK o)
    (hq : finished (run (system cfg conns nf) sched) = true) :
    (run (system cfg conns nf) sched).led = zero cfg + vsum (conns.map (fun os => vsum (os.map leak))) := by
  obtain ⟨hw, hi⟩ := system_inv cfg conns nf sched
  rw [finished_ledger hw hi hq, run_cmds, system, init_cmds, List.map_map, List.map_map]
  congr 2
  refine List.map_congr_left fun os hos => ?_
  simp only [Function.comp, List.map_cons, vsum_cons, resid_nil, nil_vadd, program, List.map_map]
  congr 1
  exact List.map_congr_left fun o ho => resid_microOps o (hr os hos o ho)

/-- a connection blocked in `<-rl.Chan` is never waiting for itself: another connection holds a token and its next
    micro-operation is enabled -/
theorem C12_conc_no_deadlock (cfg : Cfg) (hm : 1 ≤ cfg.maxReq) (conns : List (List Outcome)) (nf : Nat) (sched : List Action)
    (i : Nat) (hb : blocked (run (system cfg conns nf) sched) i = true) :
    ∃ j c, j ≠ i ∧ (run (system cfg conns nf) sched).conns[j]? = some c ∧ holding c.done = true
      ∧ (step (run (system cfg conns nf) sched) (.conn j)).isSome = true := by
  obtain ⟨hw, hi⟩ := system_inv cfg conns nf sched
  exact no_deadlock hw hi hm i hb

/-- from every reachable state some continuation of the schedule serves every command and flushes everything -/
theorem C12_conc_drain (cfg : Cfg) (hm : 1 ≤ cfg.maxReq) (conns : List (List Outcome)) (nf : Nat) (hnf : 1 ≤ nf)
    (sched : List Action) : ∃ more, finished (run (system cfg conns nf) (sched ++ more)) = true := by
  obtain ⟨hw, hi⟩ := system_inv cfg conns nf sched
  have hfl : 0 < (run (system cfg conns nf) sched).flushers.length := by
    rw [run_flushers_length]; simp [system, init]; omega
  obtain ⟨more, hmore⟩ := drain hw hi hm hfl
  exact ⟨more, by rw [run_append]; exact hmore⟩

def exCfg : Cfg := { bodyInC := 64, maxReq := 1 }
def big : Buf := { cap := 70, inC := true }
def small : Buf := { cap := 10, inC := false }

/-- three connections: a stored C value then a hit on it; an incr then a set cut off inside its body; a multi-get
    (tombstone read, hit with decompression, collision) then a delete -/
def exConns : List (List Outcome) :=
  [ [.store big (.written { tries := [{ cap := 470, inC := true }] } {}), .get [.hit { raw := big }] [big]],
    [.incr (.written .miss {}), .store small .cut],
    [.get [.transient { raw := small }, .hit { raw := small, dec := some big }, .collision { raw := small } { raw := big }]
          [big, big], .plain] ]

theorem exConns_ok : ∀ os ∈ exConns, ∀ o ∈ os, o.clean = true ∧ RelOK o := by decide

/-- round robin over the three connections and the flusher, then the flusher takes everything, then works it off -/
def exSched : List Action :=
  (List.replicate 90 [Action.conn 0, .conn 1, .conn 2, .flush 0]).flatten
    ++ [.snap 0 [true, true]] ++ List.replicate 12 (.flush 0)

-- with ONE token: the invariant holds after every prefix of the schedule
example : invAlong exCfg (system exCfg exConns 1) exSched = true :=
  invAlong_of_inv _ _ (system_inv exCfg exConns 1 []).1 (system_inv exCfg exConns 1 []).2
-- the ledger is not trivially zero on the way: after 24 choices connection 0 holds the token and a counted C body,
-- connection 1 has counted its incr and is blocked on the token, connection 2 is blocked too
example : (run (system exCfg exConns 1) (exSched.take 24)).led
    = { getC := 0, getS := 0, setC := 2, setS := 70, flushC := 0, flushS := 0, allocC := 1, allocS := 70, tokens := 0 } := by
  decide +kernel
example : (blocked (run (system exCfg exConns 1) (exSched.take 24)) 1, blocked (run (system exCfg exConns 1) (exSched.take 24)) 2,
           (step (run (system exCfg exConns 1) (exSched.take 24)) (.conn 0)).isSome) = (true, true, true) := by
  decide +kernel
/-- a theorem so that the examples below share one evaluation of the schedule -/
theorem exFinished : finished (run (system exCfg exConns 1) exSched) = true := by decide +kernel
-- at the end everything was served and flushed: hypotheses of C12_conc_quiescence are satisfiable, conclusion as computed
example : finished (run (system exCfg exConns 1) exSched) = true := exFinished
example : quiescent (run (system exCfg exConns 1) exSched) = true := quiescent_of_finished exFinished
example : (run (system exCfg exConns 1) exSched).led = zero exCfg :=
  C12_conc_quiescence exCfg exConns 1 exSched exConns_ok (quiescent_of_finished exFinished)
-- before the flusher ran: two buffers (the 70-byte body in C memory, the incr value on the Go heap) are owned by the write buffer
example : (run (system exCfg exConns 1) (exSched.take 360)).led
    = { getC := 0, getS := 0, setC := 0, setS := 0, flushC := 2, flushS := 70, allocC := 1, allocS := 70, tokens := 1 } := by
  decide +kernel

/-- the leaking paths: one connection whose set is answered RECV_TIMEOUT as the code was before /repo dbaaaea
    (`StoreEnd.recvTimeoutLeak`; server.go:125-135 now gives back what was counted), one whose get hits a short read
    (datafile.go:140-154), one whose get decompresses a damaged value (datachunk.go:168-169), an overdue incr (as the
    set), and a two-key get whose second key panics in SizeDecompressed after the first was fetched -/
def leakConns : List (List Outcome) :=
  [ [.store big .recvTimeoutLeak], [.get [.readErrLeak big] []], [.get [.decompFailLeak small 95] [small]], [.incr .recvTimeoutLeak],
    [.getPanic [.hit { raw := small }] { cap := 0, inC := false }] ]
def leakSched : List Action := (List.replicate 40 [Action.conn 0, .conn 1, .conn 2, .conn 3, .conn 4]).flatten

theorem leakFinished : finished (run (system exCfg leakConns 1) leakSched) = true := by decide +kernel
example : finished (run (system exCfg leakConns 1) leakSched) = true := leakFinished
/-- all tokens are back, but SetData (count 2, size 70), GetData (count 2, size 105) and AllocRL (2 buffers, 140 bytes) are not -/
example : (run (system exCfg leakConns 1) leakSched).led
    = { getC := 2, getS := 105, setC := 2, setS := 70, flushC := 0, flushS := 0, allocC := 2, allocS := 140, tokens := 1 } := by
  decide +kernel
theorem leakConns_rel : ∀ os ∈ leakConns, ∀ o ∈ os, RelOK o := by decide
example : (run (system exCfg leakConns 1) leakSched).led = zero exCfg + vsum (leakConns.map (fun os => vsum (os.map leak))) :=
  C12_conc_finished_exact exCfg leakConns 1 leakSched leakConns_rel leakFinished
example : vsum (leakConns.map (fun os => vsum (os.map leak)))
    = { getC := 2, getS := 105, setC := 2, setS := 70, flushC := 0, flushS := 0, allocC := 2, allocS := 140, tokens := 0 } := by
  decide +kernel

def exStream : Bytes :=
  Proto.ascii "set k 0 0 70\r\n" ++ List.replicate 70 120 ++ Proto.ascii "\r\nget k k\r\nset k 0 0\r\nincr n 5\r\nset j 0 0 10\r\nabc"
def protoCfg : Cfg := { bodyInC := 64 }
/-- the stream of the examples at the end of this file: its outcomes, the ledger and the replies after it, in one
    evaluation that those examples share -/
theorem exStream_served : outcomes protoCfg 10 { led := zero protoCfg } exStream
      = [.store big (.written {} {}), .get [.hit { raw := big }] [big], .plain, .incr (.written .miss {}), .store small .cut]
    ∧ ((Proto.serve protoCfg 10 { led := zero protoCfg } exStream).1.led.flushC,
       (Proto.serve protoCfg 10 { led := zero protoCfg } exStream).1.led.flushS,
       (Proto.serve protoCfg 10 { led := zero protoCfg } exStream).1.led.allocC,
       (Proto.serve protoCfg 10 { led := zero protoCfg } exStream).1.led.allocS) = (2, 70, 1, 70)
    ∧ (Proto.serve protoCfg 10 { led := zero protoCfg } exStream).2.map (fun r => r.isSome) = [true, true, true, true, false] := by
  decide +kernel
example : outcomes protoCfg 10 { led := zero protoCfg } exStream
    = [.store big (.written {} {}), .get [.hit { raw := big }] [big], .plain, .incr (.written .miss {}), .store small .cut] :=
  exStream_served.1

end LedgerConc

/-! The statements of `LedgerConc.C12_conc_*` under the names DESIGN.md gives for C12. -/

theorem C12_conc_invariant (cfg : Cfg) (conns : List (List LedgerConc.Outcome)) (nf : Nat) (sched : List LedgerConc.Action) :
    let s := LedgerConc.run (LedgerConc.system cfg conns nf) sched
    s.led = zero cfg + LedgerConc.vsum (s.conns.map LedgerConc.Conn.share) + LedgerConc.vsum (s.flushers.map LedgerConc.Flusher.held)
        + LedgerConc.ownSum s.pend
    ∧ s.led.tokens = (cfg.maxReq : Int) - (s.conns.countP (fun c => LedgerConc.holding c.done))
    ∧ 0 ≤ s.led.tokens ∧ s.led.tokens ≤ cfg.maxReq :=
  LedgerConc.C12_conc_invariant cfg conns nf sched

theorem C12_conc_quiescence (cfg : Cfg) (conns : List (List LedgerConc.Outcome)) (nf : Nat) (sched : List LedgerConc.Action)
    (hc : ∀ os ∈ conns, ∀ o ∈ os, o.clean = true ∧ LedgerConc.RelOK o)
    (hq : LedgerConc.quiescent (LedgerConc.run (LedgerConc.system cfg conns nf) sched) = true) :
    (LedgerConc.run (LedgerConc.system cfg conns nf) sched).led = zero cfg :=
  LedgerConc.C12_conc_quiescence cfg conns nf sched hc hq

theorem C12_conc_no_deadlock (cfg : Cfg) (hm : 1 ≤ cfg.maxReq) (conns : List (List LedgerConc.Outcome)) (nf : Nat)
    (sched : List LedgerConc.Action) (i : Nat)
    (hb : LedgerConc.blocked (LedgerConc.run (LedgerConc.system cfg conns nf) sched) i = true) :
    ∃ j c, j ≠ i ∧ (LedgerConc.run (LedgerConc.system cfg conns nf) sched).conns[j]? = some c ∧ LedgerConc.holding c.done = true
      ∧ (LedgerConc.step (LedgerConc.run (LedgerConc.system cfg conns nf) sched) (.conn j)).isSome = true :=
  LedgerConc.C12_conc_no_deadlock cfg hm conns nf sched i hb

theorem C12_conc_drain (cfg : Cfg) (hm : 1 ≤ cfg.maxReq) (conns : List (List LedgerConc.Outcome)) (nf : Nat) (hnf : 1 ≤ nf)
    (sched : List LedgerConc.Action) :
    ∃ more, LedgerConc.finished (LedgerConc.run (LedgerConc.system cfg conns nf) (sched ++ more)) = true :=
  LedgerConc.C12_conc_drain cfg hm conns nf hnf sched

/-! Non-vacuity: a stream with a stored value above the C threshold, a hit, a malformed command, an incr, a body cut short.
    The ledger is not zero after it: the write buffer owns the 70-byte body (in C) and the value of the incr (Go heap). -/
def exCfg : Cfg := { bodyInC := 64 }
def exStream : Bytes :=
  ascii "set k 0 0 70\r\n" ++ List.replicate 70 120 ++ ascii "\r\nget k k\r\nset k 0 0\r\nincr n 5\r\nset j 0 0 10\r\nabc"
/-- the same stream, configuration and start state as those `LedgerConc.exStream_served` evaluates -/
theorem exServe_eq : serve exCfg 10 (C12_init exCfg) exStream
    = serve LedgerConc.protoCfg 10 { led := LedgerConc.zero LedgerConc.protoCfg } LedgerConc.exStream := rfl
example : ((serve exCfg 10 (C12_init exCfg) exStream).1.led.flushC,
           (serve exCfg 10 (C12_init exCfg) exStream).1.led.flushS,
           (serve exCfg 10 (C12_init exCfg) exStream).1.led.allocC,
           (serve exCfg 10 (C12_init exCfg) exStream).1.led.allocS) = (2, 70, 1, 70) := by
  rw [exServe_eq]
  exact LedgerConc.exStream_served.2.1
example : ((serve exCfg 10 (C12_init exCfg) exStream).2.map (fun r => r.isSome)) = [true, true, true, true, false] := by
  rw [exServe_eq]
  exact LedgerConc.exStream_served.2.2
