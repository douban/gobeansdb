/-
  C07 — process kill during GC leaves every key readable with its pre-GC value.

  Model (log view, Lemmas/GCLog.lean): the pass processes the records of the collected range in order; after any
  number of them the data files hold, in (file, offset) order,
        before ++ relocate(kept(processed)) ++ tail ++ rest ++ after
  where `tail` — what is still on disk of the already processed originals of the source being read — is a suffix of
  `processed` (all of that file's processed records if it is a separate file, the not yet overwritten ones if it
  is the file rewritten in place, none once that file has been read to its end: its stale tail is cut off BEFORE
  any later source file is removed; completed sources are gone).  Recovery after a kill rebuilds the tree by replay
  (tree dump and merged hints are deleted before the pass; C02_rebuild_is_replay, C06).
  Tied to the real store by engine `crash` (mix c07): one pass over any range of a multi-file layout, a directory copy
  before ~70% of the pass's file-system mutations (record writes behind the bufio layer, truncate, source remove, hint
  removes/dumps, GC-state write) plus torn variants of the writes; every copy is opened by a new HStore and every key
  read.  Checked per crash state: its data files are one of the abstract intermediate states (kind=model,
  `gc-interm-abstraction`: that the concrete pass visits exactly these states is checked so, not proved), and every key
  reads its pre-pass value (kind=oracle).

  Proved here (any log, any split, any number of processed records, any suffix `tail`, any relocation):
   * `C07_every_intermediate_state_reads_as_before` — the live last record of EVERY key in an intermediate state
     equals the one before the pass (no loss, no older version, no resurrection of a deleted key);
   * `C07_after_replay` — hence the tree rebuilt by replay from a crash state has, for every key, a live item iff it
     had one before the pass, with the same version and value hash.
  Partial / known findings (the theorem is about record-granular states; these are byte-granular):
   * a kill INSIDE the write of a relocated record that is being appended leaves a partial record at the end of the
     destination file: the store refuses to start (fail-stop, as C06 allows; C07 does not) — KNOWN-FINDING
     C07/refused-torn-appended-record;
   * a kill inside the in-place write of a multi-block record that moves down by less than its own length leaves
     neither the old nor the new copy decodable: the key's value is lost — KNOWN-FINDING C07/lost-after-partial-inplace-move
     (needs copy-then-switch; not a small fix);
   * before /repo commit "fix: GC cuts off the stale tail…" the in-place file kept its stale tail until the end of the
     pass while later sources were already removed: deleted keys reappeared and older values came back; the theorem's
     `tail = []` after the in-place file is the repaired behaviour.
-/
import GoBeans.Lemmas.GCLog
open Store Spec StoreLemmas

theorem C07_every_intermediate_state_reads_as_before (hasEntry : Key → Bool) (beginPos : Bool) (reloc : Pos → Pos)
    (before m1 tail rest after : List (Pos × Rec))
    (hpre : beginPos = false → before = [])
    (hEntry : ∀ k, hasEntry k = false → ∀ x, lastOf k (before ++ ((m1 ++ tail) ++ rest) ++ after) = some x → x.2.ver < 0)
    (k : Key) :
    liveRec k (before ++ relocate reloc ((m1 ++ tail).filter (gcKeep hasEntry beginPos (before ++ ((m1 ++ tail) ++ rest) ++ after)))
                ++ (tail ++ rest ++ after))
      = liveRec k (before ++ ((m1 ++ tail) ++ rest) ++ after) := by
  -- the state with the duplicated tail, seen as a completed pass over `m1 ++ tail` with `tail ++ rest ++ after` behind it
  have hsame : ∀ k', lastOf k' (before ++ (m1 ++ tail) ++ (tail ++ (rest ++ after)))
                   = lastOf k' (before ++ ((m1 ++ tail) ++ rest) ++ after) := by
    intro k'
    rw [← List.append_assoc before m1 tail, lastOf_dup_suffix]
    simp only [List.append_assoc]
  have key := gc_preserves_live hasEntry beginPos reloc before (m1 ++ tail) (tail ++ (rest ++ after)) hpre
    (by
      intro k' he x hx
      rw [hsame] at hx
      exact hEntry k' he x hx) k
  have hfilter : (m1 ++ tail).filter (gcKeep hasEntry beginPos (before ++ (m1 ++ tail) ++ (tail ++ (rest ++ after))))
               = (m1 ++ tail).filter (gcKeep hasEntry beginPos (before ++ ((m1 ++ tail) ++ rest) ++ after)) := by
    apply List.filter_congr
    intro x _
    unfold gcKeep; rw [hsame]
  rw [hfilter] at key
  rw [liveRec_congr (hsame k)] at key
  simpa only [List.append_assoc] using key

theorem C07_after_replay (hash : Key → Nat) (K : Key → Prop) (hInj : InjOn hash K)
    (hasEntry : Key → Bool) (beginPos : Bool) (reloc : Pos → Pos) (before m1 tail rest after : List (Pos × Rec))
    (hpre : beginPos = false → before = [])
    (hEntry : ∀ k, hasEntry k = false → ∀ x, lastOf k (before ++ ((m1 ++ tail) ++ rest) ++ after) = some x → x.2.ver < 0)
    (hkeys : ∀ x ∈ before ++ ((m1 ++ tail) ++ rest) ++ after, K x.2.key) (k : Key) (hk : K k) :
    let crashed := before ++ relocate reloc ((m1 ++ tail).filter (gcKeep hasEntry beginPos (before ++ ((m1 ++ tail) ++ rest) ++ after)))
                    ++ (tail ++ rest ++ after)
    (AMap.get (replayTree hash crashed) (hash k)).map (fun it => (it.ver, it.vhash))
      = (AMap.get (replayTree hash (before ++ ((m1 ++ tail) ++ rest) ++ after)) (hash k)).map (fun it => (it.ver, it.vhash)) := by
  intro crashed
  have hkeys' : ∀ x ∈ crashed, K x.2.key := by
    simp only [crashed, List.forall_mem_append] at hkeys ⊢
    obtain ⟨⟨hb, ⟨hm1, htl⟩, hr⟩, ha⟩ := hkeys
    exact ⟨⟨hb, keys_relocate_filter (List.forall_mem_append.2 ⟨hm1, htl⟩)⟩, ⟨htl, hr⟩, ha⟩
  exact replay_eq_of_liveRec hash K hInj hkeys' hkeys k hk
    (C07_every_intermediate_state_reads_as_before hasEntry beginPos reloc before m1 tail rest after hpre hEntry k)

/-! Non-vacuity, with the repaired defect as the counterexample: file 0 = [A1, B1] rewritten in place, file 1 = [A-del]
    (range starts at file 0, so the delete marker of the unknown key A is dropped). -/
def cA1 : Rec := { key := [97], ver := 1, flag := 0, ts := none, body := [1], size := 256 }
def cB1 : Rec := { key := [98], ver := 1, flag := 0, ts := none, body := [3], size := 256 }
def cAd : Rec := { key := [97], ver := -2, flag := 0, ts := none, body := [], size := 256 }
def cMid : List (Pos × Rec) := [(⟨0, 0⟩, cA1), (⟨0, 256⟩, cB1), (⟨1, 0⟩, cAd)]
def cKeep := gcKeep (fun k => k == [98]) false cMid
example : cMid.filter cKeep = [(⟨0, 256⟩, cB1)] := by decide +kernel
-- file 0 read to its end, tail cut off, file 1 not yet processed:
example : liveRec [97] (relocate id ((cMid.take 2).filter cKeep) ++ ([] ++ cMid.drop 2)) = none := by decide +kernel
-- everything processed, file 1 removed:
example : liveRec [97] (relocate id (cMid.filter cKeep)) = none := by decide +kernel
-- before the repair: file 1 removed while file 0 still carried its stale tail [A1, B1] behind the relocated B1; this
-- is NOT of the theorem's form, and A is live again
example : liveRec [97] (relocate id (cMid.filter cKeep) ++ cMid.take 2) = some cA1 := by decide +kernel
