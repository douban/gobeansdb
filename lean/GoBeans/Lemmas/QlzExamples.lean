/-
  QuickLZ (C10) — test vectors: kernel-checked evaluations of the `Decompress` / `DecompressSafe` and `Compress` models on
  streams the real code produced (non-vacuity of the hypotheses of the round-trip theorems at both levels).  Larger inputs
  are compared with the real code by engine `qlz`.
-/
import GoBeans.Lemmas.QlzEnc3
import GoBeans.Lemmas.Qlz1Enc
namespace QlzLemmas
open Qlz

/-- "abc"·14 ++ "_the_end" (50 bytes) -/
def exOrig : Buf := #[97, 98, 99, 97, 98, 99, 97, 98, 99, 97, 98, 99, 97, 98, 99, 97, 98, 99, 97, 98, 99, 97, 98, 99, 97, 98, 99, 97, 98,
  99, 97, 98, 99, 97, 98, 99, 97, 98, 99, 97, 98, 99, 95, 116, 104, 101, 95, 101, 110, 100]
/-- what the real `Compress(exOrig, 1)` returns (engine qlz: the model's `compress` agrees byte for byte) -/
def exC1 : Buf := #[71, 27, 0, 0, 0, 50, 0, 0, 0, 8, 0, 0, 128, 97, 98, 99, 112, 69, 39, 95, 116, 104, 101, 95, 101, 110, 100]
/-- `Compress(exOrig, 3)` -/
def exC3 : Buf := #[79, 28, 0, 0, 0, 50, 0, 0, 0, 8, 0, 0, 128, 97, 98, 99, 3, 146, 1, 0, 95, 116, 104, 101, 95, 101, 110, 100]

example : headerLen exC1 = some 9 ∧ sizeCompressed exC1 = some 27 ∧ sizeDecompressed exC1 = some 50 ∧ levelOf exC1 = some 1 ∧ cbitOf exC1 = some 1 := by decide
example : headerLen exC3 = some 9 ∧ sizeCompressed exC3 = some 28 ∧ sizeDecompressed exC3 = some 50 ∧ levelOf exC3 = some 3 ∧ cbitOf exC3 = some 1 := by decide
/-- 3-byte header form (what the C library writes below 216 bytes) -/
example : headerLen #[0x4d, 12, 4, 0] = some 3 ∧ sizeCompressed #[0x4d, 12, 4, 0] = some 12 ∧ sizeDecompressed #[0x4d, 12, 4, 0] = some 4 := by decide
/-- too short for the header form it announces: the size functions panic -/
example : sizeDecompressed #[0x4f, 9, 0, 0, 0, 1] = none ∧ sizeCompressed #[] = none ∧ decompressSafe #[] = .error .recovered := by decide

theorem ex_decompress_level3 : decompressSafe exC3 = .ok exOrig := by decide +kernel

/-- non-vacuity of `step_cont` / `loopWork_le` on the level-1 example; the whole call does 56 units of work against the
    bound 262·19 + 50 -/
example : (match step exC1 1 50 (initSt 9 50) with
           | some (.cont st') => decide (st'.src = 14 ∧ st'.dst = 1 ∧ st'.lastHashed = -1 ∧ st'.cword = 0x40000004)
           | _ => false) = true := by decide +kernel
example : Gap (initSt 9 50) := by simp [Gap, initSt]
example : decompressWork exC1 = 56 := by decide +kernel

/-- a damaged match token (byte 18 of `exC1`: 39 → 255): matchlen becomes 255 and the copy leaves the 50-byte destination;
    `DecompressSafe` reports the panic as an error -/
example : decompressSafe #[71, 27, 0, 0, 0, 50, 0, 0, 0, 8, 0, 0, 128, 97, 98, 99, 112, 69, 255, 95, 116, 104, 101, 95, 101, 110, 100] = .error .recovered := by
  decide +kernel
/-- wrong length: rejected before `Decompress` is entered -/
example : decompressSafe (exC1.push 0) = .error .badSizeC := by decide +kernel
/-- level bits 0 or 2: the Go port panics ("Go version only supports level 1 and 3") -/
example : decompress #[0x43, 9, 0, 0, 0, 0, 0, 0, 0] = .panic ∧ decompress #[0x4b, 9, 0, 0, 0, 0, 0, 0, 0] = .panic := by decide +kernel
/-- stored form with an announced size larger than the payload: zero padding, no error -/
example : decompressSafe #[0x4e, 11, 0, 0, 0, 5, 0, 0, 0, 7, 8] = .ok #[7, 8, 0, 0, 0] := by decide +kernel

end QlzLemmas

namespace QlzRT
open Qlz QlzLemmas

/-- three literals, a 39-byte hash-table match, eight final literals -/
theorem ex_compress_level1 : compress exOrig 1 = some exC1 := by decide +kernel

/-- the hypotheses of `compress1_roundtrip` / `compress_header` are satisfiable -/
example : decompress exC1 = .ok exOrig ∧ decompressSafe exC1 = .ok exOrig :=
  compress1_roundtrip (by decide) (by decide) ex_compress_level1

example : sizeCompressed exC1 = some exC1.size ∧ sizeDecompressed exC1 = some exOrig.size :=
  compress_header (level1 exOrig) (by decide) (by decide) ex_compress_level1

/-- level 3, a value below the match threshold (the first loop does not run): header, control word 0x80000000, literals -/
theorem ex_compress_level3_short :
    compress #[7, 7, 7, 9] 3 = some #[79, 17, 0, 0, 0, 4, 0, 0, 0, 0, 0, 0, 128, 7, 7, 7, 9] := by decide +kernel

/-- the hypotheses of `compress3_roundtrip` are satisfiable -/
example : decompressSafe #[79, 17, 0, 0, 0, 4, 0, 0, 0, 0, 0, 0, 128, 7, 7, 7, 9] = .ok #[7, 7, 7, 9] :=
  (compress3_roundtrip (by decide) (by decide) ex_compress_level3_short).2

/-- the stored form: header with compressible bit 0, both sizes, then the value -/
example : storedStream #[1, 2, 3] 3 = some #[78, 12, 0, 0, 0, 3, 0, 0, 0, 1, 2, 3] := by decide +kernel
example : decompress #[78, 12, 0, 0, 0, 3, 0, 0, 0, 1, 2, 3] = .ok #[1, 2, 3] :=
  (stored_roundtrip (Or.inr rfl) (by decide) (by decide +kernel : storedStream #[1, 2, 3] 3 = some _)).1

/-- `Compress` of an empty value returns nil; a level other than 1/3 panics -/
example : compress #[] 3 = some #[] ∧ compress #[1] 2 = none := by decide +kernel

/-- the give-up rule (quicklz.go:119) -/
example : giveUp 1000 751 740 = true ∧ giveUp 1000 750 740 = false ∧ giveUp 1000 800 775 = false := by decide

end QlzRT

namespace QlzLemmas
open Qlz

theorem ex_decompress_level1 : decompress exC1 = .ok exOrig :=
  (QlzRT.compress1_roundtrip (by decide) (by decide) QlzRT.ex_compress_level1).1

end QlzLemmas
