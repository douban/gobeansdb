/-
  Lookups in hint buffers and split files as the collision path uses them (`Collide.bufGet`, `Collide.fileGet`) are
  "the item with this (keyhash, key)" of an item list (`lk`); `set_cases`: what one `HintBuffer.Set` does to the list.
-/
import GoBeans.Model.Collide
import GoBeans.Lemmas.HintLoad
namespace CollideLemmas
open Store Spec HintIndex Collide HintBufferLemmas HintLoadLemmas HintIndexLemmas

section Lists

theorem snoc_ind {α : Type} {P : List α → Prop} (nil : P []) (snoc : ∀ l x, P l → P (l ++ [x])) : ∀ l, P l := by
  intro l
  rw [← List.reverse_reverse l]
  induction l.reverse with
  | nil => exact nil
  | cons x t ih => rw [List.reverse_cons]; exact snoc _ _ ih

theorem find?_congr' {α : Type} {p q : α → Bool} : ∀ {l : List α}, (∀ a ∈ l, p a = q a) → l.find? p = l.find? q
  | [], _ => rfl
  | a :: l, h => by
    rw [List.find?_cons, List.find?_cons, h a (by simp), find?_congr' (fun b hb => h b (by simp [hb]))]

theorem forall2_mem_right {α β : Type} {R : α → β → Prop} {as : List α} {bs : List β} (h : Forall2 R as bs) {b : β} (hb : b ∈ bs) :
    ∃ a ∈ as, R a b := by
  induction h with
  | nil => cases hb
  | @cons a0 b0 as' bs' h0 _ ih =>
    rcases List.mem_cons.mp hb with rfl | hb
    · exact ⟨a0, by simp, h0⟩
    · obtain ⟨a, ha, hr⟩ := ih hb
      exact ⟨a, by simp [ha], hr⟩

theorem foldl_id_of {α σ : Type} (f : σ → α → σ) (l : List α) (h : ∀ a ∈ l, ∀ s, f s a = s) (s : σ) : l.foldl f s = s :=
  List.foldlRecOn l f (motive := (· = s)) rfl fun s' hs a ha => by rw [h a ha, hs]

theorem foldl_sim {α β σ : Type} (I : σ → Prop) (π : σ → β) (f : σ → α → σ) (g : β → α → β) (l : List α)
    (hstep : ∀ s a, a ∈ l → I s → π (f s a) = g (π s) a ∧ I (f s a)) :
    ∀ s, I s → π (l.foldl f s) = l.foldl g (π s) ∧ I (l.foldl f s) :=
  fun _ hi => List.foldl_rel (r := fun s t => π s = t ∧ I s) ⟨rfl, hi⟩ fun a ha s _ h => h.1 ▸ hstep s a ha h.2

theorem mem_filter_range (mx : Nat) (P : Nat → Prop) [DecidablePred P] (j : Nat) :
    j ∈ (List.range (mx + 1)).filter (fun i => decide (P i)) ↔ j ≤ mx ∧ P j := by
  rw [List.mem_filter, List.mem_range, decide_eq_true_eq, Nat.lt_succ_iff]

end Lists

def lk (l : List Item) (h : Nat) (k : Key) : Option Item := l.find? (sameKey (probe h k))

theorem fileGet_eq (f : SplitFile) (h : Nat) (k : Key) : fileGet f h k = lk f.items h k := rfl

theorem sameKey_probe (h : Nat) (k : Key) (x : Item) : sameKey (probe h k) x = true ↔ x.khash = h ∧ x.key = k := by
  rw [sameKey_iff]; unfold probe; simp only
  constructor <;> (intro a; exact ⟨a.1.symm, a.2.symm⟩)

theorem lk_some {l : List Item} {h : Nat} {k : Key} {x : Item} (e : lk l h k = some x) : x ∈ l ∧ x.khash = h ∧ x.key = k := by
  unfold lk at e
  exact ⟨List.mem_of_find?_eq_some e, (sameKey_probe h k x).mp (List.find?_some e)⟩

theorem lk_none {l : List Item} {h : Nat} {k : Key} : lk l h k = none ↔ ∀ x ∈ l, ¬ (x.khash = h ∧ x.key = k) := by
  unfold lk
  simp only [List.find?_eq_none, sameKey_probe]

theorem lk_of_mem {l : List Item} (hn : NodupKey l) {h : Nat} {k : Key} {x : Item} (hx : x ∈ l) (hh : x.khash = h) (hk : x.key = k) :
    lk l h k = some x := by
  cases e : lk l h k with
  | none => exact absurd ⟨hh, hk⟩ (lk_none.mp e x hx)
  | some y =>
    obtain ⟨hy, hyh, hyk⟩ := lk_some e
    obtain ⟨i, hi⟩ := List.getElem?_of_mem hx
    obtain ⟨j, hj⟩ := List.getElem?_of_mem hy
    have hs : sameKey x y = true := by rw [sameKey_iff]; exact ⟨hh.trans hyh.symm, hk.trans hyk.symm⟩
    have hij := nodup_unique hn hi hj hs
    subst hij
    rw [hi] at hj; cases hj; rfl

theorem nodupKey_perm {l l' : List Item} (hp : l.Perm l') (hn : NodupKey l) : NodupKey l' := by
  unfold NodupKey at *
  exact (hp.pairwise_iff (fun {a b} (hab : sameKey a b = false) => by rw [sameKey_comm]; exact hab)).mp hn

theorem lk_congr {l l' : List Item} (hn' : NodupKey l') {h : Nat} {k : Key}
    (hm : ∀ x, x.khash = h → x.key = k → (x ∈ l ↔ x ∈ l')) : lk l h k = lk l' h k := by
  cases e : lk l h k with
  | none =>
    symm; rw [lk_none] at e ⊢
    intro x hx hc; exact e x ((hm x hc.1 hc.2).mpr hx) hc
  | some x =>
    obtain ⟨hx, hh, hk⟩ := lk_some e
    exact (lk_of_mem hn' ((hm x hh hk).mp hx) hh hk).symm

theorem bufGet_fst (b : Buf) (hb : BufInv b) (h : Nat) (k : Key) : (bufGet b h k).1 = lk b.items h k := by
  unfold bufGet lk
  simp only
  rw [slot_eq b hb]
  exact List.find?_eq_bind_findIdx?_getElem?.symm

theorem set_cases (cap : Nat) (b : Buf) (hb : BufInv b) (it : Item) (sz : Nat) :
    ((b.set cap it sz).2 = false ∧ (b.set cap it sz).1.items = b.items ∧ cap ≤ b.items.length)
    ∨ ((b.set cap it sz).2 = true ∧ (b.set cap it sz).1.items.Perm (b.items.filter (fun y => !sameKey y it) ++ [it])) := by
  obtain ⟨e1, e2⟩ := set_items cap b hb it sz
  rw [e1, e2]
  cases hs : slotSet cap b.items it with
  | some items' => exact Or.inr ⟨rfl, slotSet_perm hb.nodup hs⟩
  | none =>
    refine Or.inl ⟨rfl, rfl, ?_⟩
    unfold slotSet at hs
    split at hs
    · cases hs
    · split at hs
      · assumption
      · cases hs

theorem set_mem (cap : Nat) (b : Buf) (hb : BufInv b) (it : Item) (sz : Nat) {x : Item}
    (hx : x ∈ (b.set cap it sz).1.items) : x ∈ b.items ∨ x = it := by
  rcases set_cases cap b hb it sz with ⟨_, e, _⟩ | ⟨_, hp⟩
  · exact Or.inl (e ▸ hx)
  · rcases List.mem_append.mp (hp.subset hx) with h | h
    · exact Or.inl (List.mem_filter.mp h).1
    · exact Or.inr (List.mem_singleton.mp h)

theorem set_fresh (cap : Nat) (hcap : 1 ≤ cap) (it : Item) (sz : Nat) :
    (({} : Buf).set cap it sz).1.items = [it] ∧ (({} : Buf).set cap it sz).1.maxoffset = it.off + sz := by
  rcases set_cases cap {} bufInv_empty it sz with ⟨_, _, hc⟩ | ⟨e, hp⟩
  · exact absurd hc (by show ¬ cap ≤ 0; omega)
  · refine ⟨List.perm_singleton.mp hp, ?_⟩
    rw [set_maxoffset, e]
    show (if it.off + sz > 0 then it.off + sz else 0) = it.off + sz
    split <;> omega

theorem lk_filter_snoc (L : List Item) (x : Item) (h : Nat) (k : Key) :
    lk (L.filter (fun y => !sameKey y x) ++ [x]) h k = if x.khash = h ∧ x.key = k then some x else lk L h k := by
  unfold lk
  rw [List.find?_append, List.find?_filter]
  by_cases hx : x.khash = h ∧ x.key = k
  · rw [if_pos hx]
    -- an item of `L` with this hash and key has the key of `x`: it was dropped
    have : L.find? (fun a => decide ((!sameKey a x) = true ∧ sameKey (probe h k) a = true)) = none := by
      rw [List.find?_eq_none]
      intro a _ hc
      simp only [decide_eq_true_eq, Bool.not_eq_true', sameKey_probe] at hc
      have : sameKey a x = true := by rw [sameKey_iff]; exact ⟨hc.2.1.trans hx.1.symm, hc.2.2.trans hx.2.symm⟩
      rw [this] at hc; exact Bool.noConfusion hc.1
    rw [this]
    simp only [Option.none_or, List.find?_cons, (sameKey_probe h k x).mpr hx]
  · rw [if_neg hx]
    -- an item with this hash and key has not the key of `x`: the filter does not see it
    have e : L.find? (fun a => decide ((!sameKey a x) = true ∧ sameKey (probe h k) a = true)) = L.find? (sameKey (probe h k)) := by
      apply find?_congr'
      intro a _
      cases hs : sameKey (probe h k) a with
      | false => simp
      | true =>
        have ha := (sameKey_probe h k a).mp hs
        have : sameKey a x = false := by
          cases h2 : sameKey a x with
          | false => rfl
          | true =>
            have := (sameKey_iff a x).mp h2
            exact absurd ⟨this.1.symm.trans ha.1, this.2.symm.trans ha.2⟩ hx
        simp [this]
    rw [e]
    have : [x].find? (sameKey (probe h k)) = none := by
      simp only [List.find?_cons, List.find?_nil, Bool.eq_false_iff.mpr (mt (sameKey_probe h k x).mp hx)]
    rw [this, Option.or_none]

theorem mem_dump {b : Buf} {x : Item} : x ∈ b.dump.items ↔ x ∈ b.items := (sortItems_perm _).mem_iff

end CollideLemmas
