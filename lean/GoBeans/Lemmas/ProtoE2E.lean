/-
  Through `process` and the bucket model (C11 + C01), the steps of `C11_set_then_get_same_bytes`: what `processStore` does
  to the bucket is the bucket model's set, reading an ordinary key through the storage client is the bucket model's get,
  and in the reference map a get after a set returns what was set.
-/
import GoBeans.Lemmas.Proto
import GoBeans.Lemmas.Store

namespace Proto
open Store Spec StoreLemmas

/-- the store behind the protocol agrees with a reference map on the keys in `K`; `n` bounds the versions
    (`StoreLemmas.Inv`) -/
def Backed (K : Key → Prop) (n : Nat) (st : St) (m : KV) : Prop := Inv hashOf K n st.b m

theorem plainSize_pos (a b : Nat) : 0 < plainSize a b := by
  unfold plainSize
  omega

theorem processStore_b (cfg : Cfg) (st : St) (r : Req) (buf : Buf)
    (hv : validKeyString (r.keys.headD []) = true) (he : 0 ≤ r.exptime)
    (hf : ((r.flag % 4294967296).toNat / 65536) % 2 ≠ 1) :
    (processStore cfg st r buf).st.b
      = (Store.step hashOf cfg.store st.b (.set (r.keys.headD []) r.body (r.flag % 4294967296).toNat
            (Int32.toInt (Int32.ofInt r.exptime)) 0 (plainSize (r.keys.headD []).length r.body.length))).1 := by
  obtain ⟨_, _, e, -, hb⟩ := processStore_reply cfg st r buf
  rw [e, step_set_fst]
  exact hb hv he hf

theorem validKeyString_cons {k : Bytes} (hv : validKeyString k = true) :
    ∃ c tl, k = c :: tl ∧ c ≠ 63 ∧ c ≠ 64 ∧ k.length ≤ 250 := by
  unfold validKeyString at hv
  cases k with
  | nil => simp at hv
  | cons c tl =>
    simp only [Bool.and_eq_true, Bool.not_eq_true', Bool.or_eq_false_iff, decide_eq_false_iff_not, decide_eq_true_eq] at hv
    exact ⟨c, tl, rfl, hv.1.2.1.2, hv.1.2.2, hv.1.1⟩

theorem clientGet_ordinary (cfg : Cfg) (st : St) (k : Bytes) (hv : validKeyString k = true) :
    (clientGet cfg st k).1 =
      (match Store.step hashOf cfg.store st.b (.get k) with
       | (_, .value flag body, _) => GetRes.item { key := k, flag := flag, body := [.lit body], len := body.length }
       | (_, .error, _) => GetRes.err (ascii "?")
       | _ => GetRes.none) := by
  obtain ⟨c, tl, rfl, h63, h64, -⟩ := validKeyString_cons hv
  unfold clientGet
  split
  · rename_i heq; cases heq
  · rename_i heq; cases heq; exact absurd rfl h64
  · rename_i heq; cases heq; exact absurd rfl h63
  · generalize Store.step hashOf cfg.store st.b (.get (c :: tl)) = sg
    obtain ⟨_, rep, _⟩ := sg
    cases rep <;> rfl

theorem processGet_ordinary (cfg : Cfg) (st : St) (k body : Bytes) (flag : Nat) (hv : validKeyString k = true)
    (hmk : cfg.maxKeyLen = 250) (hstep : (Store.step hashOf cfg.store st.b (.get k)).2.1 = .value flag body) :
    (processGet cfg st { cmd := ascii "get", keys := [k] }).resp
      = some (.value false [{ key := k, flag := (flag : Int), body := [.lit body], len := body.length }]) := by
  have hklen : 0 < k.length ∧ k.length ≤ cfg.maxKeyLen := by
    obtain ⟨c, tl, rfl, -, -, hl⟩ := validKeyString_cons hv
    exact ⟨by simp, hmk ▸ hl⟩
  have hcg : (clientGet cfg st k).1 = .item { key := k, flag := (flag : Int), body := [.lit body], len := body.length } := by
    rw [clientGet_ordinary cfg st k hv]
    generalize Store.step hashOf cfg.store st.b (.get k) = sg at hstep
    obtain ⟨b2, rep, pos⟩ := sg
    subst hstep; rfl
  exact processGet_one_item cfg st _ k _ rfl hklen hcg

theorem spec_get_after_set (m : KV) (k body : Bytes) (flag ts : Nat) :
    (Spec.step { checkVHash := false } (Spec.step { checkVHash := false } m (.set k body flag 0 ts)).1 (.get k)).2
      = .value flag body := by
  simp only [Spec.step, Spec.nextVersion]
  cases AMap.get m k <;> simp [AMap.get_set_self]

end Proto
