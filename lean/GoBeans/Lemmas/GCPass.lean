/-
  The concrete pass `Store.gcRun`, step by step, as far as the bookkeeping goes.  `vlog s src rest` is the VIRTUAL LOG of
  a pass in progress: files below the source as they will be (`preV`, over `vrecs`: the destination file with what has
  been written to it, in place of its stale content when it is rewritten), the unread remainder `rest` of the source,
  the files above it (`postV`).
  `SInv` is the bookkeeping invariant: destination at or below the source, files between them empty, write head above
  everything written and — in place — at or below the next record to read, every file inside its size limit.
-/
import GoBeans.Model.GC
import GoBeans.Lemmas.GCStep
import GoBeans.Lemmas.Layout
namespace StoreLemmas
open Store Spec

/-- what the destination file will hold when writing ends -/
def dstRecs (s : GcSt) : List (Nat × Rec) := if s.rewriting then s.out else (s.b.chunks s.dst).recs ++ s.out

def vrecs (s : GcSt) (i : Nat) : List (Nat × Rec) := if i = s.dst then dstRecs s else (s.b.chunks i).recs

/-- in place the destination IS the source and so not among the files below `src`: the second summand.  Closed form:
    `SInv.preV_eq`. -/
def preV (s : GcSt) (src : Nat) : List (Pos × Rec) :=
  (List.range src).flatMap (fun i => tag i (vrecs s i)) ++ (if s.dst = src then tag src s.out else [])

def postV (b : Bucket) (src : Nat) : List (Pos × Rec) := (List.range' (src + 1) (b.head - src)).flatMap (recsAt b)

def vlog (s : GcSt) (src : Nat) (rest : List (Nat × Rec)) : List (Pos × Rec) :=
  preV s src ++ (tag src rest ++ postV s.b src)

/-- the form `L1 ++ x :: L2` of Lemmas/GCStep.lean -/
theorem vlog_cons (s : GcSt) (src off : Nat) (r : Rec) (rest : List (Nat × Rec)) :
    vlog s src ((off, r) :: rest) = preV s src ++ (({ chunk := src, off := off } : Pos), r) :: (tag src rest ++ postV s.b src) := rfl

/-- `app` goes one way only: once an in-place file has been read to its end the pass goes on with `dst < src` and
    `rewriting` still true. -/
structure SInv (cfg : Store.Cfg) (s : GcSt) (src : Nat) (rest : List (Nat × Rec)) : Prop where
  wf : WF cfg s.b
  hsrc : src ≤ s.b.head
  dle : s.dst ≤ src
  app : s.rewriting = false → s.dst < src
  between : ∀ j, s.dst < j → j < src → (s.b.chunks j).recs = [] ∧ (s.b.chunks j).size = 0
  out : okFrom (if s.rewriting then 0 else (s.b.chunks s.dst).size) s.out s.wh
  whmax : s.wh ≤ cfg.dataFileMax
  inpl : s.dst = src → ∀ p ∈ rest, s.wh ≤ p.1
  rest : ∃ lo, okFrom lo rest (s.b.chunks src).size

theorem vrecs_dst (s : GcSt) : vrecs s s.dst = dstRecs s := if_pos rfl

theorem vrecs_of_ne {s : GcSt} {i : Nat} (h : i ≠ s.dst) : vrecs s i = (s.b.chunks i).recs := if_neg h

theorem vrecs_congr {s : GcSt} {b' : Bucket} {i : Nat} (h : b'.chunks i = s.b.chunks i) :
    vrecs { s with b := b' } i = vrecs s i := by
  unfold vrecs dstRecs
  show (if i = s.dst then (if s.rewriting = true then s.out else (b'.chunks s.dst).recs ++ s.out) else (b'.chunks i).recs) = _
  by_cases hd : i = s.dst
  · rw [← hd, h]
  · rw [if_neg hd, if_neg hd, h]

theorem dstRecs_congr {s : GcSt} {b' : Bucket} (h : b'.chunks s.dst = s.b.chunks s.dst) : dstRecs { s with b := b' } = dstRecs s :=
  (vrecs_dst { s with b := b' }).symm.trans ((vrecs_congr h).trans (vrecs_dst s))

theorem preV_of_lt {s : GcSt} {src : Nat} (h : s.dst < src) :
    preV s src = (List.range src).flatMap (fun i => tag i (vrecs s i)) := by
  unfold preV
  rw [if_neg (by omega), List.append_nil]

theorem preV_inplace {s : GcSt} {src : Nat} (h : s.dst = src) :
    preV s src = (List.range src).flatMap (fun i => tag i (vrecs s i)) ++ tag src s.out := by
  unfold preV
  rw [if_pos h]

theorem postV_succ {b : Bucket} {src : Nat} (h : src < b.head) : postV b src = recsAt b (src + 1) ++ postV b (src + 1) := by
  unfold postV
  rw [show b.head - src = (b.head - (src + 1)) + 1 by omega, List.range'_succ, List.flatMap_cons]

theorem endWriting_other (s : GcSt) (i : Nat) (h : i ≠ s.dst) : s.endWriting.chunks i = s.b.chunks i := by
  unfold GcSt.endWriting
  split <;> simp [chunks_setChunk, h]

theorem endWriting_recs (s : GcSt) : (s.endWriting.chunks s.dst).recs = dstRecs s := by
  unfold GcSt.endWriting dstRecs
  split <;> simp [chunks_setChunk, *]

theorem endWriting_size (s : GcSt) :
    (s.endWriting.chunks s.dst).size = if s.rewriting then s.wh else max (s.b.chunks s.dst).size s.wh := by
  unfold GcSt.endWriting
  split <;> simp [chunks_setChunk, *]

theorem endWriting_head (s : GcSt) : s.endWriting.head = s.b.head := by
  unfold GcSt.endWriting; split <;> rfl

theorem endWriting_tree (s : GcSt) : s.endWriting.tree = s.b.tree := by
  unfold GcSt.endWriting; split <;> rfl

theorem endWriting_nextGC (s : GcSt) : s.endWriting.nextGC = s.b.nextGC := by
  unfold GcSt.endWriting; split <;> rfl

theorem endWriting_vrecs (s : GcSt) (i : Nat) : (s.endWriting.chunks i).recs = vrecs s i := by
  by_cases hi : i = s.dst
  · subst hi; rw [vrecs_dst, endWriting_recs]
  · rw [vrecs_of_ne hi, endWriting_other s i hi]

theorem SInv.dst_ok {cfg : Store.Cfg} {s : GcSt} {src : Nat} {rest : List (Nat × Rec)} (h : SInv cfg s src rest) :
    okFrom 0 (dstRecs s) s.wh := by
  unfold dstRecs
  have ho := h.out
  by_cases hr : s.rewriting = true
  · simp only [hr, if_true] at ho ⊢; exact ho
  · simp only [hr, if_false, Bool.false_eq_true] at ho ⊢
    exact okFrom_append (h.wf.ok s.dst) ho

theorem SInv.preV_eq {cfg : Store.Cfg} {s : GcSt} {src : Nat} {rest : List (Nat × Rec)} (h : SInv cfg s src rest) :
    preV s src = (List.range s.dst).flatMap (recsAt s.b) ++ tag s.dst (dstRecs s) := by
  have hlow : (List.range s.dst).flatMap (fun i => tag i (vrecs s i)) = (List.range s.dst).flatMap (recsAt s.b) :=
    flatMap_congr_range _ _ _ (fun i hi => by rw [vrecs_of_ne (by omega), recsAt_eq_tag])
  by_cases hd : s.dst = src
  · have hr : s.rewriting = true := Bool.of_not_eq_false (fun hr => by have := h.app hr; omega)
    rw [preV_inplace hd, ← hd, hlow]
    unfold dstRecs
    rw [if_pos hr]
  · have hlt : s.dst < src := by have := h.dle; omega
    rw [preV_of_lt hlt, flatMap_range_le _ (show s.dst + 1 ≤ src from hlt)
      (fun j h1 h2 => by rw [vrecs_of_ne (by omega), (h.between j (by omega) h2).1]; rfl),
      List.range_succ, List.flatMap_append, hlow]
    simp [vrecs_dst]

theorem endWriting_wf {cfg : Store.Cfg} {s : GcSt} {src : Nat} {rest : List (Nat × Rec)} (h : SInv cfg s src rest) :
    WF cfg s.endWriting := by
  refine h.wf.of_files (Nat.le_of_eq (endWriting_head s).symm) (fun i => ?_)
  by_cases hi : i = s.dst
  · subst hi
    refine Or.inr (Or.inr ⟨by rw [endWriting_head]; exact Nat.le_trans h.dle h.hsrc, ?_, ?_⟩)
    · rw [endWriting_recs, endWriting_size]
      exact okFrom_sz h.dst_ok (by split <;> omega)
    · rw [endWriting_size]
      have := h.whmax
      have := h.wf.max s.dst
      split <;> omega
  · rw [endWriting_other s i hi]; exact Or.inl ⟨rfl, rfl⟩

theorem gcBegin_tree (b : Bucket) (dst src : Nat) (st : GcStats) : (gcBegin b dst src st).b.tree = b.tree := by
  unfold gcBegin; split <;> rfl

theorem gcBegin_head (b : Bucket) (dst src : Nat) (st : GcStats) : (gcBegin b dst src st).b.head = b.head := by
  unfold gcBegin; split <;> rfl

theorem gcBegin_dst (b : Bucket) (dst src : Nat) (st : GcStats) : (gcBegin b dst src st).dst = dst := by
  unfold gcBegin; split <;> rfl

theorem gcBegin_out (b : Bucket) (dst src : Nat) (st : GcStats) : (gcBegin b dst src st).out = [] := by
  unfold gcBegin; split <;> rfl

theorem gcBegin_rewriting (b : Bucket) (dst src : Nat) (st : GcStats) :
    (gcBegin b dst src st).rewriting = decide (dst = src) := by
  unfold gcBegin; split <;> simp [*]

theorem gcBegin_recs (b : Bucket) (dst src : Nat) (st : GcStats) (i : Nat) :
    ((gcBegin b dst src st).b.chunks i).recs = (b.chunks i).recs := by
  unfold gcBegin
  split
  · rfl
  · simp only [chunks_setChunk]; split <;> simp [*]

theorem gcBegin_size (b : Bucket) (dst src : Nat) (st : GcStats) (i : Nat) :
    ((gcBegin b dst src st).b.chunks i).size = (b.chunks i).size := by
  unfold gcBegin
  split
  · rfl
  · simp only [chunks_setChunk]; split <;> simp [*]

theorem gcBegin_wh (b : Bucket) (dst src : Nat) (st : GcStats) :
    (gcBegin b dst src st).wh = if dst = src then 0 else (b.chunks dst).size := by
  unfold gcBegin
  split
  · rfl
  · simp [chunks_setChunk]

theorem gcBegin_frame (b : Bucket) {d src : Nat} (st : GcStats) {i : Nat} (hd : d ≤ src) (hi : i < d ∨ src ≤ i) :
    (gcBegin b d src st).b.chunks i = b.chunks i := by
  unfold gcBegin
  split
  · rfl
  · simp only [chunks_setChunk]
    rw [if_neg (by omega)]

theorem gcBegin_stats (b : Bucket) (dst src : Nat) (st : GcStats) : (gcBegin b dst src st).stats = st := by
  unfold gcBegin; split <;> rfl

theorem postV_congr {b b' : Bucket} {src : Nat} (hh : b'.head = b.head)
    (h : ∀ i, src < i → (b'.chunks i).recs = (b.chunks i).recs) : postV b' src = postV b src := by
  unfold postV
  rw [hh]
  exact flatMap_range'_congr _ _ _ _ (fun i h1 _ => by unfold recsAt; rw [h i (by omega)])

theorem preV_endWriting {s : GcSt} {src : Nat} (hd : s.dst < src) :
    (List.range src).flatMap (recsAt s.endWriting) = preV s src := by
  rw [preV_of_lt hd]
  exact flatMap_congr_range src _ _ (fun i _ => by rw [recsAt_eq_tag, endWriting_vrecs])

theorem postV_endWriting {s : GcSt} {src : Nat} (hd : s.dst ≤ src) : postV s.endWriting src = postV s.b src :=
  postV_congr (endWriting_head s) (fun i hi => by rw [endWriting_other s i (by omega)])

theorem vrecs_gcBegin (b : Bucket) (d src : Nat) (st : GcStats) {i : Nat} (hi : i < src) :
    vrecs (gcBegin b d src st) i = (b.chunks i).recs := by
  unfold vrecs dstRecs
  rw [gcBegin_dst, gcBegin_out, gcBegin_rewriting]
  by_cases hid : i = d
  · have : ¬ d = src := by omega
    simp [hid, this, gcBegin_recs]
  · simp [hid, gcBegin_recs]

theorem preV_gcBegin (b : Bucket) (d src : Nat) (st : GcStats) :
    preV (gcBegin b d src st) src = (List.range src).flatMap (recsAt b) := by
  unfold preV
  rw [gcBegin_dst, gcBegin_out]
  have : (if d = src then tag src ([] : List (Nat × Rec)) else []) = [] := by split <;> rfl
  rw [this, List.append_nil]
  exact flatMap_congr_range _ _ _ (fun i hi => by rw [vrecs_gcBegin b d src st hi, recsAt_eq_tag])

theorem postV_gcBegin (b : Bucket) (d src : Nat) (st : GcStats) : postV (gcBegin b d src st).b src = postV b src :=
  postV_congr (gcBegin_head _ _ _ _) (fun _ _ => gcBegin_recs _ _ _ _ _)

theorem gcBegin_sinv {cfg : Store.Cfg} {b : Bucket} (w : WF cfg b) {d src : Nat} {rest : List (Nat × Rec)} (st : GcStats)
    (hsrc : src ≤ b.head) (hd : d ≤ src) (hbetween : ∀ j, d < j → j < src → (b.chunks j).size = 0)
    (hrest : ∃ lo, okFrom lo rest (b.chunks src).size) : SInv cfg (gcBegin b d src st) src rest := by
  refine ⟨w.of_files (Nat.le_of_eq (gcBegin_head _ _ _ _).symm) (fun i => Or.inl ⟨gcBegin_recs _ _ _ _ i, gcBegin_size _ _ _ _ i⟩),
    ?_, ?_, ?_, ?_, ?_, ?_, ?_, ?_⟩
  · rw [gcBegin_head]; exact hsrc
  · rw [gcBegin_dst]; exact hd
  · intro hr
    rw [gcBegin_rewriting] at hr
    rw [gcBegin_dst]
    have : ¬ d = src := by simpa using hr
    omega
  · intro j h1 h2
    rw [gcBegin_dst] at h1
    rw [gcBegin_recs, gcBegin_size]
    exact ⟨w.posInv.nil_of_size (hbetween j h1 h2), hbetween j h1 h2⟩
  · rw [gcBegin_out, gcBegin_wh, gcBegin_rewriting, gcBegin_dst, gcBegin_size]
    by_cases hdb : d = src <;> simp [hdb, okFrom]
  · rw [gcBegin_wh]
    split
    · omega
    · exact w.max d
  · intro e p _
    rw [gcBegin_dst] at e
    rw [gcBegin_wh]
    simp [e]
  · rw [gcBegin_size]; exact hrest

/-- what a destination switch or a statistics update keeps of a pass state: the virtual log and, for the touch set, the
    files outside `s.dst … src - 1` -/
structure SameVlog (s s1 : GcSt) (src : Nat) : Prop where
  pre : preV s1 src = preV s src
  post : postV s1.b src = postV s.b src
  tree : s1.b.tree = s.b.tree
  head : s1.b.head = s.b.head
  below : ∀ i, i < src → vrecs s1 i = vrecs s i
  dst : s.dst ≤ s1.dst
  frame : ∀ i, i < s.dst ∨ src ≤ i → s1.b.chunks i = s.b.chunks i

theorem SameVlog.vlog {s s1 : GcSt} {src : Nat} (e : SameVlog s s1 src) (rest : List (Nat × Rec)) :
    vlog s1 src rest = vlog s src rest := by
  unfold StoreLemmas.vlog
  rw [e.pre, e.post]

theorem SameVlog.stats (s : GcSt) (src : Nat) (st : GcStats) : SameVlog s { s with stats := st } src :=
  ⟨rfl, rfl, rfl, rfl, fun _ _ => rfl, Nat.le_refl _, fun _ _ => rfl⟩

theorem switch_spec {cfg : Store.Cfg} {s : GcSt} {src : Nat} {rest : List (Nat × Rec)} (st : GcStats)
    (h : SInv cfg s src rest) (hlt : s.dst < src) :
    SInv cfg (gcBegin s.endWriting (s.dst + 1) src st) src rest
    ∧ SameVlog s (gcBegin s.endWriting (s.dst + 1) src st) src
    ∧ (gcBegin s.endWriting (s.dst + 1) src st).wh = 0 := by
  have hother : ∀ i, i ≠ s.dst → s.endWriting.chunks i = s.b.chunks i := endWriting_other s
  have hwh : (gcBegin s.endWriting (s.dst + 1) src st).wh = 0 := by
    rw [gcBegin_wh]
    split
    · rfl
    · rw [hother (s.dst + 1) (by omega)]
      exact (h.between (s.dst + 1) (by omega) (by omega)).2
  refine ⟨gcBegin_sinv (endWriting_wf h) st (by rw [endWriting_head]; exact h.hsrc) (by omega)
      (fun j h1 h2 => by rw [hother j (by omega)]; exact (h.between j (by omega) h2).2)
      (by rw [hother src (by omega)]; exact h.rest),
    ⟨?_, ?_, ?_, ?_, ?_, ?_, ?_⟩, hwh⟩
  · rw [preV_gcBegin, preV_endWriting hlt]
  · rw [postV_gcBegin, postV_endWriting (by omega)]
  · rw [gcBegin_tree, endWriting_tree]
  · rw [gcBegin_head, endWriting_head]
  · intro i hi; rw [vrecs_gcBegin _ _ _ _ hi, endWriting_vrecs]
  · rw [gcBegin_dst]; omega
  · intro i hi
    rw [gcBegin_frame _ st (by omega) (by omega), hother i (by omega)]

def keepSt (s : GcSt) (t : List (Nat × TItem)) (r : Rec) : GcSt :=
  { s with b := { s.b with tree := t }, out := s.out ++ [(s.wh, r)], wh := s.wh + r.size }

theorem sinv_stats {cfg : Store.Cfg} {s : GcSt} {src : Nat} {rest : List (Nat × Rec)} (st : GcStats)
    (h : SInv cfg s src rest) : SInv cfg { s with stats := st } src rest :=
  ⟨h.wf, h.hsrc, h.dle, h.app, h.between, h.out, h.whmax, h.inpl, h.rest⟩

theorem sinv_tail {cfg : Store.Cfg} {s : GcSt} {src : Nat} {p : Nat × Rec} {rest : List (Nat × Rec)}
    (h : SInv cfg s src (p :: rest)) : SInv cfg s src rest :=
  ⟨h.wf, h.hsrc, h.dle, h.app, h.between, h.out, h.whmax, fun e q hq => h.inpl e q (by simp [hq]),
   by obtain ⟨lo, hl⟩ := h.rest; exact ⟨_, hl.2.2⟩⟩

theorem vrecs_keepSt (s : GcSt) (t : List (Nat × TItem)) (r : Rec) (i : Nat) :
    vrecs (keepSt s t r) i = vrecs s i ++ (if i = s.dst then [(s.wh, r)] else []) := by
  unfold vrecs dstRecs keepSt
  by_cases hi : i = s.dst <;> by_cases hr : s.rewriting = true <;> simp [hi, hr]

theorem dstRecs_keepSt (s : GcSt) (t : List (Nat × TItem)) (r : Rec) :
    dstRecs (keepSt s t r) = dstRecs s ++ [(s.wh, r)] := by
  have := vrecs_keepSt s t r s.dst
  rwa [if_pos rfl, show vrecs (keepSt s t r) s.dst = dstRecs (keepSt s t r) from vrecs_dst (keepSt s t r), vrecs_dst] at this

theorem mem_postV {b : Bucket} {src : Nat} {y : Pos × Rec} (h : y ∈ postV b src) : src < y.1.chunk := by
  unfold postV at h
  rw [List.mem_flatMap] at h
  obtain ⟨i, hi, hy⟩ := h
  rw [recsAt_eq_tag, mem_tag] at hy
  rw [List.mem_range'_1] at hi
  omega

theorem le_chunk_of_mem_unread {b : Bucket} {src : Nat} {rest : List (Nat × Rec)} {y : Pos × Rec}
    (h : y ∈ tag src rest ++ postV b src) : src ≤ y.1.chunk := by
  rcases List.mem_append.mp h with h | h
  · exact Nat.le_of_eq (mem_tag.mp h).1.symm
  · exact Nat.le_of_lt (mem_postV h)

theorem wh_fresh {cfg : Store.Cfg} {s : GcSt} {src off : Nat} {r : Rec} {rest : List (Nat × Rec)}
    (h : SInv cfg s src ((off, r) :: rest)) :
    ∀ y ∈ preV s src ++ (tag src rest ++ postV s.b src), y.1 ≠ ({ chunk := s.dst, off := s.wh } : Pos) := by
  intro y hy e
  have hc : y.1.chunk = s.dst := by rw [e]
  have ho : y.1.off = s.wh := by rw [e]
  rw [List.mem_append, List.mem_append] at hy
  rcases hy with hy | hy | hy
  · rw [h.preV_eq, List.mem_append] at hy
    rcases hy with hy | hy
    · have := mem_flatMap_range_chunk s.b s.dst y hy
      omega
    · have := okFrom_mem h.dst_ok _ (mem_tag.mp hy).2
      simp only at this; omega
  · rw [mem_tag] at hy
    have hd : s.dst = src := by rw [← hc]; exact hy.1
    have h1 := h.inpl hd (off, r) (by simp)
    obtain ⟨lo, hl⟩ := h.rest
    have h2 := okFrom_mem hl.2.2 _ hy.2
    have h3 := hl.2.1
    simp only at h1 h2 h3; omega
  · have := mem_postV hy
    have := h.dle
    omega

theorem keep_spec {cfg : Store.Cfg} {s : GcSt} {src off : Nat} {r : Rec} {rest : List (Nat × Rec)}
    (t : List (Nat × TItem)) (h : SInv cfg s src ((off, r) :: rest)) (hfit : r.size + s.wh ≤ cfg.dataFileMax) :
    SInv cfg (keepSt s t r) src rest
    ∧ preV (keepSt s t r) src = preV s src ++ [(({ chunk := s.dst, off := s.wh } : Pos), r)] := by
  obtain ⟨lo, hl⟩ := h.rest
  have hrs : 0 < r.size := hl.2.1
  have k1 : SInv cfg (keepSt s t r) src rest := by
    refine ⟨h.wf.tree t, h.hsrc, h.dle, h.app, h.between, okFrom_snoc h.out r hrs, ?_, ?_, ⟨_, hl.2.2⟩⟩
    · show s.wh + r.size ≤ cfg.dataFileMax
      omega
    · intro hd p hp
      show s.wh + r.size ≤ p.1
      have h1 := h.inpl hd (off, r) (by simp)
      have h2 := okFrom_mem hl.2.2 p hp
      simp only at h1 h2; omega
  refine ⟨k1, ?_⟩
  rw [k1.preV_eq, h.preV_eq, dstRecs_keepSt, tag_append, ← List.append_assoc]
  rfl

/-- the `let`s `newest` and `stats` of `gcRecord` under names, so that `gcRecord_eq` can say what it does -/
def recNewest (hash : Key → Nat) (begin src : Nat) (s : GcSt) (off : Nat) (r : Rec) : Bool :=
  match AMap.get s.b.tree (hash r.key) with
  | some it => it.pos == { chunk := src, off := off }
  | none => decide (begin > 0) && decide (r.ver < 0)

def recStats (s : GcSt) (r : Rec) (newest : Bool) : GcStats :=
  { s.stats with numBefore := s.stats.numBefore + 1, sizeBefore := s.stats.sizeBefore + r.size,
                 numReleased := s.stats.numReleased + (if newest then 0 else 1),
                 sizeReleased := s.stats.sizeReleased + (if newest then 0 else r.size) }

/-- the `let s` of `gcRecord`: where a kept record is written, after the destination switch if it does not fit -/
def fitSt (cfg : Store.Cfg) (s : GcSt) (src : Nat) (r : Rec) (st : GcStats) : GcSt :=
  if r.size + s.wh > cfg.dataFileMax then gcBegin s.endWriting (s.dst + 1) src st else { s with stats := st }

def keepRec (hash : Key → Nat) (s : GcSt) (r : Rec) : GcSt :=
  keepSt s (repointed s.b.tree (hash r.key) { chunk := s.dst, off := s.wh }) r

theorem fitSt_tree (cfg : Store.Cfg) (s : GcSt) (src : Nat) (r : Rec) (st : GcStats) : (fitSt cfg s src r st).b.tree = s.b.tree := by
  unfold fitSt
  split
  · rw [gcBegin_tree, endWriting_tree]
  · rfl

theorem fitSt_stats (cfg : Store.Cfg) (s : GcSt) (src : Nat) (r : Rec) (st : GcStats) : (fitSt cfg s src r st).stats = st := by
  unfold fitSt
  split
  · exact gcBegin_stats _ _ _ _
  · rfl

theorem recNewest_iff (hash : Key → Nat) (begin src : Nat) (s : GcSt) (off : Nat) (r : Rec) :
    recNewest hash begin src s off r = true ↔ CurT hash begin s.b.tree (({ chunk := src, off := off } : Pos), r) := by
  unfold recNewest CurT
  cases AMap.get s.b.tree (hash r.key) <;> simp

theorem gcRecord_eq (hash : Key → Nat) (cfg : Store.Cfg) (begin src : Nat) (s : GcSt) (off : Nat) (r : Rec) :
    gcRecord hash cfg begin src s off r =
      if recNewest hash begin src s off r = true then keepRec hash (fitSt cfg s src r (recStats s r true)) r
      else { s with stats := recStats s r false } := by
  -- the item looked up BEFORE a destination switch is repointed in the tree AFTER it; the switch does not change the
  -- tree (`fitSt_tree`)
  have e : gcRecord hash cfg begin src s off r =
      (fun (nw : Bool) (s' : GcSt) =>
        if !nw then { s with stats := recStats s r nw } else
          keepSt s' (match AMap.get s.b.tree (hash r.key) with
            | some it => AMap.set s'.b.tree (hash r.key) { it with pos := { chunk := s'.dst, off := s'.wh } }
            | none => s'.b.tree) r)
        (recNewest hash begin src s off r) (fitSt cfg s src r (recStats s r (recNewest hash begin src s off r))) := rfl
  rw [e]
  simp only []
  cases recNewest hash begin src s off r
  · rfl
  · unfold keepRec repointed
    rw [fitSt_tree]
    rfl

theorem gcRecord_keep {hash : Key → Nat} {cfg : Store.Cfg} {begin src : Nat} {s : GcSt} {off : Nat} {r : Rec}
    (h : CurT hash begin s.b.tree (({ chunk := src, off := off } : Pos), r)) :
    gcRecord hash cfg begin src s off r = keepRec hash (fitSt cfg s src r (recStats s r true)) r := by
  rw [gcRecord_eq, if_pos ((recNewest_iff hash begin src s off r).2 h)]

theorem gcRecord_drop {hash : Key → Nat} {cfg : Store.Cfg} {begin src : Nat} {s : GcSt} {off : Nat} {r : Rec}
    (h : ¬ CurT hash begin s.b.tree (({ chunk := src, off := off } : Pos), r)) :
    gcRecord hash cfg begin src s off r = { s with stats := recStats s r false } := by
  rw [gcRecord_eq, if_neg (fun hn => h ((recNewest_iff hash begin src s off r).1 hn))]

theorem fit_spec {cfg : Store.Cfg} {s : GcSt} {src off : Nat} {r : Rec} {rest : List (Nat × Rec)} (st : GcStats)
    (h : SInv cfg s src ((off, r) :: rest)) :
    SInv cfg (fitSt cfg s src r st) src ((off, r) :: rest)
    ∧ SameVlog s (fitSt cfg s src r st) src
    ∧ r.size + (fitSt cfg s src r st).wh ≤ cfg.dataFileMax := by
  obtain ⟨lo, hl⟩ := h.rest
  have hfits : off + r.size ≤ (s.b.chunks src).size := okFrom_le hl.2.2
  have hmax := h.wf.max src
  unfold fitSt
  by_cases hbig : r.size + s.wh > cfg.dataFileMax
  · rw [if_pos hbig]
    -- a record of the source fits where it came from, so the destination that is too full is another file
    have hlt : s.dst < src := by
      have := h.dle
      by_cases hd : s.dst = src
      · have := h.inpl hd (off, r) (by simp)
        simp only at this; omega
      · omega
    obtain ⟨h1, h2, h5⟩ := switch_spec st h hlt
    exact ⟨h1, h2, by rw [h5]; omega⟩
  · rw [if_neg hbig]
    exact ⟨sinv_stats st h, SameVlog.stats s src st, by show r.size + s.wh ≤ _; omega⟩

/-- `b'` is the bucket of `s` after the source `src` has been read to its end: cleared unless it is the destination -/
structure Cleared (s : GcSt) (src : Nat) (b' : Bucket) : Prop where
  head : b'.head = s.b.head
  tree : b'.tree = s.b.tree
  other : ∀ i, i ≠ src → b'.chunks i = s.b.chunks i
  here : if s.dst = src then b'.chunks src = s.b.chunks src else ((b'.chunks src).recs = [] ∧ (b'.chunks src).size = 0)

def gcRecs (hash : Key → Nat) (cfg : Store.Cfg) (begin src : Nat) (s : GcSt) (rest : List (Nat × Rec)) : GcSt :=
  rest.foldl (fun s p => gcRecord hash cfg begin src s p.1 p.2) s

theorem gcFile_shape (hash : Key → Nat) (cfg : Store.Cfg) (begin : Nat) (s : GcSt) (src : Nat)
    (hz : (s.b.chunks src).size = 0 → (s.b.chunks src).recs = []) :
    ∃ b', gcFile hash cfg begin s src = { gcRecs hash cfg begin src s (s.b.chunks src).recs with b := b' }
      ∧ Cleared (gcRecs hash cfg begin src s (s.b.chunks src).recs) src b' := by
  unfold gcFile gcRecs
  by_cases h0 : (s.b.chunks src).size = 0
  · simp only [h0, if_true]
    rw [hz h0]
    refine ⟨s.b, rfl, rfl, rfl, fun _ _ => rfl, ?_⟩
    split
    · rfl
    · exact ⟨hz h0, h0⟩
  · simp only [h0, if_false]
    generalize (s.b.chunks src).recs.foldl (fun s (p : Nat × Rec) => gcRecord hash cfg begin src s p.1 p.2) s = s'
    refine ⟨_, rfl, ?_⟩
    by_cases h : s'.dst = src
    · rw [if_neg (fun e => e h.symm)]
      exact ⟨rfl, rfl, fun _ _ => rfl, by rw [if_pos h]⟩
    · rw [if_pos (fun e => h e.symm)]
      exact ⟨rfl, rfl, fun i hi => if_neg hi, by rw [if_neg h]; simp [Bucket.setChunk]⟩

theorem unread_next {s : GcSt} {src : Nat} {b' : Bucket} (hlt : src < s.b.head) (hh : b'.head = s.b.head)
    (ho : ∀ i, i ≠ src → b'.chunks i = s.b.chunks i) :
    tag (src + 1) (b'.chunks (src + 1)).recs ++ postV b' (src + 1) = tag src [] ++ postV s.b src := by
  rw [postV_succ hlt, recsAt_eq_tag, ho (src + 1) (by omega), postV_congr hh (fun i hi => by rw [ho i (by omega)])]
  rfl

theorem advance {cfg : Store.Cfg} {s : GcSt} {src : Nat} (b' : Bucket) (h : SInv cfg s src []) (hlt : src < s.b.head)
    (hh : b'.head = s.b.head)
    (ho : ∀ i, i ≠ src → b'.chunks i = s.b.chunks i)
    (hs : if s.dst = src then b'.chunks src = s.b.chunks src else ((b'.chunks src).recs = [] ∧ (b'.chunks src).size = 0)) :
    SInv cfg { s with b := b' } (src + 1) (b'.chunks (src + 1)).recs
    ∧ vlog { s with b := b' } (src + 1) (b'.chunks (src + 1)).recs = vlog s src []
    ∧ preV { s with b := b' } (src + 1) = preV s src := by
  have hdle := h.dle
  have hdst : b'.chunks s.dst = s.b.chunks s.dst := by
    by_cases hd : s.dst = src
    · rw [if_pos hd] at hs; rw [hd]; exact hs
    · exact ho _ hd
  have hwf : WF cfg b' := by
    refine h.wf.of_files (Nat.le_of_eq hh.symm) (fun i => ?_)
    by_cases hi : i = src
    · subst hi
      by_cases hd : s.dst = i
      · rw [if_pos hd] at hs; rw [hs]; exact Or.inl ⟨rfl, rfl⟩
      · rw [if_neg hd] at hs; exact Or.inr (Or.inl hs)
    · rw [ho i hi]; exact Or.inl ⟨rfl, rfl⟩
  have h1 : SInv cfg { s with b := b' } (src + 1) (b'.chunks (src + 1)).recs := by
    refine ⟨hwf, ?_, ?_, ?_, ?_, ?_, h.whmax, ?_, ⟨0, hwf.ok (src + 1)⟩⟩
    · show src + 1 ≤ b'.head; omega
    · show s.dst ≤ src + 1; omega
    · intro hr
      have := h.app hr
      show s.dst < src + 1; omega
    · intro j h1 h2
      show (b'.chunks j).recs = [] ∧ (b'.chunks j).size = 0
      by_cases hj : j = src
      · subst hj
        have hd : ¬ s.dst = j := by
          have : s.dst < j := h1
          omega
        simpa only [hd, if_false] using hs
      · rw [ho j hj]
        exact h.between j h1 (by omega)
    · show okFrom (if s.rewriting = true then 0 else (b'.chunks s.dst).size) s.out s.wh
      rw [hdst]; exact h.out
    · intro e
      have : s.dst = src + 1 := e
      omega
  have hpre : preV { s with b := b' } (src + 1) = preV s src := by
    rw [h1.preV_eq, h.preV_eq, dstRecs_congr hdst]
    exact congrArg (· ++ _) (flatMap_congr_range _ _ _ (fun i (hi : i < s.dst) => by unfold recsAt; rw [ho i (by omega)]))
  refine ⟨h1, ?_, hpre⟩
  unfold vlog
  rw [hpre]
  exact congrArg (preV s src ++ ·) (unread_next hlt hh ho)

theorem vlog_gcBegin (b : Bucket) (d : Nat) {src : Nat} (st : GcStats) (hsrc : src ≤ b.head) :
    vlog (gcBegin b d src st) src ((gcBegin b d src st).b.chunks src).recs = b.log := by
  unfold vlog
  rw [preV_gcBegin, postV_gcBegin, gcBegin_recs, log_split b src hsrc]
  rfl

theorem log_endWriting {s : GcSt} {src : Nat} (hsrc : src ≤ s.b.head) (hd : s.dst < src) :
    s.endWriting.log = vlog s src (s.b.chunks src).recs := by
  rw [log_split s.endWriting src (by rw [endWriting_head]; exact hsrc), preV_endWriting hd, recsAt_eq_tag,
    endWriting_other s src (by omega)]
  exact congrArg (fun x => preV s src ++ (tag src (s.b.chunks src).recs ++ x)) (postV_endWriting (Nat.le_of_lt hd))

def gcFiles (hash : Key → Nat) (cfg : Store.Cfg) (begin : Nat) (s0 : GcSt) (n : Nat) : GcSt :=
  (List.range n).foldl (fun s i => gcFile hash cfg begin s (begin + i)) s0

theorem gcFiles_succ (hash : Key → Nat) (cfg : Store.Cfg) (begin : Nat) (s0 : GcSt) (n : Nat) :
    gcFiles hash cfg begin s0 (n + 1) = gcFile hash cfg begin (gcFiles hash cfg begin s0 n) (begin + n) := by
  unfold gcFiles
  rw [List.range_succ, List.foldl_append]
  rfl

theorem gcRun_eq (hash : Key → Nat) (cfg : Store.Cfg) (b : Bucket) (begin stop : Nat) :
    gcRun hash cfg b begin stop =
      ((gcFiles hash cfg begin (gcBegin b (gcDst cfg b begin) begin {}) (stop + 1 - begin)).endWriting,
       (gcFiles hash cfg begin (gcBegin b (gcDst cfg b begin) begin {}) (stop + 1 - begin)).stats) := rfl

end StoreLemmas
