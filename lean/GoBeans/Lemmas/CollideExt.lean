/-
  The injective hash: the collision path does what the bucket model does (`NoColl`, `client_ext`, `gcOp_ext`).

  Hint side: with a key hash injective on the keys in use no hint buffer ever reports a collision
  (`getItemCollision_nocoll`).  The invariant ("NC": no collision), from the buffer up (`BufOK`, `SplitNC`, `CkNC`, `HsNC`):
  every buffer is consistent, and every item, in a buffer or in a split file, carries the hash of its own key, a key in use.
-/
import GoBeans.Lemmas.CollideHints
import GoBeans.Lemmas.CollideOps
import GoBeans.Lemmas.GCHistory
namespace CollideLemmas
open Store Spec HintIndex Collide HintBufferLemmas HintLoadLemmas HintIndexLemmas StoreLemmas

section
variable (hash : Key → Nat) (K : Key → Prop)

def BufOK (b : Buf) : Prop := BufInv b ∧ Keyed hash K b.items

def SplitNC (sp : HSplit) : Prop := (∀ b, sp.buf = some b → BufOK hash K b) ∧ (∀ f, sp.file = some f → Keyed hash K f.items)

def CkNC (ck : HCk) : Prop := BufOK hash K ck.last ∧ ∀ sp ∈ ck.old, SplitNC hash K sp

def HsNC (hs : Hints) : Prop := ∀ c, CkNC hash K (hs.chunks c)

theorem bufOK_empty : BufOK hash K {} := ⟨bufInv_empty, fun it hit => by cases hit⟩

theorem bufOK_set (cap : Nat) (b : Buf) (hb : BufOK hash K b) (it : Item) (sz : Nat) (hit : it.khash = hash it.key ∧ K it.key) :
    BufOK hash K (b.set cap it sz).1 := by
  refine ⟨set_inv cap b hb.1 it sz, ?_⟩
  intro x hx
  rcases set_mem cap b hb.1 it sz hx with h | h
  · exact hb.2 x h
  · rw [h]; exact hit

theorem splitNC_buf {b : Buf} (hb : BufOK hash K b) : SplitNC hash K { buf := some b, file := none } :=
  ⟨fun _ e => Option.some.inj e ▸ hb, fun _ e => nomatch e⟩

theorem splitNC_file {b : Buf} (hb : BufOK hash K b) : SplitNC hash K (mkSplit b.dump) :=
  ⟨fun _ e => (nomatch e), fun _ e x hx => by cases e; exact hb.2 x (mem_dump.mp hx)⟩

theorem ckNC_snoc {old : List HSplit} {sp : HSplit} {last : Buf} (h : ∀ s ∈ old, SplitNC hash K s) (hsp : SplitNC hash K sp)
    (hl : BufOK hash K last) : CkNC hash K { old := old ++ [sp], last := last } :=
  ⟨hl, List.forall_mem_append.mpr ⟨h, List.forall_mem_singleton.mpr hsp⟩⟩

theorem ckNC_setItem (cap : Nat) (ck : HCk) (h : CkNC hash K ck) (it : Item) (sz : Nat) (hit : it.khash = hash it.key ∧ K it.key) :
    CkNC hash K (ck.setItem cap it sz).1 := by
  unfold HCk.setItem
  simp only
  split
  · exact ⟨bufOK_set hash K cap _ h.1 it sz hit, h.2⟩
  · exact ckNC_snoc hash K h.2 (splitNC_buf hash K (bufOK_set hash K cap _ h.1 it sz hit))
      (bufOK_set hash K cap _ (bufOK_empty hash K) it sz hit)

theorem splitNC_dumpIf {sp : HSplit} (h : SplitNC hash K sp) : SplitNC hash K (dumpIf sp) := by
  unfold dumpIf
  by_cases hn : sp.needDump = true
  · rw [if_pos hn]
    unfold HSplit.dumped
    cases hb : sp.buf with
    | none => exact h
    | some b => exact splitNC_file hash K (h.1 b hb)
  · rw [if_neg hn]; exact h

theorem hsNC_setCk (hs : Hints) (h : HsNC hash K hs) (c : Nat) (ck : HCk) (hck : CkNC hash K ck) : HsNC hash K (hs.setCk c ck) :=
  setCk_forall (P := fun _ ck => CkNC hash K ck) c (fun j _ => h j) hck

theorem hsNC_trydump (hs : Hints) (h : HsNC hash K hs) (c : Nat) (dl : Bool) : HsNC hash K (hs.trydump c dl) := by
  have hold : ∀ sp ∈ (hs.chunks c).old.map dumpIf, SplitNC hash K sp := by
    intro sp hsp
    obtain ⟨s0, hs0, rfl⟩ := List.mem_map.mp hsp
    exact splitNC_dumpIf hash K ((h c).2 s0 hs0)
  rw [trydump_eq]
  split
  · exact hsNC_setCk hash K hs h c _ (ckNC_snoc hash K hold (splitNC_file hash K (h c).1) (bufOK_empty hash K))
  · exact hsNC_setCk hash K hs h c _ ⟨(h c).1, hold⟩

theorem hsNC_ite (p : Prop) [Decidable p] {hs : Hints} (h : HsNC hash K hs) (c : Nat) (dl : Bool) :
    HsNC hash K (if p then hs.trydump c dl else hs) := by
  split
  · exact hsNC_trydump hash K hs h c dl
  · exact h

theorem hsNC_setItem (cap : Nat) (hs : Hints) (h : HsNC hash K hs) (it : Item) (c : Nat) (sz : Nat)
    (hit : it.khash = hash it.key ∧ K it.key) : HsNC hash K (hs.setItem cap it c sz).1 :=
  -- `HsNC` reads the chunks only: raising `maxChunk` is invisible to it
  hsNC_ite hash K _ (hsNC_setCk hash K hs h c _ (ckNC_setItem hash K cap (hs.chunks c) (h c) it sz hit)) c false

theorem hsNC_dumpAll (n : Nat) (hs : Hints) (h : HsNC hash K hs) : HsNC hash K (hs.dumpAll n) :=
  trydumpFold_ind false (fun _ hs' => HsNC hash K hs') h (fun n hs' ih => hsNC_trydump hash K hs' ih n false) n

theorem ckNC_rotate (ck : HCk) (h : CkNC hash K ck) : CkNC hash K ck.rotate :=
  ckNC_snoc hash K h.2 (splitNC_buf hash K h.1) (bufOK_empty hash K)

theorem ckNC_empty : CkNC hash K {} := ⟨bufOK_empty hash K, fun sp hsp => by cases hsp⟩

theorem bufGet_nocoll (hInj : InjOn hash K) (b : Buf) (hb : BufOK hash K b) (k : Key) (hk : K k) : (bufGet b (hash k) k).2 = false := by
  unfold bufGet Buf.isColl Buf.key0 Buf.idx0
  simp only
  cases hi : AMap.get b.index (probe (hash k) k).khash with
  | none => simp
  | some i =>
    obtain ⟨x, hx, hxk⟩ := hb.1.idxSound _ _ hi
    have hxm : x ∈ b.items := List.mem_of_getElem? hx
    obtain ⟨k1, k2⟩ := hb.2 x hxm
    have hgd : b.items.getD i default = x := by rw [List.getD_eq_getElem?_getD, hx]; rfl
    have : x.key = k := hInj _ _ k2 hk (by rw [← k1, hxk]; rfl)
    simp only [Option.getD_some, hgd, Option.isSome_some, Bool.true_and]
    simp [probe, this]

theorem ckCollGo_nocoll (hInj : InjOn hash K) (k : Key) (hk : K k) (l : List (Option Buf)) (hl : ∀ b, some b ∈ l → BufOK hash K b) :
    (ckCollGo (hash k) k l false).2.1 = false := by
  induction l with
  | nil => rfl
  | cons o rest ih =>
    cases o with
    | none => rfl
    | some b =>
      unfold ckCollGo
      have hc := bufGet_nocoll hash K hInj b (hl b List.mem_cons_self) k hk
      cases hg : bufGet b (hash k) k with
      | mk it c =>
        rw [hg] at hc
        simp only at hc
        subst hc
        cases it with
        | some x => rfl
        | none => exact ih (fun b' hb' => hl b' (List.mem_cons_of_mem _ hb'))

theorem getItemCollision_nocoll (hInj : InjOn hash K) (hs : Hints) (h : HsNC hash K hs) (k : Key) (hk : K k) :
    (hs.getItemCollision (hash k) k).2.2 = false := by
  unfold Hints.getItemCollision
  generalize hs.maxChunk + 1 = n
  have key : ∀ n acc, acc.2.2 = false → (getItemCollGo hs (hash k) k n acc).2.2 = false := by
    intro n
    induction n with
    | zero => intro acc ha; exact ha
    | succ i ih =>
      intro acc ha
      unfold getItemCollGo
      simp only
      have hc : ((hs.chunks i).getItemCollision (hash k) k).2.1 = false := by
        unfold HCk.getItemCollision
        apply ckCollGo_nocoll hash K hInj k hk
        intro b hb
        simp only [List.mem_cons, Option.some.injEq, List.mem_map, List.mem_reverse] at hb
        rcases hb with hb | ⟨sp, hsp, hb⟩
        · rw [hb]; exact (h i).1
        · exact ((h i).2 sp hsp).1 b hb
      rw [hc]
      simp only [Bool.false_or]
      split
      · rfl
      · exact ih _ rfl
  exact key n _ rfl

/-
  Operation by operation: with an empty collision table and hint buffers that never report a collision
  (`NoColl`) every client operation of `Collide.step` does to its bucket exactly what `Store.step` does and answers the
  same; the GC pass does to the data files and the tree exactly what `Store.gcRun` does (the table stays empty: a hint
  merge finds nothing to report).
-/
structure NoColl (st : State) : Prop where
  ct : st.ct.items = []
  hs : HsNC hash K st.hs

theorem memMeta_nc {st : State} (nc : NoColl hash K st) (k : Key) : st.memMeta hash k = AMap.get st.b.tree (hash k) := by
  rw [memMeta_eq, (tget_nil nc.ct _ _).1]

theorem hintSet_nc (cap : Nat) {ct : CTable} (hct : ct.items = []) {hs : Hints} (hh : HsNC hash K hs) (k : Key) (hk : K k) (ver : Int)
    (vh : Nat) (pos : Pos) (sz : Nat) (gc : Bool) :
    (hintSet cap ct hs (hash k) k ver vh pos sz gc).1.items = [] ∧ HsNC hash K (hintSet cap ct hs (hash k) k ver vh pos sz gc).2.1 := by
  unfold hintSet
  simp only
  rw [ctGet_eq, (tget_nil hct (hash k) k).2]
  exact ⟨hct, hsNC_setItem hash K cap hs hh _ _ _ ⟨rfl, hk⟩⟩

theorem put_ext (cfg : Collide.Cfg) {st : State} (nc : NoColl hash K st) (r : Rec) (hk : K r.key) :
    (st.put hash cfg r).1.b = (st.b.put hash cfg.s r).1 ∧ (st.put hash cfg r).2 = (st.b.put hash cfg.s r).2
    ∧ NoColl hash K (st.put hash cfg r).1 := by
  rw [put_eq]
  refine ⟨rfl, rfl, ?_, hsNC_setItem hash K cfg.cap st.hs nc.hs _ _ _ ⟨rfl, hk⟩⟩
  show (wTable hash st.ct r _).items = []
  unfold wTable
  rw [(tget_nil nc.ct _ r.key).2]
  exact nc.ct

theorem cas_ext (cfg : Collide.Cfg) {st : State} (nc : NoColl hash K st) (k : Key) (hk : K k) (body : Bytes) (flag : Nat) (rev : Int)
    (ts : Option Nat) (size wts : Nat) :
    Store.checkAndSet hash cfg.s st.b k body flag rev ts size wts =
      ((st.checkAndSet hash cfg k body flag rev ts size wts).1.b, (st.checkAndSet hash cfg k body flag rev ts size wts).2)
    ∧ NoColl hash K (st.checkAndSet hash cfg k body flag rev ts size wts).1 := by
  have pe := fun v => put_ext hash K cfg nc { key := k, ver := v, flag := flag, ts := ts, body := body, size := size, wts := wts } hk
  rw [cas_eq, scas_eq, memMeta_nc hash K nc]
  cases casPlan cfg.s.checkVHash (AMap.get st.b.tree (hash k)) body rev with
  | keep res => exact ⟨rfl, nc⟩
  | retree it => exact ⟨rfl, ⟨nc.ct, nc.hs⟩⟩
  | write v => simp only; exact ⟨by rw [(pe v).1, (pe v).2.1], (pe v).2.2⟩

theorem get_ext {st : State} (nc : NoColl hash K st) {n : Nat} {m : KV} (k : Key) (a : Agree hash n st.b m k) :
    (st.b.lookup hash k = .miss ∧ st.get hash k = (st, .miss))
    ∨ (∃ r it, AMap.get st.b.tree (hash k) = some it ∧ st.b.lookup hash k = .found r it
          ∧ st.get hash k = (st, .found r it.ver it.pos)) := by
  unfold State.get Bucket.lookup
  rw [memMeta_nc hash K nc]
  rcases a with ⟨a1, _⟩ | ⟨it, e, r, a1, _, a3, a4, _⟩
  · rw [a1]; exact Or.inl ⟨rfl, rfl⟩
  · rw [a1]
    simp only [a3, a4, if_true]
    exact Or.inr ⟨r, it, rfl, rfl, rfl⟩

theorem gcNewest_nc (hInj : InjOn hash K) {st : State} (nc : NoColl hash K st) (begin : Nat) (oldPos : Pos) (r : Rec) (hk : K r.key) :
    (gcNewest hash begin st oldPos r).1 =
      (match AMap.get st.b.tree (hash r.key) with
       | some it => it.pos == oldPos
       | none => decide (begin > 0) && decide (r.ver < 0)) := by
  unfold gcNewest
  simp only
  cases AMap.get st.b.tree (hash r.key) with
  | none => rfl
  | some ti =>
    simp only
    cases hp : ti.pos == oldPos with
    | true => rfl
    | false =>
      have hc : (st.getCollisionGC (hash r.key) r.key).2.2 = false := by
        unfold State.getCollisionGC
        rw [ctGet_eq, (tget_nil nc.ct (hash r.key) r.key).1, (tget_nil nc.ct (hash r.key) r.key).2]
        simp only [Bool.or_false]
        exact getItemCollision_nocoll hash K hInj st.hs nc.hs r.key hk
      rw [hc]
      rfl

/-- every record of the pass state, in the data files and in the write buffer, has a key in use -/
def AllK (g : GcSt) : Prop := (∀ i, ∀ p ∈ (g.b.chunks i).recs, K p.2.key) ∧ ∀ p ∈ g.out, K p.2.key

theorem recsK_setChunk {b : Bucket} (h : ∀ i, ∀ p ∈ (b.chunks i).recs, K p.2.key) (c : Nat) {ck : Chunk}
    (hck : ∀ p ∈ ck.recs, K p.2.key) : ∀ i, ∀ p ∈ ((b.setChunk c ck).chunks i).recs, K p.2.key := by
  intro i p hp
  rw [chunks_setChunk] at hp
  split at hp
  · exact hck p hp
  · exact h i p hp

theorem allK_endWriting {g : GcSt} (h : AllK K g) : ∀ i, ∀ p ∈ (g.endWriting.chunks i).recs, K p.2.key := by
  unfold GcSt.endWriting
  simp only
  split
  · exact recsK_setChunk K h.1 _ h.2
  · exact recsK_setChunk K h.1 _ (List.forall_mem_append.mpr ⟨h.1 g.dst, h.2⟩)

theorem allK_gcBegin {b : Bucket} (h : ∀ i, ∀ p ∈ (b.chunks i).recs, K p.2.key) (dst src : Nat) (stats : GcStats) :
    AllK K (gcBegin b dst src stats) := by
  unfold gcBegin
  split
  · exact ⟨h, fun p hp => nomatch hp⟩
  · exact ⟨recsK_setChunk K h _ (h dst), fun p hp => nomatch hp⟩

/-- the pass state of the collision-path model shadows the one of `Store.gcRun` -/
structure GcI (s : GcC) : Prop where
  b : s.st.b = s.g.b
  nc : NoColl hash K s.st
  k : AllK K s.g

theorem gcRecord_ext (hInj : InjOn hash K) (cfg : Collide.Cfg) (begin src : Nat) (s : GcC) (gi : GcI hash K s) (off : Nat) (r : Rec) (hk : K r.key) :
    (Collide.gcRecord hash cfg begin src s off r).g = Store.gcRecord hash cfg.s begin src s.g off r
    ∧ GcI hash K (Collide.gcRecord hash cfg begin src s off r) := by
  have hg1 : ∀ stats, AllK K (if r.size + s.g.wh > cfg.s.dataFileMax then gcBegin s.g.endWriting (s.g.dst + 1) src stats else { s.g with stats := stats }) := by
    intro stats
    split
    · exact allK_gcBegin K (allK_endWriting K gi.k) _ _ _
    · exact gi.k
  have hx := hintSet_nc hash K cfg.cap gi.nc.ct (hsNC_ite hash K (r.size + s.g.wh > cfg.s.dataFileMax) gi.nc.hs s.g.dst true) r.key hk r.ver
  have kept : ∀ (g1 : GcSt) (tree : List (Nat × TItem)) (ct' : CTable) (hs' : Hints), AllK K g1 → ct'.items = [] → HsNC hash K hs' →
      GcI hash K
        { g := { g1 with b := { g1.b with tree := tree }, out := g1.out ++ [(g1.wh, r)], wh := g1.wh + r.size },
          st := { s.st with b := { g1.b with tree := tree }, ct := ct', hs := hs' } } :=
    fun _ _ _ _ hk1 hct hh => ⟨rfl, ⟨hct, hh⟩, hk1.1, List.forall_mem_append.mpr ⟨hk1.2, List.forall_mem_singleton.mpr hk⟩⟩
  unfold Collide.gcRecord Store.gcRecord
  simp only
  -- with the newest-decision made equal both models walk the same branches; `kept` closes the two that keep the record
  rw [gcNewest_nc hash K hInj gi.nc begin _ r hk, gi.b]
  cases htr : AMap.get s.g.b.tree (hash r.key) with
  | none =>
    simp only
    cases hn : (decide (begin > 0) && decide (r.ver < 0)) with
    | false =>
      simp only [Bool.not_false, if_true]
      exact ⟨trivial, ⟨gi.b, gi.nc, gi.k⟩⟩
    | true =>
      simp only [Bool.not_true, Bool.false_eq_true, if_false]
      exact ⟨trivial, kept _ _ _ _ (hg1 _) (hx _ _ _ _).1 (hsNC_ite hash K _ (hx _ _ _ _).2 _ _)⟩
  | some ti =>
    simp only
    by_cases hn : (ti.pos == ({ chunk := src, off := off } : Pos)) = true
    · simp only [hn, Bool.not_true, Bool.false_eq_true, if_false, if_true]
      exact ⟨trivial, kept _ _ _ _ (hg1 _) (hx _ _ _ _).1 (hsNC_ite hash K _ (hx _ _ _ _).2 _ _)⟩
    · rw [Bool.not_eq_true] at hn
      simp only [hn, Bool.not_false, if_true]
      exact ⟨trivial, ⟨gi.b, gi.nc, gi.k⟩⟩

theorem gcFile_ext (hInj : InjOn hash K) (cfg : Collide.Cfg) (begin : Nat) (s : GcC) (gi : GcI hash K s) (src : Nat) :
    (Collide.gcFile hash cfg begin s src).g = Store.gcFile hash cfg.s begin s.g src
    ∧ GcI hash K (Collide.gcFile hash cfg begin s src) := by
  unfold Collide.gcFile Store.gcFile
  simp only
  by_cases hz : (s.g.b.chunks src).size = 0
  · rw [if_pos hz, if_pos hz]; exact ⟨rfl, gi⟩
  · rw [if_neg hz, if_neg hz]
    have gi0 : GcI hash K { s with st := { s.st with hs := s.st.hs.clearChunk src } } :=
      ⟨gi.b, ⟨gi.nc.ct, hsNC_setCk hash K _ gi.nc.hs src {} (ckNC_empty hash K)⟩, gi.k⟩
    obtain ⟨e, gi1⟩ := foldl_sim (GcI hash K) (·.g) (fun s (p : Nat × Rec) => Collide.gcRecord hash cfg begin src s p.1 p.2)
      (fun g (p : Nat × Rec) => Store.gcRecord hash cfg.s begin src g p.1 p.2) (s.g.b.chunks src).recs
      (fun s' p hp gi' => gcRecord_ext hash K hInj cfg begin src s' gi' p.1 p.2 (gi.k.1 src p hp)) _ gi0
    simp only at e
    generalize hs1 : (s.g.b.chunks src).recs.foldl (fun s (p : Nat × Rec) => Collide.gcRecord hash cfg begin src s p.1 p.2)
        { s with st := { s.st with hs := s.st.hs.clearChunk src } } = s1 at e gi1
    rw [← e]
    refine ⟨rfl, rfl, ⟨gi1.nc.ct, gi1.nc.hs⟩, ?_, gi1.k.2⟩
    show ∀ i, ∀ p ∈ ((if src ≠ s1.g.dst then s1.g.b.setChunk src {} else s1.g.b).chunks i).recs, K p.2.key
    split
    · exact recsK_setChunk K gi1.k.1 src (fun p hp => nomatch hp)
    · exact gi1.k.1

theorem mergeInsert_mem {acc : List Item} {it x : Item} (h : x ∈ mergeInsert acc it) : x ∈ acc ∨ x = it := by
  unfold mergeInsert at h
  cases hf : acc.find? (sameKey it) with
  | none =>
    rw [hf] at h
    simp only [List.mem_append, List.mem_singleton] at h
    exact h
  | some old =>
    rw [hf] at h
    simp only at h
    split at h
    · rw [List.mem_map] at h
      obtain ⟨y, hy, hxy⟩ := h
      split at hxy
      · exact Or.inr hxy.symm
      · exact Or.inl (hxy ▸ hy)
    · exact Or.inl h

theorem mergeWinners_mem {all : List Item} {x : Item} (h : x ∈ mergeWinners all) : x ∈ all :=
  List.foldlRecOn all mergeInsert (motive := fun acc => ∀ x ∈ acc, x ∈ all) (fun _ h => by cases h)
    (fun _ hi _ ha x hx => (mergeInsert_mem hx).elim (hi x) (fun e => e ▸ ha)) x h

theorem mergeReport_nil (hInj : InjOn hash K) (ct : CTable) (hct : ct.items = []) (win : List Item) (hw : Keyed hash K win) :
    (mergeReport ct win).items = [] := by
  refine List.foldlRecOn win _ (motive := fun ct : CTable => ct.items = []) hct fun ct h a ha => ?_
  have hno : win.any (fun x => x.khash == a.khash && x.key != a.key) = false := by
    rw [List.any_eq_false]
    intro x hx hc
    simp only [Bool.and_eq_true, beq_iff_eq, bne_iff_ne] at hc
    obtain ⟨x1, x2⟩ := hw x hx
    obtain ⟨a1, a2⟩ := hw a ha
    exact hc.2 (hInj _ _ x2 a2 (by rw [← x1, ← a1]; exact hc.1))
  simp only [hno, Bool.false_eq_true, if_false]
  exact h

theorem merge_nc (hInj : InjOn hash K) {st : State} (nc : NoColl hash K st) (forGC : Bool) :
    NoColl hash K (st.merge forGC) ∧ (st.merge forGC).b = st.b := by
  unfold State.merge
  simp only
  refine ⟨⟨?_, ?_⟩, trivial⟩
  · apply mergeReport_nil hash K hInj _ nc.ct
    intro x hx
    have := mergeWinners_mem hx
    rw [List.mem_flatMap] at this
    obtain ⟨c, _, hxc⟩ := this
    unfold ckFileItems at hxc
    rw [List.mem_flatMap] at hxc
    obtain ⟨sp, hsp, hxs⟩ := hxc
    cases hf : sp.file with
    | none => rw [hf] at hxs; cases hxs
    | some f =>
      rw [hf] at hxs
      simp only [List.mem_map] at hxs
      obtain ⟨y, hy, rfl⟩ := hxs
      exact ((nc.hs c).2 sp hsp).2 f hf y hy
  · exact nc.hs

theorem beforeGC_nc (hInj : InjOn hash K) {st : State} (nc : NoColl hash K st) (merge : Bool) :
    NoColl hash K (st.beforeGC merge) ∧ (st.beforeGC merge).b = st.b := by
  unfold State.beforeGC
  cases merge with
  | false => exact ⟨⟨nc.ct, nc.hs⟩, rfl⟩
  | true =>
    simp only [if_true]
    have nc1 : NoColl hash K { st with hs := (st.hs.setCk st.hs.maxChunk (st.hs.chunks st.hs.maxChunk).rotate).dumpAll (st.b.head + 1) } :=
      ⟨nc.ct, hsNC_dumpAll hash K _ _ (hsNC_setCk hash K _ nc.hs _ _ (ckNC_rotate hash K _ (nc.hs _)))⟩
    obtain ⟨m1, m2⟩ := merge_nc hash K hInj nc1 true
    exact ⟨⟨m1.ct, m1.hs⟩, m2⟩

theorem allrecs_K {cfg : Store.Cfg} {n : Nat} {b : Bucket} {m : KV} (h : HInv hash K cfg n b m) :
    ∀ i, ∀ p ∈ (b.chunks i).recs, K p.2.key :=
  fun i p hp => h.lr.keys ((⟨i, p.1⟩ : Pos), p.2) (mem_log_of_mem_recs h.wf.posInv hp)

theorem gcRun_ext (hInj : InjOn hash K) (cfg : Collide.Cfg) {st : State} (nc : NoColl hash K st)
    (hK : ∀ i, ∀ p ∈ (st.b.chunks i).recs, K p.2.key) (begin stop : Nat) (merge : Bool) :
    (st.gcRun hash cfg begin stop merge).1.b = (Store.gcRun hash cfg.s st.b begin stop).1
    ∧ NoColl hash K (st.gcRun hash cfg begin stop merge).1 := by
  obtain ⟨nc0, hb0⟩ := beforeGC_nc hash K hInj nc merge
  unfold State.gcRun Store.gcRun
  simp only
  rw [hb0]
  generalize st.beforeGC merge = st0 at nc0 hb0
  have gi0 : GcI hash K { g := gcBegin st.b (gcDst cfg.s st.b begin) begin {},
                          st := { st0 with b := (gcBegin st.b (gcDst cfg.s st.b begin) begin {}).b } } :=
    ⟨rfl, ⟨nc0.ct, nc0.hs⟩, allK_gcBegin K hK _ _ _⟩
  obtain ⟨e, gi⟩ := foldl_sim (GcI hash K) (·.g) (fun s i => Collide.gcFile hash cfg begin s (begin + i))
    (fun g i => Store.gcFile hash cfg.s begin g (begin + i)) (List.range (stop + 1 - begin))
    (fun s i _ gi => gcFile_ext hash K hInj cfg begin s gi (begin + i)) _ gi0
  simp only at e
  rw [← e]
  exact ⟨rfl, ⟨gi.nc.ct, hsNC_trydump hash K _ gi.nc.hs _ _⟩⟩

/-- the non-colliding bucket model's reading of an operation (`none`: invisible to it) -/
def toH : Collide.Op → Option HOp
  | .set k body flag rev ts size => some (.op (.set k body flag rev ts size))
  | .delete k size wts => some (.op (.delete k size wts))
  | .incr k d size wts => some (.op (.incr k d size wts))
  | .get k => some (.op (.get k))
  | .info k => some (.op (.info k))
  | .flush => some (.op .flush)
  | .reopen kt => some (.op (.reopen kt))
  | .gc g _ => some (.gc g)
  | .hintDump => none
  | .hintMerge => none

/-- an admissible operation other than a restart: keys in `K`, sane sizes and revisions (as C01/C03) -/
def ExtOK (cfg : Collide.Cfg) (R : Nat) : Collide.Op → Prop
  | .reopen _ => False
  | op => match toH op with | some h => HOpOK K cfg.s R h | none => True

def IsReopen : Collide.Op → Prop
  | .reopen _ => True
  | _ => False

def IsGC : Collide.Op → Prop
  | .gc _ _ => True
  | _ => False

/-- `ExtOK` with restarts admitted (`extOK_iff`); the lemmas speak of `InjOK`, `¬ IsReopen`, `¬ IsGC` -/
def InjOK (cfg : Collide.Cfg) (R : Nat) (op : Collide.Op) : Prop :=
  match toH op with | some h => HOpOK K cfg.s R h | none => True

theorem extOK_iff {cfg : Collide.Cfg} {R : Nat} {op : Collide.Op} : ExtOK K cfg R op ↔ InjOK K cfg R op ∧ ¬ IsReopen op := by
  cases op <;> simp [ExtOK, InjOK, IsReopen]

theorem gcOp_ext (hInj : InjOn hash K) (cfg : Collide.Cfg) {st : State} (nc : NoColl hash K st)
    (hK : ∀ i, ∀ p ∈ (st.b.chunks i).recs, K p.2.key) (g : GcArgs) (merge : Bool) :
    (st.gcOp hash cfg g merge).1.b = StoreLemmas.gcOp hash cfg.s st.b g ∧ NoColl hash K (st.gcOp hash cfg g merge).1 := by
  unfold State.gcOp StoreLemmas.gcOp
  cases gcCheckRange cfg.s st.b g with
  | error e => exact ⟨rfl, nc⟩
  | ok se =>
    obtain ⟨s, e⟩ := se
    exact gcRun_ext hash K hInj cfg nc hK s e merge

theorem client_ext (cfg : Collide.Cfg) (R : Nat) {st : State} {m : KV} {n : Nat}
    (nc : NoColl hash K st) (h : HInv hash K cfg.s n st.b m) (op : Collide.Op) (o : Store.Op) (hto : toH op = some (.op o))
    (hop : InjOK K cfg R op) (hre : ¬ IsReopen op) :
    (Collide.step hash cfg st op).1.b = (Store.step hash cfg.s st.b o).1
    ∧ (Collide.step hash cfg st op).2.1 = (Store.step hash cfg.s st.b o).2.1
    ∧ NoColl hash K (Collide.step hash cfg st op).1 := by
  cases op <;> simp only [toH, Option.some.injEq, HOp.op.injEq, reduceCtorEq] at hto <;> subst hto
  case set k body flag rev ts size =>
    obtain ⟨e, nc'⟩ := cas_ext hash K cfg nc k hop.1.1 body flag rev (some ts) size ts
    rw [step_set, StoreLemmas.step_set, e]
    cases (st.checkAndSet hash cfg k body flag rev (some ts) size ts).2 <;> exact ⟨rfl, rfl, nc'⟩
  case delete k size wts =>
    obtain ⟨e, nc'⟩ := cas_ext hash K cfg nc k hop.1.1 [] 0 (-1) none size wts
    rw [step_delete, StoreLemmas.step_delete, e]
    cases (st.checkAndSet hash cfg k [] 0 (-1) none size wts).2 <;> exact ⟨rfl, rfl, nc'⟩
  case get k =>
    simp only [Collide.step, Store.step]
    rcases get_ext hash K nc k (h.inv.agree k hop) with ⟨l1, l2⟩ | ⟨r, it, htr, l1, l2⟩ <;> rw [l1, l2]
    · exact ⟨rfl, rfl, nc⟩
    · simp only
      split <;> exact ⟨rfl, rfl, nc⟩
  case info k =>
    simp only [Collide.step, Store.step]
    rcases get_ext hash K nc k (h.inv.agree k hop) with ⟨l1, l2⟩ | ⟨r, it, htr, l1, l2⟩ <;> rw [l1, l2] <;> exact ⟨rfl, rfl, nc⟩
  case incr k d size wts =>
    simp only [Collide.step, Store.step]
    have hk : K k := hop.1.1
    have pe := fun v val => put_ext hash K cfg nc { key := k, ver := v, flag := Spec.FLAG_INCR, ts := none, body := Spec.itoa val, size := size, wts := wts } hk
    rcases get_ext hash K nc k (h.inv.agree k hk) with ⟨l1, l2⟩ | ⟨r, it, htr, l1, l2⟩ <;> rw [l1, l2] <;> simp only
    · exact ⟨(pe _ _).1, trivial, (pe _ _).2.2⟩
    · -- `Collide.step` starts a new counter at `ver ≤ 0` (bucket.go: `tofree.Ver > 0`), `Store.step` at `ver < 0`: no record has
      -- version 0 (`HInv.nz`), so the two tests agree on the version in the slot
      have hne : it.ver ≠ 0 := by
        rcases h.lr.last k hk with ⟨it', r', e1, e2, _, e4⟩ | ⟨e1, _⟩ <;> rw [htr] at e1 <;> cases e1
        rw [e4]
        exact h.nz _ (lastOf_mem e2)
      by_cases hle : it.ver ≤ 0
      · have hlt : it.ver < 0 := by omega
        simp only [hle, hlt, if_true]
        exact ⟨(pe _ _).1, trivial, (pe _ _).2.2⟩
      · have hlt : ¬ it.ver < 0 := by omega
        simp only [hle, hlt, if_false]
        split
        · exact ⟨rfl, rfl, nc⟩
        · split
          · exact ⟨rfl, rfl, nc⟩
          · cases Spec.parseInt r.body with
            | none => exact ⟨rfl, rfl, nc⟩
            | some old => exact ⟨(pe _ _).1, rfl, (pe _ _).2.2⟩
  case flush => exact ⟨rfl, rfl, ⟨nc.ct, nc.hs⟩⟩
  case reopen kt => exact absurd trivial hre

theorem cmdOf_toH (op : Collide.Op) (o : Store.Op) (hto : toH op = some (.op o)) : Collide.cmdOf op = Store.cmdOf o := by
  cases op <;> simp [toH] at hto <;> subst hto <;> rfl
end
end CollideLemmas
