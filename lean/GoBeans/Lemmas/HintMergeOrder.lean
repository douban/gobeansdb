/- C14 hint merge: the order `mergeHeap.Less` of store/hintmerge.go is the (khash, key) order of a hint file
   (`KLt`, a strict total order up to `SameKey`) refined by the position inside one (khash, key). -/
import GoBeans.Model.HintMerge
namespace HintMergeLemmas
open Hint HintMerge

/-- `Less` of the code, as a proposition -/
def ILt (a b : Item) : Prop :=
  a.khash < b.khash ∨ (a.khash = b.khash ∧ (a.key < b.key ∨ (a.key = b.key ∧ posKey a < posKey b)))

theorem itemLt_iff (a b : Item) : itemLt a b = true ↔ ILt a b := by
  unfold itemLt ILt
  by_cases h1 : a.khash = b.khash
  · by_cases h2 : a.key = b.key
    · simp [h1, h2, List.lt_irrefl]
    · simp [h1, h2]
  · simp [h1]

def ILe (a b : Item) : Prop := ¬ ILt b a

theorem itemLt_false_iff (a b : Item) : itemLt a b = false ↔ ILe b a := by
  unfold ILe; rw [← itemLt_iff]; simp

def SameKey (a b : Item) : Prop := a.khash = b.khash ∧ a.key = b.key

instance (a b : Item) : Decidable (SameKey a b) := inferInstanceAs (Decidable (_ ∧ _))

def KLt (a b : Item) : Prop := a.khash < b.khash ∨ (a.khash = b.khash ∧ a.key < b.key)

theorem keyLt_iff (a b : Item) : keyLt a b = true ↔ KLt a b := by
  unfold keyLt KLt
  by_cases h1 : a.khash = b.khash <;> simp [h1]

theorem SameKey.refl (a : Item) : SameKey a a := ⟨rfl, rfl⟩
theorem SameKey.symm {a b : Item} (h : SameKey a b) : SameKey b a := ⟨h.1.symm, h.2.symm⟩
theorem SameKey.trans {a b c : Item} (h1 : SameKey a b) (h2 : SameKey b c) : SameKey a c :=
  ⟨h1.1.trans h2.1, h1.2.trans h2.2⟩

theorem KLt_irrefl (a : Item) : ¬ KLt a a := by
  unfold KLt; intro h
  rcases h with h | ⟨_, h⟩
  · omega
  · exact List.lt_irrefl _ h

theorem KLt_trans {a b c : Item} (h1 : KLt a b) (h2 : KLt b c) : KLt a c := by
  unfold KLt at *
  rcases h1 with h1 | ⟨e1, h1⟩ <;> rcases h2 with h2 | ⟨e2, h2⟩
  · left; omega
  · left; omega
  · left; omega
  · right; exact ⟨e1.trans e2, List.lt_trans h1 h2⟩

theorem KLt_tri (a b : Item) : KLt a b ∨ SameKey a b ∨ KLt b a := by
  unfold KLt SameKey
  rcases Nat.lt_trichotomy a.khash b.khash with h | h | h
  · exact .inl (.inl h)
  · rcases Std.lt_trichotomy a.key b.key with k | k | k
    · exact .inl (.inr ⟨h, k⟩)
    · exact .inr (.inl ⟨h, k⟩)
    · exact .inr (.inr (.inr ⟨h.symm, k⟩))
  · exact .inr (.inr (.inl h))

theorem SameKey.klt_left {a b c : Item} (h : SameKey a b) (hk : KLt a c) : KLt b c := by
  unfold KLt at *; rw [← h.1, ← h.2]; exact hk

theorem SameKey.klt_right {a b c : Item} (h : SameKey b c) (hk : KLt a b) : KLt a c := by
  unfold KLt at *; rw [← h.1, ← h.2]; exact hk

theorem not_KLt_of_SameKey {a b : Item} (h : SameKey a b) : ¬ KLt a b :=
  fun hk => KLt_irrefl a (h.symm.klt_right hk)

theorem KLt_asymm {a b : Item} (h : KLt a b) : ¬ KLt b a :=
  fun h' => KLt_irrefl a (KLt_trans h h')

-- `ILt` and `ILe` in terms of `KLt`: everything else about them follows from these two

theorem ILt_iff (a b : Item) : ILt a b ↔ KLt a b ∨ (SameKey a b ∧ posKey a < posKey b) := by
  unfold ILt KLt SameKey
  simp only [and_or_left, or_assoc, and_assoc]

theorem ILe_iff (a b : Item) : ILe a b ↔ KLt a b ∨ (SameKey a b ∧ posKey a ≤ posKey b) := by
  unfold ILe; rw [ILt_iff]
  rcases KLt_tri a b with h | h | h
  · have n1 := KLt_asymm h
    have n2 : ¬ SameKey b a := fun s => not_KLt_of_SameKey s.symm h
    simp only [h, n1, n2, false_and, or_false, not_false_eq_true, true_or]
  · have n1 := not_KLt_of_SameKey h
    have n2 := not_KLt_of_SameKey h.symm
    simp only [h, h.symm, n1, n2, true_and, false_or, Nat.not_lt]
  · have n1 := KLt_asymm h
    have n2 : ¬ SameKey a b := fun s => not_KLt_of_SameKey s.symm h
    simp only [h, n1, n2, false_and, or_false, true_or, not_true_eq_false]

theorem ILe.klt {a b : Item} (h : ILe a b) (hne : ¬ SameKey a b) : KLt a b :=
  ((ILe_iff a b).mp h).resolve_right fun s => hne s.1

theorem ILe.pos_le {a b : Item} (h : ILe a b) (hs : SameKey a b) : posKey a ≤ posKey b :=
  ((ILe_iff a b).mp h).elim (fun hk => absurd hk (not_KLt_of_SameKey hs)) (·.2)

theorem ILe_refl (a : Item) : ILe a a := (ILe_iff a a).mpr (.inr ⟨SameKey.refl a, Nat.le_refl _⟩)

theorem ILe_of_KLt {a b : Item} (h : KLt a b) : ILe a b := (ILe_iff a b).mpr (.inl h)

theorem ILe_of_ILt {a b : Item} (h : ILt a b) : ILe a b := by
  rw [ILe_iff]; rw [ILt_iff] at h
  exact h.imp_right (fun s => ⟨s.1, Nat.le_of_lt s.2⟩)

theorem ILe_total (a b : Item) : ILe a b ∨ ILe b a := by
  rcases KLt_tri a b with h | h | h
  · exact .inl (ILe_of_KLt h)
  · rcases Nat.le_total (posKey a) (posKey b) with p | p
    · exact .inl ((ILe_iff a b).mpr (.inr ⟨h, p⟩))
    · exact .inr ((ILe_iff b a).mpr (.inr ⟨h.symm, p⟩))
  · exact .inr (ILe_of_KLt h)

theorem KLt_of_KLt_of_ILe {a b c : Item} (h1 : KLt a b) (h2 : ILe b c) : KLt a c := by
  rcases (ILe_iff b c).mp h2 with h | ⟨s, _⟩
  · exact KLt_trans h1 h
  · exact s.klt_right h1

theorem ILe_trans {a b c : Item} (h1 : ILe a b) (h2 : ILe b c) : ILe a c := by
  rcases (ILe_iff a b).mp h1 with h | ⟨s, p⟩
  · exact ILe_of_KLt (KLt_of_KLt_of_ILe h h2)
  · rcases (ILe_iff b c).mp h2 with h' | ⟨s', p'⟩
    · exact ILe_of_KLt (s.symm.klt_left h')
    · exact (ILe_iff a c).mpr (.inr ⟨s.trans s', Nat.le_trans p p'⟩)

theorem ILe.khash_le {a b : Item} (h : ILe a b) : a.khash ≤ b.khash := by
  rcases (ILe_iff a b).mp h with (h | ⟨e, _⟩) | ⟨s, _⟩
  · exact Nat.le_of_lt h
  · exact Nat.le_of_eq e
  · exact Nat.le_of_eq s.1

theorem posTie_iff (a b : Item) : posTie a b = true ↔ SameKey a b ∧ posKey a = posKey b := by
  simp [posTie, SameKey, and_assoc]

theorem tie_of_ILe_ILe {a b : Item} (h1 : ILe a b) (h2 : ILe b a) : posTie a b = true := by
  rcases (ILe_iff a b).mp h1 with h | ⟨s, p⟩
  · exact absurd h2 (fun h2 => KLt_irrefl a (KLt_of_KLt_of_ILe h h2))
  · rcases (ILe_iff b a).mp h2 with h' | ⟨_, p'⟩
    · exact absurd h' (not_KLt_of_SameKey s.symm)
    · exact (posTie_iff a b).mpr ⟨s, Nat.le_antisymm p p'⟩

theorem posKey_lt_iff (a b : Item) (ha : a.off < 2^32) (hb : b.off < 2^32) :
    posKey a < posKey b ↔ a.chunk < b.chunk ∨ (a.chunk = b.chunk ∧ a.off < b.off) := by
  unfold posKey
  omega

end HintMergeLemmas
