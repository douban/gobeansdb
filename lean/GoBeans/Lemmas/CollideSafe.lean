/-
  C13 on the collision path, part (b): the class `Safe` of histories and the invariant `SInv` that ties the state of
  `Collide.step` to a tracker computed from the history alone (the reference map, the keys written so far, the keys
  the collision table knows, and per key hash the key whose record the tree slot points at).  The proof carries the
  restart-proof form `RInv` (Lemmas/CollideR.lean), which contains `SInv` before the first restart (`rinv_sinv`).
-/
import GoBeans.Lemmas.CollideHints
import GoBeans.Lemmas.CollideTable
import GoBeans.Lemmas.CollideLog
import GoBeans.Lemmas.CollideOps
namespace CollideLemmas
open Store Spec HintIndex Collide StoreLemmas HintBufferLemmas

/-- what is known about the bucket from the history alone -/
structure Trk where
  m       : Spec.KV := []              -- the reference map
  written : List Key := []             -- keys that have a record
  reg     : List Key := []             -- keys entered in the collision table
  owner   : List (Nat × Key) := []     -- key hash ↦ the key whose record the tree slot points at (the last one written)

section
variable (hash : Key → Nat)

/-- the key hash is known to the collision table -/
def Trk.det (t : Trk) (h : Nat) : Bool := t.reg.any (fun k => hash k == h)

/-- the other keys of the same hash that have been written -/
def Trk.others (t : Trk) (k : Key) : List Key := t.written.filter (fun k' => hash k' == hash k && k' != k)

/-- the read path of `get k`: a written key the table does not know, read through a slot owned by another key, makes
    the store enter BOTH keys into the collision table -/
def Trk.afterGet (t : Trk) (k : Key) : Trk :=
  if k ∈ t.written ∧ k ∉ t.reg then
    match AMap.get t.owner (hash k) with
    | some o => if o = k then t else { t with reg := k :: o :: t.reg }
    | none => t
  else t

/-- a record of `k` is written: the slot is `k`'s; if the hash is known to the table, `k` is entered -/
def Trk.afterWrite (t : Trk) (k : Key) (m' : KV) : Trk :=
  { m := m', written := k :: t.written, owner := AMap.set t.owner (hash k) k,
    reg := if t.det hash (hash k) then k :: t.reg else t.reg }

/-- does the reference `incr` write (it refuses a value that is not a counter) -/
def incrWrites (m : KV) (k : Key) : Bool :=
  match AMap.get m k with
  | none => true
  | some e => if e.ver < 0 then true else if e.flag ≠ FLAG_INCR then false else if e.body.length > 22 then false
              else (parseInt e.body).isSome

def liveIn (m : KV) (k : Key) : Bool := match AMap.get m k with | some e => decide (e.ver > 0) | none => false

/-- one operation on the tracker; `none`: the operation is outside the class -/
def Trk.step (t : Trk) : Collide.Op → Option Trk
  | .set k body flag rev ts size =>
    if rev = 0 ∧ 0 < size ∧ body.length < 2^63 then some (t.afterWrite hash k (Spec.step {} t.m (.set k body flag rev ts)).1) else none
  | .delete k size _ =>
    -- a delete reads the old version through the slot of the key HASH unless the table knows the key
    if 0 < size ∧ (k ∈ t.reg ∨ t.others hash k = []) then
      let m' := (Spec.step {} t.m (.delete k)).1
      some (if liveIn t.m k then t.afterWrite hash k m' else { t with m := m' })
    else none
  | .incr k d size _ =>
    if 0 < size then
      let t1 := t.afterGet hash k
      let m' := (Spec.step {} t.m (.incr k d)).1
      some (if incrWrites t.m k then t1.afterWrite hash k m' else { t1 with m := m' })
    else none
  | .get k => some (t.afterGet hash k)
  | .info k => some (t.afterGet hash k)
  | .flush => some t
  | .hintDump => some t
  | _ => none

def Trk.run (t : Trk) : List Collide.Op → Option Trk
  | [] => some t
  | op :: ops => match t.step hash op with | some t' => Trk.run t' ops | none => none

/-- **the class**: client operations with automatic revisions, flush and the hint dumper's round, where a delete is
    issued only for a key the collision table knows or a key without written hash-mates -/
def Safe (ops : List Collide.Op) : Bool := (Trk.run hash {} ops).isSome

/-! ### the invariant -/

/-- the last record of a key against its entry in the reference map (versions: sign only) -/
def LogSpec : Option (Pos × Rec) → Option Entry → Prop
  | none, none => True
  | some x, some e => x.2.ver ≠ 0 ∧ (x.2.ver > 0 ↔ e.ver > 0) ∧ (e.ver > 0 → e.flag = x.2.flag ∧ e.body = x.2.body ∧ e.ts = x.2.ts)
      ∧ x.2.body.length < 2^63 ∧ e.ver ≠ 0
  | _, _ => False

structure SInv (cfg : Collide.Cfg) (st : State) (t : Trk) (n : Nat) : Prop where
  pos : PosInv st.b
  ra : ∀ c o r, (o, r) ∈ (st.b.chunks c).recs → st.b.readAt ⟨c, o⟩ = some r
  ob : ∀ c o r, (o, r) ∈ (st.b.chunks c).recs → o ≤ cfg.s.dataFileMax
  spec : ∀ k, LogSpec (lastOf k st.b.log) (AMap.get t.m k)
  wr : ∀ k, k ∈ t.written ↔ (lastOf k st.b.log).isSome
  vers : ∀ x ∈ st.b.log, x.2.ver.natAbs ≤ n
  tab : ∀ h k it, tget st.ct h k = some it → hash k = h ∧ k ∈ t.reg ∧ it.key = k ∧ it.khash = h
          ∧ ∃ r, lastOf k st.b.log = some (⟨it.chunk, it.off⟩, r) ∧ it.ver = r.ver
  tabc : ∀ k, k ∈ t.reg → (tget st.ct (hash k) k).isSome = true
  tabne : ∀ h, thas st.ct h = true → ∃ k it, tget st.ct h k = some it
  slot : ∀ h ti, AMap.get st.b.tree h = some ti → ∃ o r, AMap.get t.owner h = some o ∧ hash o = h
          ∧ lastOf o st.b.log = some (ti.pos, r) ∧ ti.ver = r.ver
  own : ∀ k, k ∈ t.written → ∃ ti, AMap.get st.b.tree (hash k) = some ti
  hgood : ∀ j, CkGood (st.hs.chunks j)
  hmerged : st.hs.merged = none
  hex : ∀ c k, HintAt hash k ((st.hs.chunks c).get (hash k) k) (lastIn k (st.b.chunks c).recs)
  hmax : ∀ c, (st.b.chunks c).recs ≠ [] → c ≤ st.hs.maxChunk

end

end CollideLemmas
