/-
  The tree built at start from hint split files = the replay of the data log (C02: hint files are rebuildable
  caches): `hintReplay_eq_replay`.
  The argument goes slot by slot (`applySplits_file_slot`): for the slot `hash o` it needs only that no other key of the
  records at hand has this hash, which is also what the colliding-keys theorems (C13) use (Lemmas/CollideOpen.lean
  calls `applySplits_file_slot`; `Keyed` is used by Lemmas/CollideExt.lean only); the injective hash enters in
  `applySplits_file` alone.
-/
import GoBeans.Lemmas.Log
import GoBeans.Lemmas.HintBuffer
namespace HintIndexLemmas
open Store Spec StoreLemmas HintIndex HintBufferLemmas

/-- core has no `Forall2` -/
inductive Forall2 {α β : Type} (R : α → β → Prop) : List α → List β → Prop
  | nil : Forall2 R [] []
  | cons {a b l₁ l₂} : R a b → Forall2 R l₁ l₂ → Forall2 R (a :: l₁) (b :: l₂)

theorem forall2_map_mem {α β γ : Type} {R : β → γ → Prop} (f : α → β) (g : α → γ) :
    ∀ l : List α, (∀ a ∈ l, R (f a) (g a)) → Forall2 R (l.map f) (l.map g) := by
  intro l
  induction l with
  | nil => intro _; exact Forall2.nil
  | cons a l ih =>
    intro h
    exact Forall2.cons (h a (by simp)) (ih (fun b hb => h b (List.mem_cons_of_mem _ hb)))

def lastWith (h : Nat) (items : List Item) : Option Item := (items.filter (fun it => it.khash = h)).getLast?

/-- what `applyItem` leaves in the slot of `it` (nothing for a tombstone) -/
def liveItem (c : Nat) (it : Item) : Option TItem :=
  if it.ver > 0 then some { pos := { chunk := c, off := it.off }, ver := it.ver, vhash := it.vhash } else none

theorem lastWith_cons (h : Nat) (x : Item) (l : List Item) :
    lastWith h (x :: l) = (lastWith h l).or (if x.khash = h then some x else none) := by
  unfold lastWith
  by_cases hx : x.khash = h
  · simp only [List.filter_cons, hx, decide_true, if_true]
    rw [List.getLast?_cons]
    cases (l.filter fun it => it.khash = h).getLast? <;> simp
  · simp [hx]

theorem applyItem_get (c : Nat) (t : Tree) (x : Item) (h : Nat) :
    AMap.get (applyItem c t x) h = if x.khash = h then liveItem c x else AMap.get t h := by
  unfold applyItem liveItem
  split <;> split
  · next hk => rw [← hk, AMap.get_set_self]
  · next hk => exact AMap.get_set_ne _ _ _ _ hk
  · next hk => rw [← hk, AMap.get_erase_self]
  · next hk => exact AMap.get_erase_ne _ _ _ hk

theorem applyFile_get (c : Nat) (items : List Item) :
    ∀ (t : Tree) (h : Nat), AMap.get (applyFile c t items) h =
      (match lastWith h items with
       | some it => liveItem c it
       | none => AMap.get t h) := by
  induction items with
  | nil => intro t h; simp [applyFile, lastWith]
  | cons x l ih =>
    intro t h
    have e : applyFile c t (x :: l) = applyFile c (applyItem c t x) l := rfl
    rw [e, ih, lastWith_cons, applyItem_get]
    cases lastWith h l with
    | some y => rfl
    | none => simp only [Option.none_or]; split <;> rfl

section Slot
variable (hash : Key → Nat)

theorem mkItem_khash (scan : Bool) (p : Nat × Rec) : (mkItem hash scan p).khash = hash p.2.key := by
  cases scan <;> rfl

theorem mkItem_key (scan : Bool) (p : Nat × Rec) : (mkItem hash scan p).key = p.2.key := by
  cases scan <;> rfl

/-- the value hash of a tombstone (0 on the write path, hash of the empty body after a scan) never reaches the tree -/
theorem liveItem_mkItem (scan : Bool) (c : Nat) (p : Nat × Rec) :
    liveItem c (mkItem hash scan p) = itemOfLast (some (({ chunk := c, off := p.1 } : Pos), p.2)) := by
  cases scan
  · by_cases hv : p.2.ver > 0 <;> simp [liveItem, mkItem, itemOfWrite, itemOfLast, hv]
  · by_cases hv : p.2.ver > 0 <;> simp [liveItem, mkItem, itemOfScan, itemOfLast, hv]

/-- when one key owns the hash `h`, at most one item of that hash survives `dedupLast`, so a permutation cannot change
    `lastWith h` (`lastWith_perm_dedup_slot`) -/
theorem filter_dedupLast_slot (h : Nat) (o : Key) (l : List Item) (hl : ∀ it ∈ l, it.khash = h → it.key = o) :
    (dedupLast l).filter (fun it => it.khash = h) = (lastWith h l).toList := by
  induction l with
  | nil => rfl
  | cons x l ih =>
    have hl' : ∀ it ∈ l, it.khash = h → it.key = o := fun it hit => hl it (List.mem_cons_of_mem _ hit)
    have ih' := ih hl'
    rw [lastWith_cons, dedupLast]
    by_cases hxk : x.khash = h
    · have hsame : ∀ y ∈ l, y.khash = h → sameKey x y = true := fun y hy e => by
        rw [sameKey_iff, hxk, e]
        exact ⟨rfl, (hl x (by simp) hxk).trans (hl' y hy e).symm⟩
      cases hlw : lastWith h l with
      | some z =>
        have hz := List.mem_filter.mp (List.mem_of_getLast? hlw)
        have : l.any (sameKey x) = true := List.any_eq_true.mpr ⟨z, hz.1, hsame z hz.1 (by simpa using hz.2)⟩
        simp [this, ih', hlw]
      | none =>
        have : ¬ l.any (sameKey x) = true := by
          rw [List.any_eq_true]
          rintro ⟨y, hy, hs⟩
          have : y ∈ l.filter (fun it => it.khash = h) := by
            simp [List.mem_filter, hy, ← ((sameKey_iff x y).mp hs).1, hxk]
          rw [List.getLast?_eq_none_iff.mp hlw] at this
          cases this
        simp [this, hxk, ih', hlw]
    · split <;> simp [hxk, ih']

theorem lastWith_perm_dedup_slot (h : Nat) (o : Key) (l items : List Item) (hl : ∀ it ∈ l, it.khash = h → it.key = o)
    (hp : items.Perm (dedupLast l)) : lastWith h items = lastWith h l := by
  have h1 : (items.filter (fun it => it.khash = h)).Perm ((lastWith h l).toList) := by
    rw [← filter_dedupLast_slot h o l hl]
    exact hp.filter _
  have h2 : items.filter (fun it => it.khash = h) = (lastWith h l).toList := by
    cases hlw : lastWith h l with
    | none => rw [hlw] at h1; simpa using h1
    | some z => rw [hlw] at h1; simpa using h1
  unfold lastWith at *
  rw [h2]
  cases (l.filter fun it => it.khash = h).getLast? <;> simp

theorem lastWith_map_slot (scan : Bool) (seg : FileRecs) (o : Key) (hone : ∀ p ∈ seg, hash p.2.key = hash o → p.2.key = o) :
    lastWith (hash o) (seg.map (mkItem hash scan)) = ((seg.filter (fun p => p.2.key = o)).getLast?).map (mkItem hash scan) := by
  unfold lastWith
  rw [List.filter_map, List.getLast?_map]
  congr 2
  apply List.filter_congr
  intro p hp
  simp only [Function.comp, mkItem_khash]
  exact decide_eq_decide.mpr ⟨hone p hp, fun e => e ▸ rfl⟩

theorem lastOf_fileLog (c : Nat) (seg : FileRecs) (k : Key) :
    lastOf k (fileLog c seg) =
      ((seg.filter (fun p => p.2.key = k)).getLast?).map (fun p => (({ chunk := c, off := p.1 } : Pos), p.2)) := by
  unfold lastOf fileLog
  rw [List.filter_map, List.getLast?_map]
  rfl

/-- `items` is a possible content of the split file of the record run `seg`: the last item per key, in ANY order
    (the code writes them sorted by (keyhash, key)), built on the write path or by a data scan -/
def SplitFileOf (seg : FileRecs) (items : List Item) : Prop :=
  ∃ scan, items.Perm (dedupLast (seg.map (mkItem hash scan)))

theorem applyFile_split_slot (c : Nat) (seg : FileRecs) (o : Key) (hone : ∀ p ∈ seg, hash p.2.key = hash o → p.2.key = o)
    (items : List Item) (hs : SplitFileOf hash seg items) (t t' : Tree) (hag : AMap.get t (hash o) = AMap.get t' (hash o)) :
    AMap.get (applyFile c t items) (hash o) = AMap.get ((fileLog c seg).foldl (replayStep hash) t') (hash o) := by
  obtain ⟨scan, hp⟩ := hs
  have hlog : ∀ x ∈ fileLog c seg, hash x.2.key = hash o → x.2.key = o := by
    intro x hx
    obtain ⟨p, hp', rfl⟩ := List.mem_map.mp hx
    exact hone p hp'
  have hitems : ∀ it ∈ seg.map (mkItem hash scan), it.khash = hash o → it.key = o := by
    intro it hit
    obtain ⟨p, hp', rfl⟩ := List.mem_map.mp hit
    rw [mkItem_khash, mkItem_key]
    exact hone p hp'
  rw [applyFile_get, replay_slot hash (fileLog c seg) o hlog,
      lastWith_perm_dedup_slot (hash o) o _ items hitems hp, lastWith_map_slot hash scan seg o hone, lastOf_fileLog]
  cases (seg.filter (fun p => p.2.key = o)).getLast? with
  | none => exact hag
  | some p => exact liveItem_mkItem hash scan c p

/-- some cut of the record sequence `recs` into consecutive runs, one split file per run -/
def FileHintsOf (recs : FileRecs) (splits : List (List Item)) : Prop :=
  ∃ segs : List FileRecs, segs.flatten = recs ∧ Forall2 (SplitFileOf hash) segs splits

theorem fileLog_append (c : Nat) (a b : FileRecs) : fileLog c (a ++ b) = fileLog c a ++ fileLog c b := by
  simp [fileLog]

theorem applySplits_file_slot (c : Nat) (recs : FileRecs) (o : Key) (hone : ∀ p ∈ recs, hash p.2.key = hash o → p.2.key = o)
    (splits : List (List Item)) (h : FileHintsOf hash recs splits) :
    ∀ (t t' : Tree), AMap.get t (hash o) = AMap.get t' (hash o) →
    AMap.get (applySplits c t splits) (hash o) = AMap.get ((fileLog c recs).foldl (replayStep hash) t') (hash o) := by
  obtain ⟨segs, rfl, hf⟩ := h
  induction hf with
  | nil => intro t t' hag; simpa [applySplits, fileLog] using hag
  | @cons seg items segs' splits' hs _ ih =>
    intro t t' hag
    have e1 : applySplits c t (items :: splits') = applySplits c (applyFile c t items) splits' := rfl
    rw [e1, List.flatten_cons, fileLog_append, List.foldl_append]
    exact ih (fun p hp => hone p (by simp [hp])) _ _
      (applyFile_split_slot hash c seg o (fun p hp => hone p (by simp [hp])) items hs t t' hag)

end Slot

section Agree
variable (hash : Key → Nat) (K : Key → Prop)

def Keyed (l : List Item) : Prop := ∀ it ∈ l, it.khash = hash it.key ∧ K it.key

def AgreeOn (t t' : Tree) : Prop := ∀ k, K k → AMap.get t (hash k) = AMap.get t' (hash k)

theorem applySplits_file (hInj : InjOn hash K) (c : Nat) (recs : FileRecs) (hK : ∀ p ∈ recs, K p.2.key)
    (splits : List (List Item)) (h : FileHintsOf hash recs splits) (t t' : Tree) (hag : AgreeOn hash K t t') :
    AgreeOn hash K (applySplits c t splits) ((fileLog c recs).foldl (replayStep hash) t') :=
  fun k hk => applySplits_file_slot hash c recs k (fun p hp e => hInj _ _ (hK p hp) hk e) splits h t t' (hag k hk)

theorem hintReplayFrom_agree (hInj : InjOn hash K) (files : List FileRecs) (hints : List (List (List Item)))
    (h : Forall2 (FileHintsOf hash) files hints) :
    (∀ f ∈ files, ∀ p ∈ f, K p.2.key) → ∀ (c : Nat) (t t' : Tree), AgreeOn hash K t t' →
    AgreeOn hash K (hintReplayFrom c t hints) ((logFrom c files).foldl (replayStep hash) t') := by
  induction h with
  | nil => intro _ c t t' hag k hk; simpa [hintReplayFrom, logFrom] using hag k hk
  | @cons recs splits files' hints' hf _ ih =>
    intro hK c t t' hag
    have e1 : hintReplayFrom c t (splits :: hints') = hintReplayFrom (c + 1) (applySplits c t splits) hints' := rfl
    have e2 : logFrom c (recs :: files') = fileLog c recs ++ logFrom (c + 1) files' := rfl
    rw [e1, e2, List.foldl_append]
    exact ih (fun f hf' => hK f (List.mem_cons_of_mem _ hf')) (c + 1) _ _
      (applySplits_file hash K hInj c recs (hK recs (by simp)) splits hf t t' hag)

/-- For every log (list of data files), every family of hint split files that can exist for it (`FileHintsOf` per
    file), and a key hash injective on the keys used: the tree `Bucket.open` builds from the hint files answers every
    key exactly like the replay of all data records in (file, offset) order. -/
theorem hintReplay_eq_replay (hInj : InjOn hash K) (files : List FileRecs) (hK : ∀ f ∈ files, ∀ p ∈ f, K p.2.key)
    (hints : List (List (List Item))) (h : Forall2 (FileHintsOf hash) files hints) (k : Key) (hk : K k) :
    AMap.get (hintReplay hints) (hash k) = AMap.get (replayTree hash (logOf files)) (hash k) :=
  hintReplayFrom_agree hash K hInj files hints h hK 0 [] [] (fun _ _ => rfl) k hk

end Agree
end HintIndexLemmas
