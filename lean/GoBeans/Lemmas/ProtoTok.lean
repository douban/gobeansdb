/-
  Tokens, lines and decimal numbers, for the request round trip (ProtoRT) and the reply round trip (ProtoRespRead): a line
  written as tokens joined by single spaces and closed by CR LF is read back (`readLine`) and split (`fields`) into exactly
  those tokens, and `atoi (itoa v) = some v` for every int64 `v`.
-/
import GoBeans.Model.Proto

namespace Proto
open Spec

/-- a field of a command or reply line (CR and every byte but space and LF may occur in it) -/
def Tok (t : Bytes) : Prop := t ≠ [] ∧ (32 : UInt8) ∉ t ∧ (10 : UInt8) ∉ t

def tokb (t : Bytes) : Bool := !t.isEmpty && !t.contains 32 && !t.contains 10

theorem tok_of_tokb {t : Bytes} (h : tokb t = true) : Tok t := by
  simp only [tokb, Bool.and_eq_true, Bool.not_eq_true', List.contains_eq_mem, decide_eq_false_iff_not] at h
  exact ⟨by intro e; simp [e] at h, h.1.2, h.2⟩

theorem toks_of_all (l : List Bytes) (h : l.all tokb = true) : ∀ t ∈ l, Tok t :=
  fun t ht => tok_of_tokb (List.all_eq_true.mp h t ht)

theorem readLine_append (l rest : Bytes) (h : (10 : UInt8) ∉ l) : readLine (l ++ 10 :: rest) = some (l ++ [10]) := by
  induction l with
  | nil => simp [readLine]
  | cons c l ih =>
    have hc : c ≠ 10 := fun e => h (by simp [e])
    have hl : (10 : UInt8) ∉ l := fun e => h (by simp [e])
    simp only [List.cons_append, readLine, hc, if_false, ih hl, Option.map_some]

theorem endsCRLF_append (x : Bytes) : endsCRLF (x ++ crlf) = true := by
  simp [endsCRLF, crlf]

theorem take_crlf (x : Bytes) : (x ++ crlf).take ((x ++ crlf).length - 2) = x := by
  simp [crlf]

theorem fieldsGo_tok (t rest cur : Bytes) (h : (32 : UInt8) ∉ t) : fieldsGo (t ++ rest) cur = fieldsGo rest (cur ++ t) := by
  induction t generalizing cur with
  | nil => simp
  | cons c t ih =>
    have hc : c ≠ 32 := fun e => h (by simp [e])
    have ht : (32 : UInt8) ∉ t := fun e => h (by simp [e])
    simp only [List.cons_append, fieldsGo, hc, if_false]
    rw [ih (cur ++ [c]) ht]
    simp

theorem fields_joinSp (toks : List Bytes) (h : ∀ t ∈ toks, Tok t) : fields (joinSp toks) = toks := by
  unfold fields
  induction toks with
  | nil => rfl
  | cons t ts ih =>
    have ht := h t (by simp)
    cases ts with
    | nil =>
      simp only [joinSp]
      have := fieldsGo_tok t [] [] ht.2.1
      simp only [List.append_nil, List.nil_append] at this
      rw [this]
      simp [fieldsGo, ht.1]
    | cons t2 ts2 =>
      simp only [joinSp, List.append_assoc]
      rw [fieldsGo_tok t _ [] ht.2.1]
      simp only [List.nil_append, sp, List.cons_append, fieldsGo, if_true, ht.1, if_false]
      rw [ih (fun x hx => h x (by simp [hx]))]

theorem joinSp_ne_nil (t : Bytes) (ts : List Bytes) (h : t ≠ []) : joinSp (t :: ts) ≠ [] := by
  cases ts with
  | nil => simpa [joinSp] using h
  | cons t2 ts2 => simp [joinSp, h]

theorem joinSp_no_lf (toks : List Bytes) (h : ∀ t ∈ toks, Tok t) : (10 : UInt8) ∉ joinSp toks := by
  induction toks with
  | nil => simp [joinSp]
  | cons t ts ih =>
    cases ts with
    | nil => simpa [joinSp] using (h t (by simp)).2.2
    | cons t2 ts2 =>
      simp only [joinSp, List.mem_append, sp]
      intro hm
      rcases hm with (hm | hm) | hm
      · exact (h t (by simp)).2.2 hm
      · simp at hm
      · exact ih (fun x hx => h x (by simp [hx])) hm

theorem readLine_toks (toks : List Bytes) (rest : Bytes) (ht : ∀ t ∈ toks, Tok t) :
    readLine (joinSp toks ++ crlf ++ rest) = some (joinSp toks ++ crlf) := by
  have hnl : (10 : UInt8) ∉ joinSp toks ++ [13] := by
    intro hm
    rcases List.mem_append.mp hm with hm | hm
    · exact joinSp_no_lf _ ht hm
    · simp at hm
  simpa [crlf] using readLine_append _ rest hnl

theorem fields_line_toks (toks : List Bytes) (ht : ∀ t ∈ toks, Tok t) :
    fields ((joinSp toks ++ crlf).take ((joinSp toks ++ crlf).length - 2)) = toks := by
  rw [take_crlf]
  exact fields_joinSp toks ht

/-- the range `Spec.parseInt` accepts (int64, as strconv does): where `atoi (itoa v) = some v` -/
def I64 (v : Int) : Prop := -9223372036854775808 ≤ v ∧ v ≤ 9223372036854775807

abbrev dstep := Spec.digitStep

theorem dstep_some (n : Nat) (c : UInt8) : dstep (some n) c = if 48 ≤ c.toNat ∧ c.toNat ≤ 57 then some (n * 10 + (c.toNat - 48)) else none := rfl

/-- the value reached from `k` by reading the digits `natDigitsAux fuel n acc` puts in front of `acc` (`natDigitsAux_spec`) -/
def valF : Nat → Nat → Nat → Nat
  | 0, k, _ => k
  | f + 1, k, n => if n < 10 then k * 10 + n else valF f k (n / 10) * 10 + n % 10

theorem digit_toNat (n : Nat) : ((48 + n % 10).toUInt8).toNat = 48 + n % 10 := by
  have : n % 10 < 10 := Nat.mod_lt _ (by omega)
  simp only [Nat.toUInt8, UInt8.toNat_ofNat']
  omega

/-- a run of decimal digits `ds`, not empty, in front of `acc`; read from `k`, the run gives `val k` -/
def Digits (out acc : Bytes) (val : Nat → Nat) : Prop :=
  ∃ ds, out = ds ++ acc ∧ ds ≠ [] ∧ (∀ b ∈ ds, 48 ≤ b.toNat ∧ b.toNat ≤ 57) ∧ ∀ k, ds.foldl dstep (some k) = some (val k)

theorem digits_one (n : Nat) (acc : Bytes) (v : Nat) (hv : v = n % 10) :
    Digits ((48 + n % 10).toUInt8 :: acc) acc (· * 10 + v) := by
  have hm : n % 10 < 10 := Nat.mod_lt _ (by omega)
  subst hv
  refine ⟨[(48 + n % 10).toUInt8], rfl, List.cons_ne_nil _ _, ?_, fun k => ?_⟩
  · intro b hb; rw [List.mem_singleton.mp hb, digit_toNat]; omega
  · rw [List.foldl_cons, List.foldl_nil, dstep_some, digit_toNat, if_pos (by omega)]; congr 2; omega

theorem Digits.snoc {out acc : Bytes} {d : UInt8} {val val1 : Nat → Nat} (h : Digits out (d :: acc) val)
    (h1 : Digits (d :: acc) acc val1) : Digits out acc (fun k => val1 (val k)) := by
  obtain ⟨ds, e, _, hall, hv⟩ := h
  obtain ⟨d1, e1, hne1, hall1, hv1⟩ := h1
  refine ⟨ds ++ d1, by rw [e, e1, List.append_assoc], by simp [hne1], ?_, fun k => by rw [List.foldl_append, hv, hv1]⟩
  intro b hb
  rcases List.mem_append.mp hb with hb | hb
  · exact hall b hb
  · exact hall1 b hb

theorem natDigitsAux_spec (fuel n : Nat) (acc : Bytes) : Digits (natDigitsAux (fuel + 1) n acc) acc (valF (fuel + 1) · n) := by
  induction fuel generalizing n acc with
  | zero =>
    unfold natDigitsAux valF
    by_cases h : n < 10
    · simp only [h, if_true]; exact digits_one n acc n (Nat.mod_eq_of_lt h).symm
    · simp only [h, if_false, natDigitsAux, valF]; exact digits_one n acc _ rfl
  | succ f ih =>
    unfold natDigitsAux valF
    by_cases h : n < 10
    · simp only [h, if_true]; exact digits_one n acc n (Nat.mod_eq_of_lt h).symm
    · simp only [h, if_false]; exact (ih (n / 10) _).snoc (digits_one n acc _ rfl)

theorem natDigits_spec (n : Nat) : natDigits n ≠ [] ∧ (∀ b ∈ natDigits n, 48 ≤ b.toNat ∧ b.toNat ≤ 57)
    ∧ ∀ k, (natDigits n).foldl dstep (some k) = some (valF 40 k n) := by
  obtain ⟨ds, e, h⟩ := natDigitsAux_spec 39 n []
  rw [List.append_nil] at e
  rw [show natDigits n = ds from e]; exact h

theorem valF_zero (fuel n : Nat) (h : n < 10 ^ fuel) : valF fuel 0 n = n := by
  induction fuel generalizing n with
  | zero => simp at h; simp [valF, h]
  | succ f ih =>
    unfold valF
    by_cases h10 : n < 10
    · simp [h10]
    · simp only [h10, if_false]
      have : n / 10 < 10 ^ f := by
        rw [Nat.div_lt_iff_lt_mul (by omega)]
        rw [Nat.pow_succ] at h; omega
      rw [ih _ this]
      omega

theorem atoi_itoa (v : Int) (h : I64 v) : atoi (itoa v) = some v := by
  unfold I64 at h
  -- 40 is the fuel of `Spec.natDigits`: it writes every number below 10 ^ 40 exactly
  have hbig : v.natAbs < 10 ^ 40 := by
    have : v.natAbs ≤ 9223372036854775808 := by omega
    calc v.natAbs ≤ 9223372036854775808 := this
      _ < 10 ^ 40 := by decide
  obtain ⟨hne, hall, hv⟩ := natDigits_spec v.natAbs
  have hdv : digitsVal (natDigits v.natAbs) = some v.natAbs := by
    unfold digitsVal
    rw [show (natDigits v.natAbs).isEmpty = false from by simpa using hne, hv 0]
    exact congrArg some (valF_zero 40 v.natAbs hbig)
  show Spec.parseInt (Spec.itoa v) = some v
  unfold Spec.parseInt Spec.itoa
  by_cases hneg : v < 0
  · simp only [hneg, if_true]
    simp [hdv]
    omega
  · simp only [hneg, if_false]
    obtain ⟨c, tl, hc⟩ := List.exists_cons_of_ne_nil hne
    have hd := hall c (by simp [hc])
    have h43 : c ≠ 43 := by intro e; rw [e] at hd; exact absurd hd.1 (by decide)
    have h45 : c ≠ 45 := by intro e; rw [e] at hd; exact absurd hd.1 (by decide)
    rw [hc]
    simp only [h43, h45, if_false]
    rw [← hc, hdv]
    simp
    omega

/-- digits are 48..57, the sign is 45 -/
theorem itoa_bytes (v : Int) : itoa v ≠ [] ∧ ∀ b ∈ itoa v, 45 ≤ b.toNat ∧ b.toNat ≤ 57 := by
  obtain ⟨hne, hall, _⟩ := natDigits_spec v.natAbs
  show Spec.itoa v ≠ [] ∧ ∀ b ∈ Spec.itoa v, 45 ≤ b.toNat ∧ b.toNat ≤ 57
  unfold Spec.itoa
  split
  · refine ⟨List.cons_ne_nil _ _, fun b hb => ?_⟩
    rcases List.mem_cons.mp hb with rfl | hb
    · decide
    · have := hall b hb; omega
  · exact ⟨hne, fun b hb => by have := hall b hb; omega⟩

theorem itoa_tok (v : Int) : Tok (itoa v) := by
  obtain ⟨hne, hall⟩ := itoa_bytes v
  exact ⟨hne, fun h => absurd (hall 32 h).1 (by decide), fun h => absurd (hall 10 h).1 (by decide)⟩

end Proto
