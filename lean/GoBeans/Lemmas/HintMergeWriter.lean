/- C14 hint merge: what `mergeWriter` (store/hintmerge.go) makes of a stream of items.  For ANY stream the written
   items are the last of every run of equal (khash, key) (`dedupLast`); for a stream in the order of `mergeHeap.Less`
   the reported collisions are exactly the written items whose key hash occurs more than once among the written
   items (`grp`). -/
import GoBeans.Lemmas.HintMergeOrder
namespace HintMergeLemmas
open Hint HintMerge

def finish (w : Writer) (l : List Item) : Writer := flush (l.foldl write w)

theorem finish_cons (w : Writer) (it : Item) (l : List Item) : finish w (it :: l) = finish (write w it) l := rfl

def dedupLast : List Item → List Item
  | [] => []
  | [x] => [x]
  | x :: y :: t => if SameKey x y then dedupLast (y :: t) else x :: dedupLast (y :: t)

theorem write_cons {w : Writer} {last : Item} {tl : List Item} (h : w.bufRev = last :: tl) (it : Item) :
    write w it =
      if last.khash ≠ it.khash then { flush w with bufRev := [it] }
      else if last.key ≠ it.key then { w with bufRev := it :: last :: tl }
      else { w with bufRev := it :: tl } := by
  unfold write
  rw [h]

/-- what is below `buf[num-1]` in the buffer is carried along and written first; `buf[num-1]` is written unless the
    next item has its (khash, key) -/
theorem finish_out_cons (l : List Item) : ∀ (w : Writer) (last : Item) (tl : List Item), w.bufRev = last :: tl →
    (finish w l).out = w.out ++ tl.reverse ++ dedupLast (last :: l) := by
  induction l with
  | nil =>
    intro w last tl h
    show w.out ++ w.bufRev.reverse = _
    rw [h, List.reverse_cons, ← List.append_assoc]; rfl
  | cons it l ih =>
    intro w last tl h
    rw [finish_cons, write_cons h, dedupLast]
    split
    · rename_i h1
      rw [ih _ it [] rfl, if_neg (fun s => h1 s.1)]
      simp only [flush, h, List.reverse_cons, List.reverse_nil, List.append_assoc, List.append_nil,
        List.singleton_append]
    · split
      · rename_i h2
        rw [ih _ it (last :: tl) rfl, if_neg (fun s => h2 s.2)]
        simp only [List.reverse_cons, List.append_assoc, List.singleton_append]
      · rename_i h1 h2
        rw [ih _ it tl rfl, if_pos ⟨Decidable.not_not.mp h1, Decidable.not_not.mp h2⟩]

theorem finish_out (l : List Item) : (finish {} l).out = dedupLast l := by
  cases l with
  | nil => rfl
  | cons x l => exact finish_out_cons l { bufRev := [x] } x [] rfl

/-- the `groups` of `Hint.merge` -/
def grp (out : List Item) : List Item :=
  out.filter (fun it => decide ((out.filter (fun o => decide (o.khash = it.khash))).length > 1))

theorem grp_append (out buf : List Item) (kh : Nat) (hb : ∀ x ∈ out, x.khash < kh)
    (hs : ∀ y ∈ buf, y.khash = kh) :
    grp (out ++ buf) = grp out ++ (if buf.length > 1 then buf else []) := by
  have h1 : ∀ x ∈ out, buf.filter (fun o => decide (o.khash = x.khash)) = [] := fun x hx =>
    List.filter_eq_nil_iff.mpr fun y hy => by have := hb x hx; have := hs y hy; simp; omega
  have h2 : ∀ x ∈ buf, out.filter (fun o => decide (o.khash = x.khash)) = [] := fun x hx =>
    List.filter_eq_nil_iff.mpr fun y hy => by have := hb y hy; have := hs x hx; simp; omega
  have h3 : ∀ x ∈ buf, buf.filter (fun o => decide (o.khash = x.khash)) = buf := fun x hx =>
    List.filter_eq_self.mpr fun y hy => by simp [hs y hy, hs x hx]
  unfold grp
  rw [List.filter_append]
  congr 1
  · exact List.filter_congr fun x hx => by rw [List.filter_append, h1 x hx, List.append_nil]
  · rw [List.filter_congr fun x hx => by rw [List.filter_append, h2 x hx, h3 x hx, List.nil_append]]
    split <;> simp [*]

/-- invariant of the writer while it is fed in `Less` order, `last` being the item written last -/
structure WriterInv (w : Writer) (last : Item) : Prop where
  head : ∃ tl, w.bufRev = last :: tl
  same : ∀ x ∈ w.bufRev, x.khash = last.khash
  below : ∀ x ∈ w.out, x.khash < last.khash
  coll : w.coll = grp w.out

theorem WriterInv.flush {w : Writer} {last : Item} (j : WriterInv w last) : (flush w).coll = grp (flush w).out := by
  have := grp_append w.out w.bufRev.reverse last.khash j.below (fun y hy => j.same y (List.mem_reverse.mp hy))
  simp only [HintMerge.flush]
  rw [this, j.coll, List.length_reverse]
  split <;> simp

theorem WriterInv.write {w : Writer} {last : Item} (j : WriterInv w last) {it : Item} (hle : ILe last it) : WriterInv (write w it) it := by
  obtain ⟨tl, hb⟩ := j.head
  rw [write_cons hb]
  split
  · -- a greater key hash: the buffer is flushed and becomes a group of the output
    rename_i h1
    have hlt : last.khash < it.khash := Nat.lt_of_le_of_ne hle.khash_le h1
    refine ⟨⟨[], rfl⟩, by simp, ?_, j.flush⟩
    intro x hx
    rcases List.mem_append.mp hx with hx' | hx'
    · exact Nat.lt_trans (j.below x hx') hlt
    · rw [j.same x (List.mem_reverse.mp hx')]; exact hlt
  · -- the same key hash: the buffer keeps what it had (but for `last`, if `it` has its key) and gets `it`
    rename_i h1
    have h1 : last.khash = it.khash := Decidable.not_not.mp h1
    have hsub : ∀ tl', (∀ x ∈ tl', x ∈ w.bufRev) → WriterInv { w with bufRev := it :: tl' } it := fun tl' hsub =>
      ⟨⟨tl', rfl⟩,
        fun x hx => (List.mem_cons.mp hx).elim (fun e => e ▸ rfl) (fun hx' => (j.same x (hsub x hx')).trans h1),
        fun x hx => h1 ▸ j.below x hx, j.coll⟩
    split
    · exact hsub (last :: tl) (fun x hx => hb ▸ hx)
    · exact hsub tl (fun x hx => hb ▸ List.mem_cons_of_mem _ hx)

theorem WriterInv.finish (s : List Item) {w : Writer} {last : Item} (j : WriterInv w last) (hp : (last :: s).Pairwise ILe) :
    (finish w s).coll = grp (finish w s).out := by
  induction s generalizing w last with
  | nil => exact j.flush
  | cons it s ih =>
    have hp' := List.pairwise_cons.mp hp
    exact ih (j.write (hp'.1 it (List.mem_cons_self ..))) hp'.2

theorem finish_coll (s : List Item) (hs : s.Pairwise ILe) : (finish {} s).coll = grp (finish {} s).out := by
  cases s with
  | nil => rfl
  | cons x s => exact WriterInv.finish s (w := { bufRev := [x] }) ⟨⟨[], rfl⟩, by simp, by simp, rfl⟩ hs

theorem dedupLast_sublist (s : List Item) : (dedupLast s).Sublist s := by
  fun_induction dedupLast s with
  | case1 => exact .slnil
  | case2 x => exact .refl _
  | case3 x y t _ ih => exact ih.cons x
  | case4 x y t _ ih => exact ih.cons_cons x

theorem dedupLast_sorted (s : List Item) (hp : s.Pairwise ILe) : (dedupLast s).Pairwise KLt := by
  fun_induction dedupLast s with
  | case1 => exact .nil
  | case2 x => exact List.pairwise_singleton _ _
  | case3 a b t _ ih => exact ih hp.of_cons
  | case4 a b t hne ih =>
    have hp' := List.pairwise_cons.mp hp
    -- `a` is kept: it is strictly before `b`, and `b` is not after anything that follows
    have hab : KLt a b := (hp'.1 b (List.mem_cons_self ..)).klt hne
    refine List.pairwise_cons.mpr ⟨fun z hz => ?_, ih hp'.2⟩
    rcases List.mem_cons.mp ((dedupLast_sublist _).subset hz) with rfl | hzt
    · exact hab
    · exact KLt_of_KLt_of_ILe hab (List.rel_of_pairwise_cons hp'.2 hzt)

theorem dedupLast_max (s : List Item) (hp : s.Pairwise ILe) :
    ∀ y ∈ s, ∃ x ∈ dedupLast s, SameKey x y ∧ posKey y ≤ posKey x := by
  fun_induction dedupLast s with
  | case1 => exact fun y hy => nomatch hy
  | case2 x => exact fun y hy => ⟨y, hy, SameKey.refl _, Nat.le_refl _⟩
  | case3 a b t hsame ih =>
    have hp' := List.pairwise_cons.mp hp
    intro y hy
    rcases List.mem_cons.mp hy with rfl | hy'
    · -- `y` is dropped for `b`, which has its (khash, key) and, coming later, a position not below
      obtain ⟨x, hx, hk, hpos⟩ := ih hp'.2 b (List.mem_cons_self ..)
      have hyb : posKey y ≤ posKey b := (hp'.1 b (List.mem_cons_self ..)).pos_le hsame
      exact ⟨x, hx, hk.trans (SameKey.symm hsame), Nat.le_trans hyb hpos⟩
    · exact ih hp'.2 y hy'
  | case4 a b t _ ih =>
    intro y hy
    rcases List.mem_cons.mp hy with rfl | hy'
    · exact ⟨y, List.mem_cons_self .., SameKey.refl _, Nat.le_refl _⟩
    · obtain ⟨x, hx, h⟩ := ih hp.of_cons y hy'
      exact ⟨x, List.mem_cons_of_mem _ hx, h⟩

end HintMergeLemmas
