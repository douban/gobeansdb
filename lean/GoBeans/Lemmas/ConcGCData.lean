/-
  GC beside clients: every GC micro-step preserves the tree part `GTree` of the invariant (`gtree_gmicro`) and, with the
  conditional repoint, the data invariant `DInv` (`dinv_gmicro`); item by item nothing a client can see changes
  (`gmicro_item`; that no register changes, `gmicro_absReg`, follows in Lemmas/ConcGCStep.lean).
-/
import GoBeans.Lemmas.ConcGCChk

namespace ConcGC
open ConcFine

theorem item_of_rec {s : State} (hk : GChk s) (hd : DInv s) {c : Nat} (hx : X s c) {r : Rec}
    (hr : r ∈ (s.base.chunks c).file) {k : Nat} {it : Item} (hit : s.base.tree k = some it)
    (hp : it.pos = ⟨c, r.off⟩) : k = r.key ∧ it.ver = r.ver := by
  obtain ⟨r0, ⟨h1, h2⟩, h3, h4⟩ := hd.tree k it hit
  rw [hp] at h1 h2
  have := contig_inj _ _ _ (hk.cold c hx).1.cfile r0 r ((hk.cold c hx).1.stored_file h1) hr h2
  subst this
  exact ⟨h3.symm, h4.symm⟩

theorem pos_eq {p : Pos} {c o : Nat} (h1 : p.chunk = c) (h2 : o = p.off) : p = ⟨c, o⟩ := by
  cases p; cases h1; cases h2; rfl

/-- `hrem`: the unprocessed part may only lose a record no tree item points at -/
theorem g2_same {s s' : State} (ht : GTree s) (hp : procPC s.gc.pc = true) (htr : s'.base.tree = s.base.tree)
    (hsrc : s'.gc.src = s.gc.src)
    (hrem : ∀ r ∈ rem s.gc, r ∈ rem s'.gc ∨ ∀ k it, s.base.tree k = some it → it.pos ≠ ⟨s.gc.src, r.off⟩) :
    ∀ k it, s'.base.tree k = some it → it.pos.chunk = s'.gc.src → ∃ r ∈ rem s'.gc, r.off = it.pos.off := by
  intro k it hit hc
  rw [htr] at hit; rw [hsrc] at hc
  obtain ⟨r, hr, ho⟩ := ht.g2 hp k it hit hc
  rcases hrem r hr with h1 | h1
  · exact ⟨r, h1, ho⟩
  · exact absurd (pos_eq hc ho) (h1 k it hit)

theorem gtree_same {s s' : State} (ht : GTree s) (htr : s'.base.tree = s.base.tree)
    (hX : ∀ c, X s' c ↔ X s c)
    (hg2 : procPC s'.gc.pc = true →
      ∀ k it, s'.base.tree k = some it → it.pos.chunk = s'.gc.src → ∃ r ∈ rem s'.gc, r.off = it.pos.off)
    (hnf : ∀ r, curNotFound s'.gc.pc = some r → curNotFound s.gc.pc = some r ∨ s.base.tree r.key = none) : GTree s' := by
  refine ⟨hg2, ?_⟩
  intro r hr it hit
  rw [htr] at hit
  rw [hX]
  rcases hnf r hr with h1 | h1
  · exact ht.nf r h1 it hit
  · rw [h1] at hit; contradiction

local macro "tr_same" ht:ident hpc:ident : tactic => `(tactic| (
  refine gtree_same $ht rfl (X_congr rfl rfl)
    (fun _ => g2_same $ht (by rw [$hpc:ident]; rfl) rfl rfl (fun r hr => Or.inl (by simpa [rem, State.gcGoto, State.setChunk, $hpc:ident] using hr)))
    (by intro r hr; left; simpa [curNotFound, State.gcGoto, State.setChunk, $hpc:ident] using hr)))

local macro "tr_noproc" ht:ident : tactic => `(tactic| (
  refine gtree_same $ht rfl (X_congr rfl rfl) (by intro hh; simp [procPC, State.gcGoto] at hh)
    (by intro r hr; simp [curNotFound, State.gcGoto] at hr)))

theorem gtree_gmicro {cfg : GCfg} {s s' : State} (hc : GCtl s) (hk : GChk s) (ht : GTree s) (hd : DInv s) (hz : noHaz s')
    (h : gmicro cfg s = some s') : GTree s' := by
  -- the record in GC's hands is dropped from `rem`: fine when no tree item points at it
  have drop : ∀ r, s.gc.pc = .gCheck r ∨ (∃ o, s.gc.pc = .gMove r o) ∨ (∃ o, s.gc.pc = .gFlush r false o) →
      (∀ it, s.base.tree r.key = some it → it.pos ≠ ⟨s.gc.src, r.off⟩) →
      ∀ k it, s.base.tree k = some it → it.pos ≠ ⟨s.gc.src, r.off⟩ := by
    intro r hpc hno k it hit hp
    have hp' : procPC s.gc.pc = true ∧ r ∈ rem s.gc := by
      rcases hpc with e | ⟨o, e⟩ | ⟨o, e⟩ <;> simp [rem, e, procPC]
    obtain ⟨rfl, _⟩ := item_of_rec hk hd (hc.X_src (Or.inl hp'.1)) (hk.remIn r hp'.2) hit hp
    exact hno it hit hp
  obtain ⟨_, hsd, hs⟩ := gmicro_elim_nohaz hc hz h
  generalize hpc : s.gc.pc = pc at hs
  cases hs with
  | tailKeep | tailCut => exact absurd hpc hc.notail
  | begin => unfold beginApp; tr_noproc ht
  | reopen r f => unfold beginApp; tr_same ht hpc
  | fileCancel | fileEnd | fileSkip | fileOpen | fileDone | final => tr_noproc ht
  | close r f | head r f | buf r f off | clearMem | remove => tr_same ht hpc
  | «open» =>
    have hxs := hc.X_src (Or.inr hpc)
    refine gtree_same ht rfl (X_congr rfl rfl) ?_ (by intro r hr; simp [curNotFound] at hr)
    intro _ k it hit hcs
    obtain ⟨r0, ⟨h1, h2⟩, _⟩ := hd.tree k it hit
    have hcs : it.pos.chunk = s.gc.src := hcs
    rw [hcs] at h1
    exact ⟨r0, by simpa [rem] using (hk.cold _ hxs).1.stored_file h1, h2⟩
  | nextClear htodo | nextTail htodo =>
    refine gtree_same ht rfl (X_congr rfl rfl)
      (fun _ => g2_same ht (by rw [hpc]; rfl) rfl rfl (fun r hr => by simp [rem, hpc, htodo] at hr))
      (by intro r hr; simp [curNotFound, State.gcGoto] at hr)
  | nextRec r rest htodo =>
    refine gtree_same ht rfl (X_congr rfl rfl)
      (fun _ => g2_same ht (by rw [hpc]; rfl) rfl rfl (fun r hr => Or.inl (by simpa [rem, hpc, htodo] using hr)))
      (by intro r hr; simp [curNotFound] at hr)
  | check r f pc' hnone hpc' =>
    refine gtree_same ht rfl (X_congr rfl rfl)
      (fun _ => g2_same ht (by rw [hpc]; rfl) rfl rfl (fun r hr => Or.inl (by rcases hpc' with rfl | rfl <;> simpa [rem, State.gcGoto, hpc] using hr)))
      ?_
    intro r' hr
    cases f with
    | true => rcases hpc' with rfl | rfl <;> simp [curNotFound, State.gcGoto] at hr
    | false =>
      right
      have : r = r' := by rcases hpc' with rfl | rfl <;> simpa [curNotFound, State.gcGoto] using hr
      rw [← this]; exact hnone rfl
  | checkSkip r hno =>
    refine gtree_same ht rfl (X_congr rfl rfl)
      (fun _ => g2_same ht (by rw [hpc]; rfl) rfl rfl ?_) (by intro r hr; simp [curNotFound, State.gcGoto] at hr)
    intro r' hr'
    simp only [rem, hpc, List.mem_cons] at hr'
    rcases hr' with rfl | hr'
    · exact Or.inr (drop r' (Or.inl hpc) hno)
    · left; simpa [rem, State.gcGoto] using hr'
  | flush r f off =>
    refine gtree_same ht rfl (X_congr rfl rfl) (fun _ => g2_same ht (by rw [hpc]; rfl) rfl rfl ?_)
      (by intro r hr; cases f <;> simp [curNotFound] at hr)
    intro r' hr'
    simp only [rem, hpc, List.mem_cons] at hr'
    cases f with
    | true => left; simpa [rem] using hr'
    | false =>
      rcases hr' with rfl | hr'
      · -- a record found in no tree: an item of its key, if any, points outside the range
        refine Or.inr (drop r' (Or.inr (Or.inr ⟨off, hpc⟩)) fun it hit hp => ?_)
        have := ht.nf r' (by simp [curNotFound, hpc]) it hit
        rw [hp] at this
        exact this (hc.X_src (Or.inl (by rw [hpc]; rfl)))
      · left; simpa [rem] using hr'
  | move r off it hit hcnd =>
    refine ⟨?_, by intro r' hr; simp [curNotFound] at hr⟩
    intro _ k it' hit' hcs
    by_cases hkk : k = r.key
    · simp only [hkk, if_true] at hit'
      obtain rfl := Option.some.inj hit'
      exact absurd hcs.symm hsd
    · simp only [hkk, if_false] at hit'
      obtain ⟨r', hr', ho⟩ := ht.g2 (by rw [hpc]; rfl) k it' hit' hcs
      simp only [rem, hpc, List.mem_cons] at hr'
      rcases hr' with rfl | hr'
      · exfalso
        exact hkk (item_of_rec hk hd (hc.X_src (Or.inl (by rw [hpc]; rfl))) (hk.remIn r' (by simp [rem, hpc])) hit'
          (pos_eq hcs ho)).1
      · exact ⟨r', by simpa [rem] using hr', ho⟩
  | moveSkip r off hno =>
    refine gtree_same ht rfl (X_congr rfl rfl)
      (fun _ => g2_same ht (by rw [hpc]; rfl) rfl rfl ?_) (by intro r hr; simp [curNotFound, State.gcGoto] at hr)
    intro r' hr'
    simp only [rem, hpc, List.mem_cons] at hr'
    rcases hr' with rfl | hr'
    · exact Or.inr (drop r' (Or.inr (Or.inl ⟨off, hpc⟩)) fun it hit hp => hno it hit (Or.inr hp))
    · left; simpa [rem, State.gcGoto] using hr'

theorem setChunk_store (s : State) (c₀ : Nat) (ch : Chunk) (h1 : ch.wbuf = (s.base.chunks c₀).wbuf)
    (h2 : ch.file = (s.base.chunks c₀).file) (c : Nat) :
    ((s.setChunk c₀ ch).base.chunks c).wbuf = (s.base.chunks c).wbuf ∧
    ((s.setChunk c₀ ch).base.chunks c).file = (s.base.chunks c).file := by
  by_cases hc : c = c₀
  · subst hc; rw [setChunk_same]; exact ⟨h1, h2⟩
  · rw [setChunk_ne s ch hc]; exact ⟨rfl, rfl⟩

theorem gmicro_chunks {cfg : GCfg} {s s' : State} (hc : GCtl s) (hk : GChk s) (hz : noHaz s')
    (h : gmicro cfg s = some s') :
    (∀ c, (s'.base.chunks c).wbuf = (s.base.chunks c).wbuf) ∧
    ((∀ c, (s'.base.chunks c).file = (s.base.chunks c).file)
    ∨ (∃ r f off, s.gc.pc = .gFlush r f off ∧ r ∈ (s.base.chunks s.gc.src).file ∧ ∀ c,
        (s'.base.chunks c).file = if c = s.gc.dst then (s.base.chunks s.gc.dst).file ++ [{ r with off := off }]
                                  else (s.base.chunks c).file)
    ∨ (s.gc.pc = .gRemove ∧ ∀ c, (s'.base.chunks c).file = if c = s.gc.src then [] else (s.base.chunks c).file)) := by
  have same : ∀ {A B : Nat → Prop} {P : Prop}, (∀ c, A c ∧ B c) → (∀ c, A c) ∧ ((∀ c, B c) ∨ P) :=
    fun hh => ⟨fun c => (hh c).1, Or.inl fun c => (hh c).2⟩
  obtain ⟨_, _, hs⟩ := gmicro_elim_nohaz hc hz h
  generalize hpc : s.gc.pc = pc at hs
  cases hs with
  | begin | reopen | head => exact same (setChunk_store s _ _ rfl rfl)
  | clearMem =>
    exact same (setChunk_store s _ _ (hk.cold _ (hc.X_src (Or.inl (by rw [hpc]; rfl)))).1.nobuf.symm rfl)
  | tailKeep | tailCut => exact absurd hpc hc.notail
  | flush r f off =>
    obtain ⟨_, _, hw⟩ := flush_append hk (hc.X_dst (gmicro_started hc h)) hpc
    refine ⟨fun c => ?_, Or.inr (Or.inl ⟨r, f, off, rfl, hk.remIn r (by simp [rem, hpc]), fun c => ?_⟩)⟩ <;>
      simp only [State.setChunk, ConcFine.State.setChunk, hw] <;> by_cases hcc : c = s.gc.dst <;> simp [hcc]
  | remove =>
    refine ⟨fun c => ?_, Or.inr (Or.inr ⟨rfl, fun c => ?_⟩)⟩ <;>
      simp only [State.gcGoto, State.setChunk, ConcFine.State.setChunk] <;> by_cases hcc : c = s.gc.src <;> simp [hcc]
  | _ => exact same fun c => ⟨rfl, rfl⟩

theorem gmicro_keeps_file {cfg : GCfg} {s s' : State} (hc : GCtl s) (hk : GChk s) (hz : noHaz s')
    (h : gmicro cfg s = some s') (c : Nat) (r : Rec) (hr : r ∈ (s.base.chunks c).file)
    (hne : ¬ (s.gc.pc = .gRemove ∧ c = s.gc.src)) : r ∈ (s'.base.chunks c).file := by
  rcases (gmicro_chunks hc hk hz h).2 with h1 | ⟨r0, f, off, hpc, _, h1⟩ | ⟨hpc, h1⟩ <;> rw [h1 c]
  · exact hr
  · by_cases hcd : c = s.gc.dst
    · subst hcd; simp only [if_true]; exact List.mem_append_left _ hr
    · simp only [hcd, if_false]; exact hr
  · have hcs : c ≠ s.gc.src := fun e => hne ⟨hpc, e⟩
    simp only [hcs, if_false]; exact hr

theorem gmicro_keeps {cfg : GCfg} {s s' : State} (hc : GCtl s) (hk : GChk s) (hz : noHaz s')
    (h : gmicro cfg s = some s') {p : Pos} {r : Rec} (hr : StoredAt s.base.chunks p r)
    (hne : ¬ (s.gc.pc = .gRemove ∧ p.chunk = s.gc.src)) : StoredAt s'.base.chunks p r :=
  ⟨hr.1.imp (gmicro_keeps_file hc hk hz h _ r · hne) ((gmicro_chunks hc hk hz h).1 _ ▸ ·), hr.2⟩

theorem gmicro_new {cfg : GCfg} {s s' : State} (hc : GCtl s) (hk : GChk s) (hz : noHaz s')
    (h : gmicro cfg s = some s') (c : Nat) (r : Rec) (hr : Stored (s'.base.chunks c) r) :
    Stored (s.base.chunks c) r ∨ ∃ r0 off, r0 ∈ (s.base.chunks s.gc.src).file ∧ r = { r0 with off := off } := by
  obtain ⟨hw, hf⟩ := gmicro_chunks hc hk hz h
  rcases hr with hr | hr
  · rcases hf with h1 | ⟨r0, f, off, hpc, hr0, h1⟩ | ⟨hpc, h1⟩ <;> rw [h1 c] at hr
    · exact Or.inl (Or.inl hr)
    · by_cases hcd : c = s.gc.dst
      · subst hcd; simp only [if_true] at hr
        rcases List.mem_append.mp hr with hr | hr
        · exact Or.inl (Or.inl hr)
        · exact Or.inr ⟨r0, off, hr0, by simpa using hr⟩
      · simp only [hcd, if_false] at hr; exact Or.inl (Or.inl hr)
    · by_cases hcs : c = s.gc.src
      · simp [hcs] at hr
      · simp only [hcs, if_false] at hr; exact Or.inl (Or.inl hr)
  · exact Or.inl (Or.inr (hw c ▸ hr))

/-- no item points into the file being removed -/
theorem gmicro_item_kept {cfg : GCfg} {s s' : State} (hc : GCtl s) (hk : GChk s) (ht : GTree s) (hz : noHaz s')
    (h : gmicro cfg s = some s') {k : Nat} {it : Item} (hit : s.base.tree k = some it) {r : Rec}
    (hr : StoredAt s.base.chunks it.pos r) : StoredAt s'.base.chunks it.pos r := by
  refine gmicro_keeps hc hk hz h hr ?_
  rintro ⟨hpc, hcs⟩
  obtain ⟨r', hr', _⟩ := ht.g2 (by rw [hpc]; rfl) k it hit hcs
  simp [rem, hpc] at hr'

/-- the item `it'` of a key after a GC micro-step against its item `it` before the step: `r`, `r'` are the records they
    point at -/
structure ItemStep (s s' : State) (k : Nat) (it it' : Item) (r r' : Rec) : Prop where
  item : s.base.tree k = some it
  ver : it'.ver = it.ver
  old : StoredAt s.base.chunks it.pos r
  new : StoredAt s'.base.chunks it'.pos r'
  val : r'.val = r.val
  key : r'.key = k
  rver : r'.ver = it'.ver

theorem gmicro_item {cfg : GCfg} {s s' : State} (hb : cfg.blind = false) (hc : GCtl s) (hk : GChk s) (ht : GTree s)
    (hd : DInv s) (hz : noHaz s') (h : gmicro cfg s = some s') {k : Nat} {it' : Item} (hit' : s'.base.tree k = some it') :
    ∃ it r r', ItemStep s s' k it it' r r' := by
  have hcase : s.base.tree k = some it' ∨ ∃ r off it, s.gc.pc = .gMove r off ∧ k = r.key ∧ s.base.tree r.key = some it ∧
      it.pos = ⟨s.gc.src, r.off⟩ ∧ it' = ⟨it.ver, ⟨s.gc.dst, off⟩⟩ := by
    rcases gmicro_tree h with he | ⟨r, off, it, hpc, hit, hcnd, he⟩ <;> rw [he] at hit'
    · exact Or.inl hit'
    · by_cases hkk : k = r.key
      · simp only [hkk, if_true] at hit'
        exact Or.inr ⟨r, off, it, hpc, hkk, hit, hcnd.resolve_left (by rw [hb]; nofun), (Option.some.inj hit').symm⟩
      · simp only [hkk, if_false] at hit'; exact Or.inl hit'
  rcases hcase with hit | ⟨r, off, it, hpc, rfl, hit, hp, rfl⟩
  · obtain ⟨r0, h1, h2, h3⟩ := hd.tree k it' hit
    exact ⟨it', r0, r0, hit, rfl, h1, gmicro_item_kept hc hk ht hz h hit h1, rfl, h2, h3⟩
  · have hrf := hk.remIn r (by simp [rem, hpc])
    refine ⟨it, r, { r with off := off }, hit, rfl, ?_, ?_, rfl, rfl,
      (item_of_rec hk hd (hc.X_src (Or.inl (by rw [hpc]; rfl))) hrf hit hp).2.symm⟩
    · rw [hp]; exact ⟨Or.inl hrf, rfl⟩
    · exact gmicro_keeps hc hk hz h ⟨Or.inl (hk.mv r off hpc), rfl⟩ (fun hh => by rw [hpc] at hh; simp at hh)

theorem gmicro_none {cfg : GCfg} {s s' : State} (h : gmicro cfg s = some s') (k : Nat) :
    s'.base.tree k = none ↔ s.base.tree k = none := by
  rcases gmicro_tree h with he | ⟨r, off, it, hpc, hit, hcnd, he⟩
  · rw [he]
  · rw [he]
    by_cases hkk : k = r.key
    · simp [hkk, hit]
    · simp [hkk]

theorem dinv_gmicro {cfg : GCfg} {s s' : State} (hb : cfg.blind = false) (hc : GCtl s) (hk : GChk s) (ht : GTree s)
    (hd : DInv s) (hz : noHaz s') (h : gmicro cfg s = some s') : DInv s' := by
  have hfr := gmicro_frame h
  have hold : ∀ k, oldVer s'.base k = oldVer s.base k := by
    intro k
    unfold oldVer
    cases hit' : s'.base.tree k with
    | none => rw [(gmicro_none h k).1 hit']
    | some it' =>
      obtain ⟨it, _, _, hi⟩ := gmicro_item hb hc hk ht hd hz h hit'
      rw [hi.item]; exact hi.ver
  refine ⟨?_, ?_, ?_, ?_, ?_⟩
  · intro c r hr
    rcases gmicro_new hc hk hz h c r hr with h1 | ⟨r0, off, h1, rfl⟩
    · exact hd.recs c r h1
    · exact hd.recs _ r0 (Or.inl h1)
  · intro k it' hit'
    obtain ⟨_, _, r', hi⟩ := gmicro_item hb hc hk ht hd hz h hit'
    exact ⟨r', hi.new, hi.key, hi.rver⟩
  · intro u
    rw [hfr.thr]
    refine writerOK_of hold (gmicro_none h) (fun q ver pos r hpc hsa => ?_) (hd.wr u)
    -- the record the writer has appended lies in the head chunk, which is not the source
    have hpn : pos.chunk = s.base.newHead := by
      have := hd.wpos u
      rcases hpc with e | e <;> rw [e] at this <;> exact this
    refine gmicro_keeps hc hk hz h hsa ?_
    rintro ⟨hpc, hcs⟩
    exact hc.not_X_head _ (Nat.le_of_eq hpn.symm) (hcs ▸ hc.X_src (Or.inl (by rw [hpc]; rfl)))
  · intro u; rw [hfr.thr, hfr.newHead]; exact hd.wpos u
  · intro u c hf; rw [hfr.thr] at hf; rw [X_congr hfr.started hfr.gend]; exact hd.fltg u c hf

end ConcGC
