/-
  QuickLZ (C10) — the level-1 compressor.  First the parts of one pass of the first loop of `Compress(x, 1)`: the length
  search (`srcE1_run`; its loop is the level-3 one, `QlzSearch`), the two token forms whose length / hash slot the decoder's
  arithmetic `tok1` recovers, and the two inlined byte writes of the short form as a `fastWrite`.
-/
import GoBeans.Lemmas.QlzLoop
import GoBeans.Lemmas.QlzSearch
namespace QlzRT
open Qlz QlzLemmas

/-- the length search of a level-1 match (quicklz.go:150-164): bytes 4, 5 unrolled, then the loop -/
def srcE1 (s : Buf) (o src remaining : Nat) : Option Nat :=
  let oldSrc := src
  let src4 := src + 4
  match s[o + (src4 - oldSrc)]?, s[src4]? with
  | some a, some b =>
    if a = b then
      let src5 := src4 + 1
      match s[o + (src5 - oldSrc)]?, s[src5]? with
      | some a, some b => if a = b then extend1 s o oldSrc remaining 300 (src5 + 1) else some src5
      | _, _ => none
    else some src4
  | _, _ => none

/-- as the model writes it in `cstep1` (`srcE`) -/
theorem srcE1_eq (s : Buf) (o src remaining : Nat) :
    srcE1 s o src remaining =
      match s[o + (src + 4 - src)]?, s[src + 4]? with
      | some a, some b =>
        if a = b then
          match s[o + (src + 4 + 1 - src)]?, s[src + 4 + 1]? with
          | some a, some b => if a = b then extend1 s o src remaining 300 (src + 4 + 1 + 1) else some (src + 4 + 1)
          | _, _ => none
        else some (src + 4)
      | _, _ => none := rfl

theorem srcE1_run (s : Buf) (o src rem : Nat) (ho : o ≤ src) (h6 : 6 ≤ rem) (hr : src + rem + 4 ≤ s.size) :
    ∃ m, srcE1 s o src rem = some (src + m) ∧ 4 ≤ m ∧ m ≤ rem ∧ ∀ j, 4 ≤ j → j < m → s[o + j]? = s[src + j]? := by
  obtain ⟨a, ha⟩ := getElem?_ok s (o + 4) (by omega)
  obtain ⟨b, hb⟩ := getElem?_ok s (src + 4) (by omega)
  obtain ⟨a', ha'⟩ := getElem?_ok s (o + 5) (by omega)
  obtain ⟨b', hb'⟩ := getElem?_ok s (src + 4 + 1) (by omega)
  unfold srcE1
  simp only
  rw [show src + 4 - src = 4 by omega, show src + 4 + 1 - src = 5 by omega, ha, hb]
  simp only
  by_cases hab : a = b
  · rw [if_pos hab, ha', hb']
    simp only
    by_cases hab' : a' = b'
    · obtain ⟨m, hm, m6, mrem, mext⟩ := extend3_run s o src rem ho (by omega) 300 6 h6
      rw [if_pos hab', show src + 4 + 1 + 1 = src + 6 by omega, extend1_eq, hm]
      refine ⟨m, rfl, by omega, mrem, fun j j4 jm => ?_⟩
      by_cases h4 : j = 4
      · subst h4; rw [ha, hb, hab]
      · by_cases h5 : j = 5
        · subst h5; rw [ha', hb', hab']
        · exact mext j (by omega) jm
    · rw [if_neg hab']
      refine ⟨5, rfl, by omega, by omega, fun j j4 j5 => ?_⟩
      obtain rfl : j = 4 := by omega
      rw [ha, hb, hab]
  · rw [if_neg hab]
    exact ⟨4, rfl, by omega, by omega, fun j j4 j5 => by omega⟩

/-- the two-byte token, lengths 3 .. 17; length 3 is written `1 ||| (hash <<< 4)` in the source (quicklz.go:143) -/
theorem tok1EncS (hash ml : Nat) (hh : hash < 4096) (h1 : 3 ≤ ml) (h2 : ml < 18) :
    TokEnc tok1 3 ((hash <<< 4) ||| (ml - 2)) 2 ml hash := by
  rw [show (hash <<< 4) ||| (ml - 2) = pack 4 12 (ml - 2) hash 0 by
    rw [Nat.or_comm, or_shl _ _ _ (by omega)]; simp only [pack, Nat.reducePow]; omega]
  refine TokEnc.of_fields 4 12 0 rfl (by omega) (by omega) (by omega) (by omega) (by omega) fun f _ f1 f2 _ => ?_
  have g : f % 16 = ml - 2 := (fld_zero f 4).symm.trans f1
  unfold tok1
  rw [if_pos (by omega), g, show f / 16 % 4096 = fld f 4 12 from rfl, f2, Nat.sub_add_cancel (by omega)]

theorem tok1EncL (hash ml : Nat) (hh : hash < 4096) (h1 : 18 ≤ ml) (h2 : ml ≤ 255) : TokEnc tok1 3 ((hash <<< 4) ||| (ml <<< 16)) 3 ml hash := by
  rw [show (hash <<< 4) ||| (ml <<< 16) = pack 4 12 0 hash ml by
    rw [Nat.shiftLeft_eq hash, or_shl _ _ _ (by omega)]; simp only [pack, Nat.reducePow]; omega]
  refine TokEnc.of_fields 4 12 8 rfl (by omega) (by omega) (by omega) (by omega) (by omega) fun f _ f1 f2 f3 => ?_
  have g : f % 16 = 0 := (fld_zero f 4).symm.trans f1
  unfold tok1
  rw [if_neg (by omega), show f / 65536 % 256 = fld f (4 + 12) 8 from rfl, f3, show f / 16 % 4096 = fld f 4 12 from rfl, f2]

/-- the two inlined byte writes of a short token (quicklz.go:144-145, 172-173) -/
theorem fastWrite_two {dest d1 d : Buf} {dst f : Nat} (h1 : wr dest dst (f % 256).toUInt8 = some d1)
    (h2 : wr d1 (dst + 1) ((f >>> 8) % 256).toUInt8 = some d) : fastWrite dest dst f 2 = some d := by
  simp only [fastWrite, Nat.add_zero, Nat.mul_zero, Nat.shiftRight_zero, Nat.mul_one, h1, h2]

/-
  The compressor half of the level-1 round trip: the two hash tables.  `TInv1` relates the compressor's
  tables at the top of a pass to the table the decoder has when it reaches the same position.  A pass keeps the relation
  (`tinv1_lit`, `tinv1_mat`), and at a match the decoder finds a position from which the copy reproduces the source
  (`lookup1`); so a pass under the relation cannot panic and is what `Level` asks for (`cstep1_run`).  With the two
  inductions of `QlzLoop` (`level1`): `compress1_roundtrip`, `compress1_total`.
-/
/-- the "run of one byte" exception to `src - o > MINOFFSET` (quicklz.go:140) -/
def Rep1 (s : Buf) (src o lits : Nat) : Prop :=
  src = o + 1 ∧ lits ≥ 3 ∧ src > 3 ∧ s[src]?.getD 0 = s[src - 3]?.getD 0 ∧ s[src]?.getD 0 = s[src - 2]?.getD 0
    ∧ s[src]?.getD 0 = s[src - 1]?.getD 0 ∧ s[src]?.getD 0 = s[src + 1]?.getD 0 ∧ s[src]?.getD 0 = s[src + 2]?.getD 0

/-- `Rep1` is the Boolean `rep` of the model (`cstep1`) -/
theorem Rep1_iff (s : Buf) (src o lits : Nat) :
    (decide (src = o + 1 ∧ lits ≥ 3 ∧ src > 3 ∧ s[src]?.getD 0 = s[src - 3]?.getD 0 ∧ s[src]?.getD 0 = s[src - 2]?.getD 0
      ∧ s[src]?.getD 0 = s[src - 1]?.getD 0 ∧ s[src]?.getD 0 = s[src + 1]?.getD 0 ∧ s[src]?.getD 0 = s[src + 2]?.getD 0) = true)
      ↔ Rep1 s src o lits := decide_eq_true_iff

/-- the compressor's tables at the top of a pass against the table `dht` and `lastHashed = lh` the decoder has at the same
    position.  The decoder enters a position once the three bytes from it are out (quicklz.go:404-410), so after `lits`
    literals in a row it lags by `min lits 2` positions; after a match it has caught up (quicklz.go:384-390). -/
structure TInv1 (s : Buf) (st : CSt) (dht : Array Int) (lh : Int) : Prop where
  hts : st.ht.size = 4096
  cas : st.cache.size = 4096
  hcs : st.hc.size = 4096
  dhs : dht.size = 4096
  litle : st.lits ≤ st.src
  lhe : lh = (st.src : Int) - 1 - ((min st.lits 2 : Nat) : Int)
  -- once the decoder has caught up, its table is the compressor's
  sync : ∃ ht', hashUpdLit s (min st.lits 2) dht lh = some (ht', (st.src : Int) - 1)
    ∧ ∀ h : Nat, h < 4096 → ht'[h]? = (st.ht[h]?).map Int.ofNat
  -- for the run-of-one-byte match (`Rep1` asks for three literals): the position three back is in the decoder's table already
  rep : 3 ≤ st.lits → ∀ f, fastRead s (st.src - 3) 3 = some f → dht[hashOf f]? = some ((st.src : Int) - 3)
  fetch : (st.src : Int) ≤ (s.size : Int) - 11 → fastRead s st.src 3 = some st.fetch
  -- a non-zero `hashCounter` entry: the slot was filled at an earlier position, whose three bytes `cachetable` holds
  cache : ∀ (h o cf : Nat) (cnt : UInt8), st.ht[h]? = some o → st.cache[h]? = some cf → st.hc[h]? = some cnt → cnt ≠ 0 →
    o < st.src ∧ fastRead s o 3 = some cf

/-- entering `src` into the decoder's table, once caught up, gives the compressor's table after this pass -/
theorem sync_step {s : Buf} {st : CSt} {dht : Array Int} {lh : Int} (hi : TInv1 s st dht lh)
    (hf : fastRead s st.src 3 = some st.fetch) :
    ∃ ht2, hashUpdLit s (min st.lits 2 + 1) dht lh = some (ht2, (st.src : Int))
      ∧ ht2.size = 4096
      ∧ ∀ h : Nat, h < 4096 → ht2[h]? = ((st.ht.setIfInBounds (hashOf st.fetch) st.src)[h]?).map Int.ofNat := by
  obtain ⟨ht', h1, h2⟩ := hi.sync
  have hs' : ht'.size = 4096 := by rw [(hashUpdLit_get _ _ _ _ _ _ h1).2.1, hi.dhs]
  have hh := hashOf_lt st.fetch
  refine ⟨ht'.setIfInBounds (hashOf st.fetch) (st.src : Int), ?_, by rw [Array.size_setIfInBounds]; exact hs', ?_⟩
  · rw [hashUpdLit_add, h1]
    simp only
    exact hashUpdLit_one (by omega) hs' hf
  · intro h hlt
    rw [Array.getElem?_setIfInBounds, Array.getElem?_setIfInBounds]
    by_cases hk : hashOf st.fetch = h
    · rw [if_pos hk, if_pos hk, if_pos (by omega), if_pos (by rw [hi.hts]; omega)]
      rfl
    · rw [if_neg hk, if_neg hk]
      exact h2 h hlt

theorem cache_step {s : Buf} {ht cache : Array Nat} {hc hc' : Array UInt8} {src src' fetch : Nat} (hlt : src < src')
    (hf : fastRead s src 3 = some fetch) (hts : ht.size = 4096) (cas : cache.size = 4096)
    (hhc : ∀ (h : Nat) (cnt : UInt8), hashOf fetch ≠ h → hc'[h]? = some cnt → hc[h]? = some cnt)
    (hold : ∀ (h o cf : Nat) (cnt : UInt8), ht[h]? = some o → cache[h]? = some cf → hc[h]? = some cnt → cnt ≠ 0 →
      o < src ∧ fastRead s o 3 = some cf) :
    ∀ (h o cf : Nat) (cnt : UInt8), (ht.setIfInBounds (hashOf fetch) src)[h]? = some o →
      (cache.setIfInBounds (hashOf fetch) fetch)[h]? = some cf → hc'[h]? = some cnt → cnt ≠ 0 →
      o < src' ∧ fastRead s o 3 = some cf := by
  intro h o cf cnt h1 h2 h3 h4
  rw [Array.getElem?_setIfInBounds] at h1 h2
  have hh := hashOf_lt fetch
  by_cases hk : hashOf fetch = h
  · rw [if_pos hk, if_pos (by omega)] at h1 h2
    cases h1; cases h2
    exact ⟨hlt, hf⟩
  · rw [if_neg hk] at h1 h2
    obtain ⟨g1, g2⟩ := hold h o cf cnt h1 h2 (hhc h cnt hk h3) h4
    exact ⟨by omega, g2⟩

theorem tinv1_lit {s : Buf} {st st' : CSt} {dht : Array Int} {lh : Int} {b2 : UInt8} (hi : TInv1 s st dht lh)
    (hsrc : (st.src : Int) ≤ (s.size : Int) - 11)
    (e1 : st'.src = st.src + 1) (e2 : st'.lits = st.lits + 1)
    (e3 : st'.ht = st.ht.setIfInBounds (hashOf st.fetch) st.src)
    (e4 : st'.cache = st.cache.setIfInBounds (hashOf st.fetch) st.fetch)
    (e5 : st'.hc = st.hc.setIfInBounds (hashOf st.fetch) 1)
    (hb2 : s[st.src + 1 + 2]? = some b2) (e6 : st'.fetch = ((st.fetch >>> 8) &&& 0xffff) ||| (b2.toNat <<< 16)) :
    ∃ dht1 lh1, hashUpdLit s (((st.src + 1 : Nat) : Int) - 3 - lh).toNat dht lh = some (dht1, lh1) ∧ TInv1 s st' dht1 lh1 := by
  have hf := hi.fetch hsrc
  obtain ⟨ht2, k1, k2, k3⟩ := sync_step hi hf
  have hlh := hi.lhe
  have hle := hi.litle
  have hsplit : min st.lits 2 + 1 = (((st.src + 1 : Nat) : Int) - 3 - lh).toNat + min (st.lits + 1) 2 := by omega
  rw [hsplit, hashUpdLit_add] at k1
  cases hn : hashUpdLit s (((st.src + 1 : Nat) : Int) - 3 - lh).toNat dht lh with
  | none => rw [hn] at k1; cases k1
  | some r =>
    obtain ⟨dht1, lh1⟩ := r
    rw [hn] at k1
    simp only at k1
    obtain ⟨hlh1, hsz1, _⟩ := hashUpdLit_get _ _ _ _ _ _ hn
    refine ⟨dht1, lh1, rfl, ?_⟩
    refine ⟨by rw [e3, Array.size_setIfInBounds]; exact hi.hts, by rw [e4, Array.size_setIfInBounds]; exact hi.cas,
      by rw [e5, Array.size_setIfInBounds]; exact hi.hcs, by rw [hsz1]; exact hi.dhs, by rw [e1, e2]; omega,
      by rw [e1, e2]; omega, ?_, ?_, ?_, ?_⟩
    · refine ⟨ht2, ?_, ?_⟩
      · rw [e2, e1, k1]
        congr 2; omega
      · rw [e3]; exact k3
    · intro h3 f hf3
      rw [e2] at h3
      rw [e1] at hf3 ⊢
      have hn1 : (((st.src + 1 : Nat) : Int) - 3 - lh).toNat = 1 := by omega
      rw [hn1] at hn
      have hm : lh + 1 = ((st.src + 1 - 3 : Nat) : Int) := by omega
      rw [hashUpdLit_one hm hi.dhs hf3] at hn
      simp only [Option.some.injEq, Prod.mk.injEq] at hn
      obtain ⟨rfl, _⟩ := hn
      rw [Array.getElem?_setIfInBounds, if_pos rfl, if_pos (by rw [hi.dhs]; exact hashOf_lt f)]
      congr 1; omega
    · intro _
      rw [e1, e6]
      exact fetch_shift3 hf hb2
    · rw [e3, e4, e1]
      apply cache_step (by omega) hf hi.hts hi.cas _ hi.cache
      intro h cnt hk hc
      rw [e5, Array.getElem?_setIfInBounds, if_neg hk] at hc
      exact hc

theorem tinv1_mat {s : Buf} {st st' : CSt} {dht : Array Int} {lh : Int} {ml : Nat} (hi : TInv1 s st dht lh)
    (hsrc : (st.src : Int) ≤ (s.size : Int) - 11) (hml : 1 ≤ ml)
    (e1 : st'.src = st.src + ml) (e2 : st'.lits = 0)
    (e3 : st'.ht = st.ht.setIfInBounds (hashOf st.fetch) st.src)
    (e4 : st'.cache = st.cache.setIfInBounds (hashOf st.fetch) st.fetch)
    (e5 : st'.hc = st.hc) (e6 : fastRead s st'.src 3 = some st'.fetch) :
    ∃ dht', hashUpdLit s ((st.src : Int) - lh).toNat dht lh = some (dht', (st.src : Int))
      ∧ TInv1 s st' dht' (((st.src + ml : Nat) : Int) - 1) := by
  have hf := hi.fetch hsrc
  obtain ⟨ht2, k1, k2, k3⟩ := sync_step hi hf
  have hlh := hi.lhe
  have hle := hi.litle
  have hsplit : min st.lits 2 + 1 = ((st.src : Int) - lh).toNat := by omega
  rw [hsplit] at k1
  refine ⟨ht2, k1, ?_⟩
  refine ⟨by rw [e3, Array.size_setIfInBounds]; exact hi.hts, by rw [e4, Array.size_setIfInBounds]; exact hi.cas,
    by rw [e5]; exact hi.hcs, k2, by rw [e2]; omega, by rw [e1, e2]; omega, ?_, ?_, fun _ => e6, ?_⟩
  · refine ⟨ht2, ?_, ?_⟩
    · rw [e2, e1]; simp [hashUpdLit]
    · rw [e3]; exact k3
  · intro h3; rw [e2] at h3; omega
  · rw [e3, e4, e1]
    apply cache_step (by omega) hf hi.hts hi.cas _ hi.cache
    intro h cnt hk hc
    rw [e5] at hc
    exact hc

theorem lookup1 {s : Buf} {st : CSt} {dht : Array Int} {lh : Int} {o cached ml : Nat} {cnt : UInt8} (hi : TInv1 s st dht lh)
    (hsrc : (st.src : Int) ≤ (s.size : Int) - 11)
    (ho : st.ht[hashOf st.fetch]? = some o) (hca : st.cache[hashOf st.fetch]? = some cached)
    (hcn : st.hc[hashOf st.fetch]? = some cnt) (hx : cached ^^^ st.fetch = 0) (hcnt : cnt ≠ 0)
    (hrep : (st.src : Int) - (o : Int) > 2 ∨ Rep1 s st.src o st.lits)
    (hext : ∀ j, 3 ≤ j → j < ml → s[o + j]? = s[st.src + j]?) :
    ∃ off : Nat, dht[hashOf st.fetch]? = some ((st.src : Int) - (off : Int)) ∧ 1 ≤ off ∧ off ≤ st.src
      ∧ ∀ j, j < ml → s[st.src + j]? = s[st.src - off + j]? := by
  obtain ⟨hosrc, hfo⟩ := hi.cache _ _ _ _ ho hca hcn hcnt
  have hce := xor_eq_zero hx
  subst hce
  have hfs := hi.fetch hsrc
  have hall : ∀ j, j < ml → s[o + j]? = s[st.src + j]? := fun j hj =>
    if h3 : 3 ≤ j then hext j h3 hj else fastRead_inj hfo hfs (by omega)
  have hh := hashOf_lt st.fetch
  rcases hrep with hfar | hr
  · -- the position the compressor saw is already in the decoder's table
    refine ⟨st.src - o, ?_, by omega, by omega, ?_⟩
    · obtain ⟨ht', s1, s2⟩ := hi.sync
      have hv : ht'[hashOf st.fetch]? = some (o : Int) := by rw [s2 _ hh, ho]; rfl
      rcases (hashUpdLit_get _ _ _ _ _ _ s1).2.2 (hashOf st.fetch) with hg | ⟨p, p1, p2, p3⟩
      · rw [← hg, hv]
        congr 1; omega
      · rw [hv] at p3
        have := Option.some.inj p3
        have := hi.lhe
        omega
    · intro j hj
      rw [show st.src - (st.src - o) + j = o + j by omega]
      exact (hall j hj).symm
  · -- a run of one byte: the decoder's entry is three bytes back
    obtain ⟨r1, r2, r3, r4, r5, r6, r7, r8⟩ := hr
    obtain ⟨a0, b1, b2, gb0, gb1, gb2, eb⟩ := fastRead3 hfs
    obtain ⟨c3, hc3⟩ := getElem?_ok s (st.src - 3) (by omega)
    obtain ⟨c2, hc2⟩ := getElem?_ok s (st.src - 2) (by omega)
    obtain ⟨c1, hc1⟩ := getElem?_ok s (st.src - 1) (by omega)
    simp only [gb0, gb1, gb2, hc3, hc2, hc1, Option.getD_some] at r4 r5 r6 r7 r8
    subst r4 r5 r6 r7 r8
    have hf3 : fastRead s (st.src - 3) 3 = some st.fetch := by
      rw [fastRead3_mk hc3 (by rw [show st.src - 3 + 1 = st.src - 2 by omega]; exact hc2)
        (by rw [show st.src - 3 + 2 = st.src - 1 by omega]; exact hc1)]
      rw [eb]
    have hrun : ∀ i, i < ml + 3 → s[st.src - 3 + i]? = some a0 := by
      intro i
      induction i with
      | zero => intro _; exact hc3
      | succ i ih =>
        intro hi'
        by_cases h3 : i + 1 < 3
        · have : i = 0 ∨ i = 1 := by omega
          rcases this with rfl | rfl
          · rw [show st.src - 3 + (0 + 1) = st.src - 2 by omega]; exact hc2
          · rw [show st.src - 3 + (1 + 1) = st.src - 1 by omega]; exact hc1
        · have := hall (i + 1 - 3) (by omega)
          rw [show st.src - 3 + (i + 1) = st.src + (i + 1 - 3) by omega, ← this,
            show o + (i + 1 - 3) = st.src - 3 + i by omega]
          exact ih (by omega)
    refine ⟨3, hi.rep r2 _ hf3, by omega, by omega, ?_⟩
    intro j hj
    rw [hrun j (by omega), show st.src + j = st.src - 3 + (j + 3) by omega, hrun (j + 3) (by omega)]

theorem tinv1_congr {s : Buf} {st stf : CSt} {dht : Array Int} {lh : Int} (hi : TInv1 s st dht lh)
    (h : stf.src = st.src ∧ stf.ht = st.ht ∧ stf.cache = st.cache ∧ stf.hc = st.hc ∧ stf.fetch = st.fetch ∧ stf.lits = st.lits) :
    TInv1 s stf dht lh := by
  obtain ⟨e1, e2, e3, e4, e5, e6⟩ := h
  exact ⟨by rw [e2]; exact hi.hts, by rw [e3]; exact hi.cas, by rw [e4]; exact hi.hcs, hi.dhs, by rw [e6, e1]; exact hi.litle,
    by rw [e6, e1]; exact hi.lhe, by rw [e6, e1, e2]; exact hi.sync, by rw [e6, e1]; exact hi.rep, by rw [e1, e5]; exact hi.fetch,
    by rw [e1, e2, e3, e4]; exact hi.cache⟩

theorem tinv1_init {x : Buf} {fetch : Nat} (hf : fastRead x 0 3 = some fetch) :
    TInv1 x (cinit 1 x fetch) (Array.replicate 4096 0) (-1) := by
  refine ⟨by simp [cinit], by simp [cinit], by simp [cinit], by simp, by simp [cinit], by simp [cinit], ?_, ?_, ?_, ?_⟩
  · refine ⟨Array.replicate 4096 0, by simp [cinit, hashUpdLit], ?_⟩
    intro h hh
    simp [cinit, hh]
  · intro h3; simp [cinit] at h3
  · intro _
    exact hf
  · intro h o cf cnt h1 h2 h3 h4
    simp only [cinit, Array.getElem?_replicate] at h3
    split at h3
    · cases h3; exact absurd rfl h4
    · cases h3

theorem pass1_lit {s : Buf} {st st' : CSt} {dht : Array Int} {lh : Int} {b b2 : UInt8} (hi : TInv1 s st dht lh)
    (hsrc : (st.src : Int) ≤ (s.size : Int) - 11) (hE : Emits dl1 s st st' (.lit b)) (e2 : st'.lits = st.lits + 1)
    (e3 : st'.ht = st.ht.setIfInBounds (hashOf st.fetch) st.src)
    (e4 : st'.cache = st.cache.setIfInBounds (hashOf st.fetch) st.fetch)
    (e5 : st'.hc = st.hc.setIfInBounds (hashOf st.fetch) 1)
    (hb2 : s[st.src + 1 + 2]? = some b2) (e6 : st'.fetch = ((st.fetch >>> 8) &&& 0xffff) ||| (b2.toNat <<< 16)) :
    ∃ t a', Emits dl1 s st st' t ∧ TInv1 s st' a'.1 a'.2 ∧ Resolves dl1 s st.src (dht, lh) a' t := by
  have hlh := hi.lhe
  have hlits := hi.litle
  obtain ⟨dht1, lh1, hupd, hi'⟩ := tinv1_lit hi hsrc hE.lit.src e2 e3 e4 e5 hb2 e6
  exact ⟨_, (dht1, lh1), hE, hi', by omega, by omega, hupd⟩

theorem pass1_mat {s : Buf} {st st' : CSt} {dht : Array Int} {lh : Int} {o cached ml enc len : Nat} {cnt : UInt8}
    (hi : TInv1 s st dht lh) (hsrc : (st.src : Int) ≤ (s.size : Int) - 11)
    (ho : st.ht[hashOf st.fetch]? = some o) (hca : st.cache[hashOf st.fetch]? = some cached)
    (hcn : st.hc[hashOf st.fetch]? = some cnt) (hx : cached ^^^ st.fetch = 0) (hcnt : cnt ≠ 0)
    (hrep : (st.src : Int) - (o : Int) > 2 ∨ Rep1 s st.src o st.lits)
    (hext : ∀ j, 3 ≤ j → j < ml → s[o + j]? = s[st.src + j]?)
    (hE : Emits dl1 s st st' (.mat ml (hashOf st.fetch) enc len)) (e2 : st'.lits = 0)
    (e3 : st'.ht = st.ht.setIfInBounds (hashOf st.fetch) st.src)
    (e4 : st'.cache = st.cache.setIfInBounds (hashOf st.fetch) st.fetch)
    (e5 : st'.hc = st.hc) (e6 : fastRead s st'.src 3 = some st'.fetch) :
    ∃ t a', Emits dl1 s st st' t ∧ TInv1 s st' a'.1 a'.2 ∧ Resolves dl1 s st.src (dht, lh) a' t := by
  have hlh := hi.lhe
  have hlits := hi.litle
  have hs := hE.mat.src
  have hml := hE.mat.ml3
  have hend : st.src + ml + 4 ≤ s.size := by rw [← hs]; exact hE.room
  obtain ⟨off, hd, o1, o2, hxs⟩ := lookup1 hi hsrc ho hca hcn hx hcnt hrep hext
  obtain ⟨dht', hupd, hi'⟩ := tinv1_mat hi hsrc (by omega) hs e2 e3 e4 e5 e6
  exact ⟨_, (dht', ((st.src + ml : Nat) : Int) - 1), hE, hi', off, ⟨hd, by omega, by omega, hi.dhs, hend, hupd, rfl⟩, o1, o2, hxs⟩

/-- the motive of `iteInduction` in `cstep1_run` (the condition of `cstep1` is too long to write out for `by_cases`) -/
def Run1 (s : Buf) (st : CSt) (dht : Array Int) (lh : Int) (r : Option CSt) : Prop :=
  (st.dst + 4 ≤ st.dest.size → ∃ st', r = some st') ∧
  ∀ st', r = some st' → ∃ t a', Emits dl1 s st st' t ∧ TInv1 s st' a'.1 a'.2 ∧ Resolves dl1 s st.src (dht, lh) a' t

/-- no panic: a match is only tried against a position the compressor has really visited (`TInv1.cache`), and the length
    search stays inside the source -/
theorem cstep1_run {s : Buf} {st : CSt} {dht : Array Int} {lh : Int} (hi : TInv1 s st dht lh)
    (hsrc : (st.src : Int) ≤ (s.size : Int) - 11) : Run1 s st dht lh (cstep1 s st) := by
  have hh := hashOf_lt st.fetch
  obtain ⟨o, ho⟩ := getElem?_ok st.ht (hashOf st.fetch) (by rw [hi.hts]; exact hh)
  obtain ⟨cached, hca⟩ := getElem?_ok st.cache (hashOf st.fetch) (by rw [hi.cas]; exact hh)
  obtain ⟨cnt, hcn⟩ := getElem?_ok st.hc (hashOf st.fetch) (by rw [hi.hcs]; exact hh)
  unfold cstep1
  simp only
  rw [ho, hca, hcn]
  simp only
  refine iteInduction (motive := Run1 s st dht lh) (fun hcond => ?_) (fun hcond => ?_)
  · -- a match
    obtain ⟨hc1, hc2, hc3⟩ := hcond
    have hrep : ((st.src : Int) - (o : Int) > 2 ∨ Rep1 s st.src o st.lits) := hc3.imp_right (Rep1_iff s st.src o st.lits).mp
    obtain ⟨hosrc, _⟩ := hi.cache _ _ _ _ ho hca hcn hc2
    obtain ⟨a, ha⟩ := getElem?_ok s (o + 3) (by omega)
    obtain ⟨b, hb⟩ := getElem?_ok s (st.src + 3) (by omega)
    rw [ha, hb]
    simp only
    by_cases hne : a ≠ b
    · -- three bytes
      obtain ⟨f', hf'⟩ := fastRead_ok s (st.src + 3) 3 (by omega)
      rw [if_pos hne, hf']
      simp only
      refine ⟨fun hd => ?_, fun st' h => ?_⟩
      · obtain ⟨d1, hw1⟩ := wr_ok ((1 ||| hashOf st.fetch <<< 4) % 256).toUInt8 (by omega : st.dst < st.dest.size)
        rw [hw1]
        simp only
        obtain ⟨d2, hw2⟩ := wr_ok (((1 ||| hashOf st.fetch <<< 4) >>> 8) % 256).toUInt8 (by rw [wr_size hw1]; omega : st.dst + 1 < d1.size)
        rw [hw2]
        exact ⟨_, rfl⟩
      · split at h
        · cases h
        · rename_i d1 hw1
          split at h
          · cases h
          · rename_i d hw2
            simp only [Option.some.injEq] at h
            subst h
            exact pass1_mat hi hsrc ho hca hcn hc1 hc2 hrep (by intro j h1 h2; omega)
              (.of_write (by rw [Nat.or_comm]; exact tok1EncS _ 3 hh (by decide) (by decide)) (by decide) (Nat.le_refl 3) (by omega)
                (fastWrite_two hw1 hw2) rfl rfl rfl rfl) rfl rfl rfl rfl hf'
    · -- four bytes or more
      have hab : a = b := Decidable.not_not.mp hne
      obtain ⟨hrem6, hrem255, hremb⟩ := remaining_spec hsrc
      obtain ⟨m, hr, m4, mrem, mext⟩ := srcE1_run s o st.src _ (by omega) hrem6 hremb
      have hext : ∀ j, 3 ≤ j → j < m → s[o + j]? = s[st.src + j]? := by
        intro j h1 h2
        by_cases hj : j = 3
        · subst hj; rw [ha, hb, hab]
        · exact mext j (by omega) h2
      obtain ⟨f', hf'⟩ := fastRead_ok s (st.src + m) 3 (by omega)
      rw [if_neg hne]
      split
      · rename_i hn; cases hr.symm.trans ((srcE1_eq ..).trans hn)
      rename_i src' hs
      obtain rfl : st.src + m = src' := Option.some.inj (hr.symm.trans ((srcE1_eq ..).trans hs))
      rw [hf']
      simp only
      rw [Nat.add_sub_cancel_left]
      by_cases hlt : m < 18
      · -- two-byte token
        rw [if_pos hlt]
        refine ⟨fun hd => ?_, fun st' h => ?_⟩
        · obtain ⟨d1, hw1⟩ := wr_ok ((hashOf st.fetch <<< 4 ||| (m - 2)) % 256).toUInt8 (by omega : st.dst < st.dest.size)
          rw [hw1]
          simp only
          obtain ⟨d2, hw2⟩ := wr_ok (((hashOf st.fetch <<< 4 ||| (m - 2)) >>> 8) % 256).toUInt8 (by rw [wr_size hw1]; omega : st.dst + 1 < d1.size)
          rw [hw2]
          exact ⟨_, rfl⟩
        · split at h
          · cases h
          · rename_i d dst' hr2
            simp only [Option.some.injEq] at h
            subst h
            split at hr2
            · cases hr2
            · rename_i d1 hw1
              simp only [Option.map_eq_some_iff, Prod.mk.injEq] at hr2
              obtain ⟨d2, hw2, rfl, rfl⟩ := hr2
              exact pass1_mat hi hsrc ho hca hcn hc1 hc2 hrep hext
                (.of_write (tok1EncS _ _ hh (by omega) hlt) (by omega) (by omega) (by omega) (fastWrite_two hw1 hw2) rfl rfl rfl rfl)
                rfl rfl rfl rfl hf'
      · -- three-byte token
        rw [if_neg hlt]
        refine ⟨fun hd => ?_, fun st' h => ?_⟩
        · obtain ⟨d, hd1⟩ := fastWrite_ok st.dest st.dst (hashOf st.fetch <<< 4 ||| m <<< 16) 3 (by omega)
          rw [hd1]
          exact ⟨_, rfl⟩
        · split at h
          · cases h
          · rename_i d dst' hr2
            simp only [Option.some.injEq] at h
            subst h
            simp only [Option.map_eq_some_iff, Prod.mk.injEq] at hr2
            obtain ⟨_, hw, rfl, rfl⟩ := hr2
            exact pass1_mat hi hsrc ho hca hcn hc1 hc2 hrep hext
              (.of_write (tok1EncL _ _ hh (by omega) (by omega)) (by omega) (by omega) (by omega) hw rfl rfl rfl rfl) rfl rfl rfl rfl hf'
  · -- a literal
    obtain ⟨b, hb⟩ := getElem?_ok s st.src (by omega)
    obtain ⟨b2, hb2⟩ := getElem?_ok s (st.src + 1 + 2) (by omega)
    rw [hb, hb2]
    simp only
    refine ⟨fun hd => ?_, fun st' h => ?_⟩
    · obtain ⟨d, hw⟩ := wr_ok b (by omega : st.dst < st.dest.size)
      rw [hw]
      exact ⟨_, rfl⟩
    · split at h
      · cases h
      · rename_i d hw
        simp only [Option.some.injEq] at h
        subst h
        exact pass1_lit hi hsrc (.of_lit hb hw (by omega) rfl rfl rfl rfl) rfl rfl rfl rfl hb2 rfl

theorem level1 (x : Buf) : Level 1 x dl1 (fun st a => TInv1 x st a.1 a.2) where
  ok := decOK1
  init _ hf := tinv1_init hf
  flush h hi := tinv1_congr hi (flushed_tbl h)
  run hi hsrc := (cstep1_run hi hsrc).1
  pass hi hsrc h := (cstep1_run hi hsrc).2 _ h

theorem compress1_roundtrip {x c : Buf} (hx : x.size ≠ 0) (hsz : x.size + 400 < 2 ^ 32) (h : compress x 1 = some c) :
    decompress c = .ok x ∧ decompressSafe c = .ok x :=
  compress_roundtrip (level1 x) hx hsz h

theorem compress1_total (x : Buf) : ∃ c, compress x 1 = some c :=
  compress_total (level1 x)

def roundtrip1_statement : Prop :=
  ∀ x : Buf, x.size ≠ 0 → x.size + 400 < 2 ^ 32 → ∃ c, compress x 1 = some c ∧ decompress c = .ok x

theorem roundtrip1 : roundtrip1_statement := fun x hx hsz =>
  let ⟨c, hc, hd, _⟩ := compress_total_roundtrip (level1 x) hx hsz
  ⟨c, hc, hd⟩
end QlzRT
