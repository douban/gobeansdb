/-
  The layout of the data files as lists of records: of one file (`okFrom`), of all files (`Lay`; with the size limit:
  `WF`).  Every operation keeps it (`step_lay`, `step_wf`); in a laid out bucket the positions of the log are unique
  (`Lay.log_nodup`) and every record of the log is read at its position (`Lay.read_log`).
-/
import GoBeans.Lemmas.Log
namespace StoreLemmas
open Store Spec

/-- the records are in order from `lo` on, not empty, without overlap, and end at or before `sz` -/
def okFrom : Nat → List (Nat × Rec) → Nat → Prop
  | lo, [], sz => lo ≤ sz
  | lo, p :: rest, sz => lo ≤ p.1 ∧ 0 < p.2.size ∧ okFrom (p.1 + p.2.size) rest sz

theorem okFrom_le : ∀ {lo : Nat} {l : List (Nat × Rec)} {sz : Nat}, okFrom lo l sz → lo ≤ sz
  | _, [], _, h => h
  | _, p :: rest, _, h => by
    have := okFrom_le h.2.2
    have := h.1
    omega

theorem okFrom_lo {lo lo' : Nat} {l : List (Nat × Rec)} {sz : Nat} (h : okFrom lo l sz) (hl : lo' ≤ lo) : okFrom lo' l sz := by
  cases l with
  | nil => exact Nat.le_trans hl h
  | cons p rest => exact ⟨Nat.le_trans hl h.1, h.2⟩

theorem okFrom_sz : ∀ {lo : Nat} {l : List (Nat × Rec)} {sz sz' : Nat}, okFrom lo l sz → sz ≤ sz' → okFrom lo l sz'
  | _, [], _, _, h, hs => Nat.le_trans h hs
  | _, _ :: _, _, _, h, hs => ⟨h.1, h.2.1, okFrom_sz h.2.2 hs⟩

theorem okFrom_append : ∀ {lo : Nat} {l l2 : List (Nat × Rec)} {mid sz : Nat},
    okFrom lo l mid → okFrom mid l2 sz → okFrom lo (l ++ l2) sz
  | _, [], _, _, _, h, h2 => okFrom_lo h2 h
  | _, _ :: _, _, _, _, h, h2 => ⟨h.1, h.2.1, okFrom_append h.2.2 h2⟩

theorem okFrom_mem : ∀ {lo : Nat} {l : List (Nat × Rec)} {sz : Nat}, okFrom lo l sz → ∀ p ∈ l,
    lo ≤ p.1 ∧ p.1 + p.2.size ≤ sz ∧ 0 < p.2.size
  | _, [], _, _, p, hp => by cases hp
  | lo, q :: rest, sz, h, p, hp => by
    rw [List.mem_cons] at hp
    rcases hp with rfl | hp
    · exact ⟨h.1, okFrom_le h.2.2, h.2.1⟩
    · have := okFrom_mem h.2.2 p hp
      have := h.1
      have := h.2.1
      omega

theorem okFrom_snoc {lo : Nat} {l : List (Nat × Rec)} {wh : Nat} (h : okFrom lo l wh) (r : Rec) (hr : 0 < r.size) :
    okFrom lo (l ++ [(wh, r)]) (wh + r.size) :=
  okFrom_append h ⟨Nat.le_refl _, hr, Nat.le_refl _⟩

theorem okFrom_nil_of_zero {lo : Nat} {l : List (Nat × Rec)} (h : okFrom lo l 0) : l = [] := by
  cases l with
  | nil => rfl
  | cons p rest =>
    have := okFrom_mem h p (by simp)
    omega

theorem okFrom_find : ∀ {lo : Nat} {l : List (Nat × Rec)} {sz : Nat}, okFrom lo l sz → ∀ o r, (o, r) ∈ l →
    (l.find? (fun p => p.1 = o)).map (·.2) = some r
  | _, [], _, _, _, _, hp => by cases hp
  | lo, q :: rest, sz, h, o, r, hp => by
    rw [List.mem_cons] at hp
    rcases hp with rfl | hp
    · simp
    · have hm := okFrom_mem h.2.2 (o, r) hp
      have hq := h.2.1
      have hne : ¬ q.1 = o := by simp only at hm; omega
      rw [List.find?_cons]
      simp only [hne, decide_false]
      exact okFrom_find h.2.2 o r hp

theorem okFrom_nodup : ∀ {lo : Nat} {l : List (Nat × Rec)} {sz : Nat}, okFrom lo l sz → (l.map (·.1)).Nodup
  | _, [], _, _ => by simp
  | lo, q :: rest, sz, h => by
    rw [List.map_cons, List.nodup_cons]
    refine ⟨?_, okFrom_nodup h.2.2⟩
    intro hm
    rw [List.mem_map] at hm
    obtain ⟨p, hp, e⟩ := hm
    have := okFrom_mem h.2.2 p hp
    have := h.2.1
    omega

/-- the layout of the data files: `okFrom` in every file, nothing above the head -/
structure Lay (b : Bucket) : Prop where
  ok : ∀ i, okFrom 0 (b.chunks i).recs (b.chunks i).size
  fresh : ∀ i, b.head < i → (b.chunks i).recs = [] ∧ (b.chunks i).size = 0

theorem Lay.posInv {b : Bucket} (l : Lay b) : PosInv b :=
  ⟨fun i o r h => by have := okFrom_mem (l.ok i) (o, r) h; simp only at this; omega, l.fresh⟩

theorem Lay.readAt {b : Bucket} (l : Lay b) (i o : Nat) (r : Rec) (h : (o, r) ∈ (b.chunks i).recs) :
    b.readAt { chunk := i, off := o } = some r :=
  okFrom_find (l.ok i) o r h

/-- `Lay` and the size limit -/
structure WF (cfg : Store.Cfg) (b : Bucket) : Prop where
  ok : ∀ i, okFrom 0 (b.chunks i).recs (b.chunks i).size
  max : ∀ i, (b.chunks i).size ≤ cfg.dataFileMax
  fresh : ∀ i, b.head < i → (b.chunks i).recs = [] ∧ (b.chunks i).size = 0

theorem WF.lay {cfg : Store.Cfg} {b : Bucket} (w : WF cfg b) : Lay b := ⟨w.ok, w.fresh⟩

theorem Lay.wf {cfg : Store.Cfg} {b : Bucket} (l : Lay b) (hm : ∀ i, (b.chunks i).size ≤ cfg.dataFileMax) : WF cfg b :=
  ⟨l.ok, hm, l.fresh⟩

theorem WF.posInv {cfg : Store.Cfg} {b : Bucket} (w : WF cfg b) : PosInv b := w.lay.posInv

theorem Lay.tree {b : Bucket} (l : Lay b) (t : List (Nat × TItem)) : Lay { b with tree := t } := ⟨l.ok, l.fresh⟩

theorem WF.tree {cfg : Store.Cfg} {b : Bucket} (w : WF cfg b) (t : List (Nat × TItem)) : WF cfg { b with tree := t } :=
  ⟨w.ok, w.max, w.fresh⟩

/-- the three cases: what a GC pass does to the files outside its range, to those it frees and to its destination -/
theorem WF.of_files {cfg : Store.Cfg} {b b' : Bucket} (w : WF cfg b) (hh : b.head ≤ b'.head)
    (hc : ∀ i, ((b'.chunks i).recs = (b.chunks i).recs ∧ (b'.chunks i).size = (b.chunks i).size)
      ∨ ((b'.chunks i).recs = [] ∧ (b'.chunks i).size = 0)
      ∨ (i ≤ b'.head ∧ okFrom 0 (b'.chunks i).recs (b'.chunks i).size ∧ (b'.chunks i).size ≤ cfg.dataFileMax)) :
    WF cfg b' := by
  refine ⟨fun i => ?_, fun i => ?_, fun i hi => ?_⟩
  · rcases hc i with ⟨e1, e2⟩ | ⟨e1, e2⟩ | ⟨_, h, _⟩
    · rw [e1, e2]; exact w.ok i
    · rw [e1, e2]; exact Nat.le_refl 0
    · exact h
  · rcases hc i with ⟨_, e2⟩ | ⟨_, e2⟩ | ⟨_, _, h⟩
    · rw [e2]; exact w.max i
    · rw [e2]; exact Nat.zero_le _
    · exact h
  · rcases hc i with ⟨e1, e2⟩ | h | ⟨h, _⟩
    · rw [e1, e2]; exact w.fresh i (by omega)
    · exact h
    · omega

theorem nodup_tag {i : Nat} {lo : Nat} {l : List (Nat × Rec)} {sz : Nat} (h : okFrom lo l sz) : ((tag i l).map (·.1)).Nodup := by
  have e : (tag i l).map (·.1) = (l.map (·.1)).map (fun o => ({ chunk := i, off := o } : Pos)) := by simp [tag]
  rw [e]
  exact List.Pairwise.map _ (fun a b hab e => hab (by injection e)) (okFrom_nodup h)

theorem Lay.log_nodup {b : Bucket} (l : Lay b) : (b.log.map (·.1)).Nodup := by
  rw [log_eq, List.map_flatMap]
  -- within a file the offsets differ, across files the file
  refine List.pairwise_flatMap.2 ⟨fun i _ => nodup_tag (l.ok i), List.nodup_range.imp fun {i j} hij p hp q hq e => ?_⟩
  obtain ⟨y, hy, rfl⟩ := List.mem_map.1 hp
  obtain ⟨z, hz, e'⟩ := List.mem_map.1 hq
  have h1 : y.1.chunk = i := (mem_tag.1 hy).1
  have h2 : z.1.chunk = j := (mem_tag.1 hz).1
  exact hij (by rw [← h1, ← h2, e, e'])

theorem Lay.read_log {b : Bucket} (l : Lay b) {p : Pos} {r : Rec} (h : (p, r) ∈ b.log) : b.readAt p = some r :=
  l.readAt p.chunk p.off r (mem_log.1 h).2

theorem Lay.quiet {b b' : Bucket} (l : Lay b) (q : Quiet b b') : Lay b' :=
  ⟨fun i => by rw [(q.files i).1, (q.files i).2]; exact l.ok i, q.pos.fresh⟩

theorem Lay.pushRec {b : Bucket} (l : Lay b) (ck : Nat) (r : Rec) (hs : 0 < r.size) (hck : b.head ≤ ck) :
    Lay (b.pushRec ck (b.chunks ck).size r) := by
  refine ⟨fun i => ?_, (pushRec_spec b ck _ r l.posInv hs rfl hck).2.2.1.fresh⟩
  rw [chunks_pushRec]
  split
  · next h => subst h; exact okFrom_snoc (l.ok i) r hs
  · exact l.ok i

theorem Lay.put (hash : Key → Nat) (cfg : Store.Cfg) {b : Bucket} (l : Lay b) (r : Rec) (hs : 0 < r.size) :
    Lay (b.put hash cfg r).1 := by
  rw [put_fst]
  refine Lay.tree ?_ _
  obtain ⟨b0, ck, s⟩ := append_shape cfg b r l.posInv
  rw [s.eq]
  exact (l.quiet s.quiet).pushRec ck r hs (by have := s.head; have := s.file; omega)

theorem put_max (hash : Key → Nat) (cfg : Store.Cfg) {b : Bucket} (hp : PosInv b) (hm : ∀ i, (b.chunks i).size ≤ cfg.dataFileMax)
    (r : Rec) (hr : r.size ≤ cfg.dataFileMax) (i : Nat) : ((b.put hash cfg r).1.chunks i).size ≤ cfg.dataFileMax := by
  simp only [put_fst]
  obtain ⟨b0, ck, s⟩ := append_shape cfg b r hp
  rw [s.eq, chunks_pushRec]
  split
  · show (b0.chunks ck).size + r.size ≤ _; have := s.fits; omega
  · rw [(s.quiet.files i).2]; exact hm i

section Steps
variable (hash : Key → Nat) (K : Key → Prop)

theorem step_lay (cfg : Store.Cfg) {b : Bucket} (l : Lay b) (R : Nat) (op : Op) (hop : OpOK2 K R op) :
    Lay (Store.step hash cfg b op).1 := by
  rcases step_eff hash cfg b l.posInv op with ⟨t, _, e⟩ | ⟨r, hr, e⟩ | ⟨q, _⟩
  · rw [e]; exact l.tree t
  · rw [e]; exact l.put hash cfg r (hr.ok hop).2
  · exact l.quiet q

theorem step_log (cfg : Store.Cfg) {b : Bucket} (hp : PosInv b) (op : Op) {Q : Rec → Prop} (h : ∀ x ∈ b.log, Q x.2)
    (hw : ∀ r, Writes hash b op r → Q r) : ∀ x ∈ (Store.step hash cfg b op).1.log, Q x.2 := by
  rcases (step_eff hash cfg b hp op).log hp with e | ⟨p, r, hr, e⟩ <;> rw [e]
  · exact h
  · rw [List.forall_mem_append, List.forall_mem_singleton]; exact ⟨h, hw r hr⟩

theorem run_lay (cfg : Store.Cfg) (R : Nat) (ops : List Op) :
    ∀ (b : Bucket), Lay b → (∀ x ∈ b.log, K x.2.key) → (∀ op ∈ ops, OpOK2 K R op) →
      Lay (Store.run hash cfg b ops).1 ∧ ∀ x ∈ (Store.run hash cfg b ops).1.log, K x.2.key := by
  induction ops with
  | nil => intro b l hk _; exact ⟨l, hk⟩
  | cons op ops ih =>
    intro b l hk hops
    have hop := hops op (by simp)
    exact ih _ (step_lay hash K cfg l R op hop) (step_log hash cfg l.posInv op hk (fun r hr => (hr.ok hop).1))
      (fun o ho => hops o (by simp [ho]))

theorem lay_init : Lay ({} : Bucket) := ⟨fun _ => Nat.le_refl 0, fun _ _ => ⟨rfl, rfl⟩⟩

theorem run_lay_init (cfg : Store.Cfg) (R : Nat) (ops : List Op) (hops : ∀ op ∈ ops, OpOK2 K R op) :
    Lay (Store.run hash cfg {} ops).1 ∧ ∀ x ∈ (Store.run hash cfg {} ops).1.log, K x.2.key :=
  run_lay hash K cfg R ops {} lay_init (fun x hx => by simp [Bucket.log] at hx) hops

/-- `OpOK2` (restarts allowed), the record-size limit of the configuration and, for `set`, revisions inside int32 -/
def OpOK3 (cfg : Store.Cfg) (R : Nat) : Op → Prop
  | .set k body flag rev ts size => OpOK K R (.set k body flag rev ts size) ∧ size ≤ cfg.dataFileMax ∧ R < 2147483647
  | .delete k size w => OpOK K R (.delete k size w) ∧ size ≤ cfg.dataFileMax
  | .incr k d size w => OpOK K R (.incr k d size w) ∧ size ≤ cfg.dataFileMax
  | .reopen _ => True
  | op => OpOK K R op

theorem OpOK3.ok2 {cfg : Store.Cfg} {R : Nat} {op : Op} (h : OpOK3 K cfg R op) : OpOK2 K R op := by
  cases op <;> first | exact h.1 | exact h | trivial

theorem Writes.max {cfg : Store.Cfg} {R : Nat} {b : Bucket} {op : Op} {r : Rec} (h : Writes hash b op r)
    (hop : OpOK3 K cfg R op) : r.size ≤ cfg.dataFileMax := by
  cases h
  · exact hop.2.1
  · exact hop.2
  · exact hop.2

theorem Writes.ver_ne {cfg : Store.Cfg} {R n : Nat} (hn : n + 1 < 2147483647) {b : Bucket} {m : KV} (inv : Inv hash K n b m)
    {op : Op} {r : Rec} (h : Writes hash b op r) (hop : OpOK3 K cfg R op) : r.ver ≠ 0 := by
  -- `dsimp only` reads the version off the record first: left to `exact`, the unifier evaluates `nextVer` instead
  have hb : ∀ k, K k → (oldVer b (hash k)).natAbs < 2147483647 :=
    fun k hk => Nat.lt_of_le_of_lt (inv.oldVer_le hk) (by omega)
  cases h with
  | set k body flag rev ts size hok =>
    obtain ⟨⟨hk, _, _, hr0, hrR⟩, _, hRb⟩ := hop
    dsimp only
    exact nextVer_ne_zero _ rev (hb k hk) (by omega) (by omega) hok
  | delete k size wts hok =>
    dsimp only
    exact nextVer_ne_zero _ (-1) (hb k hop.1.1) (by omega) (by omega) hok
  | incr k d size wts ver v hv => exact hv

theorem step_wf (cfg : Store.Cfg) {b : Bucket} (w : WF cfg b) (R : Nat) (op : Op) (hop : OpOK3 K cfg R op) :
    WF cfg (Store.step hash cfg b op).1 := by
  refine (step_lay hash K cfg w.lay R op hop.ok2).wf ?_
  rcases step_eff hash cfg b w.posInv op with ⟨t, _, e⟩ | ⟨r, hr, e⟩ | ⟨q, _⟩
  · rw [e]; exact w.max
  · rw [e]; exact put_max hash cfg w.posInv w.max r (hr.max hash K hop)
  · exact fun i => by rw [(q.files i).2]; exact w.max i

def NoZero (b : Bucket) : Prop := ∀ x ∈ b.log, x.2.ver ≠ 0

theorem step_nz (cfg : Store.Cfg) {n : Nat} (hn : n + 1 < 2147483647) {b : Bucket} {m : KV} (inv : Inv hash K n b m)
    (nz : NoZero b) (R : Nat) (op : Op) (hop : OpOK3 K cfg R op) : NoZero (Store.step hash cfg b op).1 :=
  step_log hash cfg inv.pos op (Q := fun r => r.ver ≠ 0) nz (fun r hr => hr.ver_ne hash K hn inv hop)

end Steps
end StoreLemmas
