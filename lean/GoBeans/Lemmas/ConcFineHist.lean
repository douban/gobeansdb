/-
  The history invariant `HistInv` of Model/ConcFine.lean: per key, the outcomes recorded at the linearisation micro-steps
  are exactly those of the atomic register of Model/Conc.lean run over the operations in the order of their linearisation
  points (`regRun`), and the register reached (`regFold`) is the one the bucket holds now (`absReg`); linearisation times
  increase and lie strictly between invocation and response; an operation that has been linearised but has not returned
  yet WILL return the recorded outcome (for a get: the record at the position it took from the tree stays readable and is
  the same record, whatever writers and flushers do meanwhile).  Preservation is proved for `ConcGC.HInvP P`, the
  invariant generic in what a linearised thread is going to return, at `P = PendOn D` (`D`: chunks a GC pass has
  emptied); `HistInv` is the case `D` = nothing (`histInv_iff`).
-/
import GoBeans.Lemmas.ConcFineData
import GoBeans.Lemmas.Conc

namespace ConcFine
open Conc (AOp Out Ev Reg regStep)
open ConcGC (Readable)

-- `Conc.run` and `Conc.regAfter` over operations instead of steps with their times; `run_of_outs` is the bridge
def regRun (r : Reg) : List AOp → List Out
  | [] => []
  | op :: ops => (regStep r op).2 :: regRun (regStep r op).1 ops

def regFold (r : Reg) (ops : List AOp) : Reg := ops.foldl (fun r op => (regStep r op).1) r

theorem regRun_append (r : Reg) (a b : List AOp) : regRun r (a ++ b) = regRun r a ++ regRun (regFold r a) b := by
  induction a generalizing r with
  | nil => rfl
  | cons op a ih => simp only [List.cons_append, regRun, ih, regFold, List.foldl_cons]

theorem regFold_append (r : Reg) (a b : List AOp) : regFold r (a ++ b) = regFold (regFold r a) b := by
  simp only [regFold, List.foldl_append]

theorem absReg_of {s : State} {k : Nat} {it : Item} {r : Rec} (hit : s.tree k = some it)
    (hr : StoredAt s.chunks it.pos r) (hl : lookup (s.chunks it.pos.chunk) r.off = some r) :
    absReg s k = { ver := it.ver.natAbs, val := r.val } := by
  rw [hr.2] at hl
  unfold absReg
  rw [hit]
  simp only [hl]

theorem absReg_eq {s : State} (h : TreeOK s) (hrd : ∀ c, Readable (s.chunks c)) {k : Nat} {it : Item}
    (hit : s.tree k = some it) :
    ∃ r, StoredAt s.chunks it.pos r ∧ r.key = k ∧ r.ver = it.ver ∧ RecOK r ∧
      absReg s k = { ver := it.ver.natAbs, val := r.val } := by
  obtain ⟨r, h1, h2, h3⟩ := h.tree k it hit
  exact ⟨r, h1, h2, h3, h.recs _ r h1.1, absReg_of hit h1 ((hrd _).lookup r h1.1)⟩

theorem TreeOK.readable {s : State} (h : TreeOK s) (hrd : ∀ c, Readable (s.chunks c)) {k : Nat} {it : Item}
    (hit : s.tree k = some it) :
    ∃ r, StoredAt s.chunks it.pos r ∧ lookup (s.chunks it.pos.chunk) it.pos.off = some r ∧ r.key = k ∧ r.ver = it.ver ∧
      r.ver ≠ 0 ∧ (0 < r.ver ↔ r.val ≠ 0) := by
  obtain ⟨r, h1, h2, h3, h4, _⟩ := absReg_eq h hrd hit
  refine ⟨r, h1, h1.2 ▸ (hrd _).lookup r h1.1, h2, h3, h4.1, h4.2.1, fun hv => ?_⟩
  rcases Int.lt_trichotomy r.ver 0 with hlt | heq | hgt
  · exact absurd (h4.2.2 hlt) hv
  · exact absurd heq h4.1
  · exact hgt

theorem absReg_none {s : State} {k : Nat} (hit : s.tree k = none) : absReg s k = {} := by
  unfold absReg; rw [hit]

theorem absReg_stable {s s' : State} {k : Nat} (ht : s'.tree k = s.tree k) (g : Grows s.chunks s'.chunks)
    (h : TreeOK s) (hrd : ∀ c, Readable (s.chunks c)) (hrd' : ∀ c, Readable (s'.chunks c)) : absReg s' k = absReg s k := by
  cases hit : s.tree k with
  | none => rw [absReg_none hit, absReg_none (ht.trans hit)]
  | some it =>
    obtain ⟨r, h1, _, _, _, h5⟩ := absReg_eq h hrd hit
    have h1' := storedAt_grows g h1
    rw [h5, absReg_of (ht.trans hit) h1' ((hrd' _).lookup r h1'.1)]

def keyHist (s : State) (k : Nat) : List HEv := s.hist.filter (fun e => e.key = k)

def opsOf (es : List HEv) : List AOp := es.map (·.ev.op)
def outsOf (es : List HEv) : List Out := es.map (·.ev.out)

/-- what a thread that has passed its linearisation point is going to return -/
def PendPC (ch : Nat → Chunk) (pc : PC) (out : Out) : Prop :=
  match pc with
  | .wUnlock _ o => out = o
  | .rRet _ => out = .got 0 0
  | .rBuf k it => ∃ r, StoredAt ch it.pos r ∧ r.key = k ∧ out = .got r.val it.ver.natAbs
  | .rFile k it => ∃ r, r ∈ (ch it.pos.chunk).file ∧ r.off = it.pos.off ∧ r.key = k ∧ out = .got r.val it.ver.natAbs
  | _ => False

theorem pendPC_grows {ch ch' : Nat → Chunk} (g : Grows ch ch') {pc : PC} {out : Out} (h : PendPC ch pc out) :
    PendPC ch' pc out := by
  cases pc with
  | rBuf k it => obtain ⟨r, h1, h2⟩ := h; exact ⟨r, storedAt_grows g h1, h2⟩
  | rFile k it => obtain ⟨r, h1, h2⟩ := h; exact ⟨r, (g _ _).1 h1, h2⟩
  | _ => exact h

structure HistInv (s : State) : Prop where
  outs : ∀ k, regRun {} (opsOf (keyHist s k)) = outsOf (keyHist s k)
  reg : ∀ k, regFold {} (opsOf (keyHist s k)) = absReg s k
  lin : s.hist.Pairwise (fun a b => a.ev.lin < b.ev.lin)
  times : ∀ e ∈ s.hist, e.ev.inv < e.ev.lin ∧ e.ev.lin < s.clock ∧ (e.done = true → e.ev.lin < e.ev.resp)
  pend : ∀ e ∈ s.hist, e.done = false → PendPC s.chunks (s.thr e.tid).pc e.ev.out
  inv : ∀ u, (s.thr u).pc ≠ .idle → (s.thr u).inv < s.clock

theorem keyHist_append (l : List HEv) (e : HEv) (k : Nat) :
    (l ++ [e]).filter (fun e => e.key = k) = l.filter (fun e => e.key = k) ++ (if e.key = k then [e] else []) := by
  rw [List.filter_append]
  congr 1
  by_cases h : e.key = k <;> simp [h]

/-- the entry `State.log` appends -/
def mkEntry (t k : Nat) (op : AOp) (inv : Nat) (out : Out) (lin : Nat) : HEv :=
  { tid := t, key := k, done := false, ev := { op := op, inv := inv, resp := 0, out := out, lin := lin } }

@[simp] theorem mkEntry_key (t k : Nat) (op : AOp) (i : Nat) (o : Out) (l : Nat) : (mkEntry t k op i o l).key = k := rfl
@[simp] theorem mkEntry_tid (t k : Nat) (op : AOp) (i : Nat) (o : Out) (l : Nat) : (mkEntry t k op i o l).tid = t := rfl
@[simp] theorem mkEntry_done (t k : Nat) (op : AOp) (i : Nat) (o : Out) (l : Nat) : (mkEntry t k op i o l).done = false := rfl
@[simp] theorem mkEntry_op (t k : Nat) (op : AOp) (i : Nat) (o : Out) (l : Nat) : (mkEntry t k op i o l).ev.op = op := rfl
@[simp] theorem mkEntry_out (t k : Nat) (op : AOp) (i : Nat) (o : Out) (l : Nat) : (mkEntry t k op i o l).ev.out = o := rfl
@[simp] theorem mkEntry_lin (t k : Nat) (op : AOp) (i : Nat) (o : Out) (l : Nat) : (mkEntry t k op i o l).ev.lin = l := rfl
@[simp] theorem mkEntry_inv (t k : Nat) (op : AOp) (i : Nat) (o : Out) (l : Nat) : (mkEntry t k op i o l).ev.inv = i := rfl

theorem complete_key (t now : Nat) (out : Out) (e : HEv) : (complete t now out e).key = e.key := by
  unfold complete; split <;> rfl
theorem complete_tid (t now : Nat) (out : Out) (e : HEv) : (complete t now out e).tid = e.tid := by
  unfold complete; split <;> rfl
theorem complete_op (t now : Nat) (out : Out) (e : HEv) : (complete t now out e).ev.op = e.ev.op := by
  unfold complete; split <;> rfl
theorem complete_lin (t now : Nat) (out : Out) (e : HEv) : (complete t now out e).ev.lin = e.ev.lin := by
  unfold complete; split <;> rfl
theorem complete_inv (t now : Nat) (out : Out) (e : HEv) : (complete t now out e).ev.inv = e.ev.inv := by
  unfold complete; split <;> rfl

theorem complete_out {t now : Nat} {out : Out} {e : HEv} (h : e.tid = t → e.done = false → e.ev.out = out) :
    (complete t now out e).ev.out = e.ev.out := by
  unfold complete; split
  · next hp => exact (h hp.1 hp.2).symm
  · rfl

theorem filter_map_key (l : List HEv) (f : HEv → HEv) (k : Nat) (hf : ∀ e ∈ l, (f e).key = e.key) :
    (l.map f).filter (fun e => e.key = k) = (l.filter (fun e => e.key = k)).map f := by
  rw [List.filter_map]
  congr 1
  exact List.filter_congr fun e he => by simp only [Function.comp, hf e he]

end ConcFine

namespace ConcGC
open ConcFine
open Conc (Out)

/-- `HistInv` with `pend` generic in what a linearised thread is going to return -/
structure HInvP (P : PC → Out → Prop) (s : ConcFine.State) : Prop where
  outs : ∀ k, regRun {} (opsOf (keyHist s k)) = outsOf (keyHist s k)
  reg : ∀ k, regFold {} (opsOf (keyHist s k)) = absReg s k
  lin : s.hist.Pairwise (fun a b => a.ev.lin < b.ev.lin)
  times : ∀ e ∈ s.hist, e.ev.inv < e.ev.lin ∧ e.ev.lin < s.clock ∧ (e.done = true → e.ev.lin < e.ev.resp)
  pend : ∀ e ∈ s.hist, e.done = false → P (s.thr e.tid).pc e.ev.out
  inv : ∀ u, (s.thr u).pc ≠ .idle → (s.thr u).inv < s.clock

theorem HInvP.times_tick {P : PC → Out → Prop} {s s' : ConcFine.State} (hi : HInvP P s) (hclk : s'.clock = s.clock)
    {e : HEv} (he : e ∈ s.hist) :
    e.ev.inv < e.ev.lin ∧ e.ev.lin < s'.tick.clock ∧ (e.done = true → e.ev.lin < e.ev.resp) :=
  have h := hi.times e he
  ⟨h.1, show _ < s'.clock + 1 by omega, h.2.2⟩

def readerChunk : PC → Option Nat
  | .rBuf _ it | .rFile _ it => some it.pos.chunk
  | _ => none

end ConcGC

namespace ConcFine
open Conc (AOp Out Ev Reg regStep)
open ConcGC (HInvP readerChunk Readable)

/- In `hist_sameP`, `hist_logP`, `hist_respondP`, `hist_dropP`: `s'` is the state BEFORE the tick; `P` / `P'` say what a
   linearised thread is going to return before / after the step of `t`; `hpo` carries the other threads over. -/
theorem inv_tickP {P : PC → Out → Prop} {s s' : State} {t : Nat} (hi : HInvP P s) (hclk : s'.clock = s.clock)
    (hthr : ∀ u, u ≠ t → s'.thr u = s.thr u) (hinv : (s'.thr t).pc ≠ .idle → (s'.thr t).inv < s.clock + 1) :
    ∀ u, (s'.tick.thr u).pc ≠ .idle → (s'.tick.thr u).inv < s'.tick.clock := by
  intro u hne
  have hne : (s'.thr u).pc ≠ .idle := hne
  show (s'.thr u).inv < s'.clock + 1
  rw [hclk]
  by_cases hu : u = t
  · rw [hu] at hne ⊢; exact hinv hne
  · rw [hthr u hu] at hne ⊢; exact Nat.lt_succ_of_lt (hi.inv u hne)

theorem hist_sameP {P P' : PC → Out → Prop} {s s' : State} (t : Nat) (hi : HInvP P s) (hh : s'.hist = s.hist) (hclk : s'.clock = s.clock)
    (hthr : ∀ u, u ≠ t → s'.thr u = s.thr u) (hinv : (s'.thr t).pc ≠ .idle → (s'.thr t).inv < s.clock + 1)
    (hpo : ∀ u, u ≠ t → ∀ o, P (s.thr u).pc o → P' (s.thr u).pc o) (hreg : ∀ k, absReg s' k = absReg s k)
    (hpend : ∀ out, P (s.thr t).pc out → P' (s'.thr t).pc out) : HInvP P' s'.tick := by
  have hk : ∀ k, keyHist s'.tick k = keyHist s k := by intro k; unfold keyHist; show s'.hist.filter _ = _; rw [hh]
  refine ⟨?_, ?_, ?_, ?_, ?_, ?_⟩
  · intro k; rw [hk]; exact hi.outs k
  · intro k; rw [hk]; exact (hi.reg k).trans (hreg k).symm
  · show s'.hist.Pairwise _; rw [hh]; exact hi.lin
  · intro e (he : e ∈ s'.hist)
    exact hi.times_tick hclk (hh ▸ he)
  · intro e (he : e ∈ s'.hist) hd
    have := hi.pend e (hh ▸ he) hd
    show P' (s'.thr e.tid).pc e.ev.out
    by_cases hu : e.tid = t
    · rw [hu] at this ⊢; exact hpend _ this
    · rw [hthr _ hu]; exact hpo _ hu _ this
  · exact inv_tickP hi hclk hthr hinv

theorem hist_logP {P P' : PC → Out → Prop} {s s' : State} (t k : Nat) (op : AOp) (out : Out) (hi : HInvP P s)
    (hh : s'.hist = s.hist ++ [mkEntry t k op (s.thr t).inv out s.clock])
    (hclk : s'.clock = s.clock) (hthr : ∀ u, u ≠ t → s'.thr u = s.thr u)
    (hne : (s.thr t).pc ≠ .idle) (hinv : (s'.thr t).inv = (s.thr t).inv)
    (hpo : ∀ u, u ≠ t → ∀ o, P (s.thr u).pc o → P' (s.thr u).pc o)
    (hout : out = (regStep (absReg s k) op).2) (hreg1 : absReg s' k = (regStep (absReg s k) op).1)
    (hreg2 : ∀ k', k' ≠ k → absReg s' k' = absReg s k')
    (hpre : ∀ o, ¬ P (s.thr t).pc o) (hpost : P' (s'.thr t).pc out) :
    HInvP P' s'.tick := by
  have hk : ∀ k', keyHist s'.tick k' = keyHist s k' ++ (if k = k' then [mkEntry t k op (s.thr t).inv out s.clock] else []) := by
    intro k'; unfold keyHist; show s'.hist.filter _ = _; rw [hh, keyHist_append, mkEntry_key]
  refine ⟨?_, ?_, ?_, ?_, ?_, ?_⟩
  · intro k'
    rw [hk]
    by_cases hkk : k = k'
    · subst hkk
      simp only [if_true, opsOf, outsOf, List.map_append, List.map_cons, List.map_nil]
      rw [regRun_append]
      have h1 := hi.outs k
      have h2 := hi.reg k
      simp only [opsOf, outsOf] at h1 h2
      rw [h1, h2]
      simp only [regRun, hout, mkEntry_op, mkEntry_out]
    · simp only [hkk, if_false, List.append_nil]; exact hi.outs k'
  · intro k'
    rw [hk]
    by_cases hkk : k = k'
    · subst hkk
      simp only [if_true, opsOf, List.map_append, List.map_cons, List.map_nil]
      rw [regFold_append]
      have h2 := hi.reg k
      simp only [opsOf] at h2
      rw [h2]
      simp only [regFold, List.foldl_cons, List.foldl_nil]
      exact hreg1.symm
    · simp only [hkk, if_false, List.append_nil]
      exact (hi.reg k').trans (hreg2 k' (fun e => hkk e.symm)).symm
  · show s'.hist.Pairwise _
    rw [hh, List.pairwise_append]
    refine ⟨hi.lin, List.pairwise_singleton _ _, ?_⟩
    intro a ha b hb
    rw [List.mem_singleton] at hb
    subst hb
    exact (hi.times a ha).2.1
  · intro e (he : e ∈ s'.hist)
    rw [hh] at he
    rcases List.mem_append.mp he with h1 | h1
    · exact hi.times_tick hclk h1
    · rw [List.mem_singleton] at h1
      subst h1
      exact ⟨hi.inv t hne, hclk ▸ Nat.lt_succ_self _, by simp⟩
  · intro e (he : e ∈ s'.hist) hd
    rw [hh] at he
    show P' (s'.thr e.tid).pc e.ev.out
    rcases List.mem_append.mp he with h1 | h1
    · have := hi.pend e h1 hd
      by_cases hu : e.tid = t
      · rw [hu] at this; exact absurd this (hpre _)
      · rw [hthr _ hu]; exact hpo _ hu _ this
    · rw [List.mem_singleton] at h1
      subst h1
      exact hpost
  · exact inv_tickP hi hclk hthr fun _ => hinv ▸ Nat.lt_succ_of_lt (hi.inv t hne)

theorem hist_respondP {P P' : PC → Out → Prop} {s s' : State} (t : Nat) (out : Out) (hi : HInvP P s)
    (hh : s'.hist = s.hist.map (complete t s.clock out))
    (hclk : s'.clock = s.clock) (hthr : ∀ u, u ≠ t → s'.thr u = s.thr u) (hidle : (s'.thr t).pc = .idle)
    (hpo : ∀ u, u ≠ t → ∀ o, P (s.thr u).pc o → P' (s.thr u).pc o) (hreg : ∀ k, absReg s' k = absReg s k)
    (hout : ∀ o, P (s.thr t).pc o → o = out) : HInvP P' s'.tick := by
  -- the completion changes `done` and `resp` only: the open entry of `t` records the outcome that `t` returns
  have hco : ∀ e ∈ s.hist, (complete t s.clock out e).ev.out = e.ev.out := fun e he =>
    complete_out fun ht hd => hout _ (ht ▸ hi.pend e he hd)
  have hk : ∀ k, keyHist s'.tick k = (keyHist s k).map (complete t s.clock out) := by
    intro k; unfold keyHist; show s'.hist.filter _ = _
    rw [hh]; exact filter_map_key _ _ _ (fun e _ => complete_key ..)
  have hops : ∀ k, opsOf (keyHist s'.tick k) = opsOf (keyHist s k) := by
    intro k; rw [hk]; unfold opsOf
    rw [List.map_map]
    exact List.map_congr_left fun e _ => complete_op ..
  have houts : ∀ k, outsOf (keyHist s'.tick k) = outsOf (keyHist s k) := by
    intro k; rw [hk]; unfold outsOf
    rw [List.map_map]
    exact List.map_congr_left fun e he => hco e (List.mem_filter.mp he).1
  refine ⟨?_, ?_, ?_, ?_, ?_, ?_⟩
  · intro k; rw [hops, houts]; exact hi.outs k
  · intro k; rw [hops]; exact (hi.reg k).trans (hreg k).symm
  · show s'.hist.Pairwise _
    rw [hh, List.pairwise_map]
    refine hi.lin.imp ?_
    intro a b hab
    rw [complete_lin, complete_lin]; exact hab
  · intro e (he : e ∈ s'.hist)
    rw [hh] at he
    obtain ⟨e0, h0, rfl⟩ := List.mem_map.mp he
    have ht := hi.times_tick hclk h0
    rw [complete_lin, complete_inv]
    refine ⟨ht.1, ht.2.1, ?_⟩
    unfold complete
    by_cases hp : e0.tid = t ∧ e0.done = false
    · simp only [hp, and_self, if_true]; intro _; exact (hi.times e0 h0).2.1
    · simp only [hp, if_false]; exact ht.2.2
  · intro e (he : e ∈ s'.hist) hd
    rw [hh] at he
    obtain ⟨e0, h0, rfl⟩ := List.mem_map.mp he
    show P' (s'.thr (complete t s.clock out e0).tid).pc (complete t s.clock out e0).ev.out
    rw [complete_tid, hco e0 h0]
    have hnt : e0.tid ≠ t ∧ e0.done = false := by
      unfold complete at hd
      by_cases hp : e0.tid = t ∧ e0.done = false
      · simp [hp] at hd
      · simp only [hp, if_false] at hd
        exact ⟨fun e => hp ⟨e, hd⟩, hd⟩
    rw [hthr _ hnt.1]
    exact hpo _ hnt.1 _ (hi.pend e0 h0 hnt.2)
  · exact inv_tickP hi hclk hthr fun h => absurd hidle h

theorem regRun_filter_reads (p : HEv → Bool) (es : List HEv) : ∀ r : Reg,
    (∀ e ∈ es, p e = false → ∃ v n, e.ev.out = .got v n) → regRun r (opsOf es) = outsOf es →
    regRun r (opsOf (es.filter p)) = outsOf (es.filter p) ∧ regFold r (opsOf (es.filter p)) = regFold r (opsOf es) := by
  induction es with
  | nil => intro r _ _; exact ⟨rfl, rfl⟩
  | cons a es ih =>
    intro r hp h
    simp only [opsOf, outsOf, List.map_cons, regRun, List.cons.injEq] at h
    have ih' := ih (regStep r a.ev.op).1 (fun e he => hp e (List.mem_cons_of_mem _ he)) h.2
    cases hpa : p a with
    | true =>
      simp only [List.filter_cons, hpa, if_true, opsOf, outsOf, List.map_cons, regRun, regFold, List.foldl_cons]
      exact ⟨by rw [h.1]; congr 1; exact ih'.1, ih'.2⟩
    | false =>
      -- the register answers `got` to a read only, and a read leaves it as it is
      obtain ⟨v, n, hg⟩ := hp a List.mem_cons_self hpa
      have hrd := (Conc.regStep_got r a.ev.op v n (h.1.trans hg)).1
      have hr : (regStep r a.ev.op).1 = r := by rw [hrd]; rfl
      rw [hr] at ih'
      simp only [List.filter_cons, hpa, Bool.false_eq_true, if_false, opsOf, List.map_cons, regFold, List.foldl_cons, hr]
      exact ih'

def dropP (t : Nat) (e : HEv) : Bool := !(decide (e.tid = t) && !e.done)

theorem filter_comm {α : Type} (l : List α) (p q : α → Bool) : (l.filter p).filter q = (l.filter q).filter p := by
  simp only [List.filter_filter]
  congr 1
  funext x
  exact Bool.and_comm _ _

/-- a get that fails: its open entry (a read) leaves the history -/
theorem hist_dropP {P P' : PC → Out → Prop} {s s' : State} (t : Nat) (hi : HInvP P s)
    (hh : s'.hist = s.hist.filter (dropP t)) (hclk : s'.clock = s.clock)
    (hthr : ∀ u, u ≠ t → s'.thr u = s.thr u) (hidle : (s'.thr t).pc = .idle)
    (hpo : ∀ u, u ≠ t → ∀ o, P (s.thr u).pc o → P' (s.thr u).pc o) (hreg : ∀ k, absReg s' k = absReg s k)
    (hgot : ∀ e ∈ s.hist, e.tid = t → e.done = false → ∃ v n, e.ev.out = .got v n) : HInvP P' s'.tick := by
  have hk : ∀ k, keyHist s'.tick k = (keyHist s k).filter (dropP t) := by
    intro k; unfold keyHist; show s'.hist.filter _ = _
    rw [hh]; exact filter_comm _ _ _
  have hrd : ∀ k, ∀ e ∈ keyHist s k, dropP t e = false → ∃ v n, e.ev.out = .got v n := by
    intro k e he hp
    simp only [dropP, Bool.not_eq_false', Bool.and_eq_true, decide_eq_true_eq, Bool.not_eq_true'] at hp
    exact hgot e (List.mem_filter.mp he).1 hp.1 hp.2
  refine ⟨?_, ?_, ?_, ?_, ?_, ?_⟩
  · intro k; rw [hk]; exact (regRun_filter_reads _ _ _ (hrd k) (hi.outs k)).1
  · intro k; rw [hk, (regRun_filter_reads _ _ _ (hrd k) (hi.outs k)).2]; exact (hi.reg k).trans (hreg k).symm
  · show s'.hist.Pairwise _; rw [hh]; exact hi.lin.sublist List.filter_sublist
  · exact fun e (he : e ∈ s'.hist) => hi.times_tick hclk (List.mem_filter.mp (hh ▸ he)).1
  · intro e he hd
    have he1 : e ∈ s'.hist := he
    rw [hh] at he1
    obtain ⟨he', hp⟩ := List.mem_filter.mp he1
    have hnt : e.tid ≠ t := by
      intro e1
      simp [dropP, e1, hd] at hp
    show P' (s'.thr e.tid).pc e.ev.out
    rw [hthr _ hnt]
    exact hpo _ hnt _ (hi.pend e he' hd)
  · exact inv_tickP hi hclk hthr fun h => absurd hidle h

/-- `PendPC` when somebody else may have emptied the chunks in `D`: a reader whose position lies in such a chunk is going
    to return an error instead of the recorded value -/
def PendOn (D : Nat → Prop) (ch : Nat → Chunk) (pc : PC) (out : Out) : Prop :=
  PendPC ch pc out ∨ ∃ c, readerChunk pc = some c ∧ D c ∧ ∃ v n, out = .got v n

theorem histInv_iff {s : State} : HistInv s ↔ HInvP (PendOn (fun _ => False) s.chunks) s :=
  ⟨fun h => ⟨h.outs, h.reg, h.lin, h.times, fun e he hd => .inl (h.pend e he hd), h.inv⟩,
   fun h => ⟨h.outs, h.reg, h.lin, h.times, fun e he hd => (h.pend e he hd).elim id fun ⟨_, _, hf, _⟩ => hf.elim, h.inv⟩⟩

theorem pendOn_nonreader {D : Nat → Prop} {ch : Nat → Chunk} {pc : PC} {o : Out} (h : readerChunk pc = none)
    (hp : PendOn D ch pc o) : PendPC ch pc o :=
  hp.elim id fun ⟨_, hc, _⟩ => by rw [h] at hc; cases hc

theorem pendOn_grows {D : Nat → Prop} {ch ch' : Nat → Chunk} (g : Grows ch ch') {pc : PC} {out : Out} (h : PendOn D ch pc out) :
    PendOn D ch' pc out := h.imp_left (pendPC_grows g)

/-- the right side of the second part is the second half of the NOT_FOUND test -/
theorem absReg_oldVer {s : State} (h : TreeOK s) (hrd : ∀ c, Readable (s.chunks c)) (k : Nat) :
    (absReg s k).ver = (oldVer s k).natAbs ∧ ((absReg s k).val = 0 ↔ (s.tree k = none ∨ oldVer s k < 0)) := by
  have hov : oldVer s k = match s.tree k with | some it => it.ver | none => 0 := rfl
  cases hit : s.tree k with
  | none => rw [absReg_none hit, hov, hit]; exact ⟨rfl, fun _ => .inl rfl, fun _ => rfl⟩
  | some it =>
    obtain ⟨r, _, _, h3, h4, h5⟩ := absReg_eq h hrd hit
    rw [h5, hov, hit]
    refine ⟨rfl, fun h0 => .inr ?_, fun hh => h4.2.2 (h3 ▸ hh.resolve_left nofun)⟩
    have := h4.1
    have := mt h4.2.1 (not_not_intro h0)
    show it.ver < 0
    omega

/-- the tree update of an accepted write IS one step of the atomic register -/
theorem treeSet_reg {s : State} (h : TreeOK s) (hrd : ∀ c, Readable (s.chunks c)) {q : WReq} {ver : Int} (hq : QOK q)
    (hw : WPre s q ver) :
    regStep (absReg s q.key) q.aop = ({ ver := ver.natAbs, val := q.val }, .acc ver.natAbs) := by
  obtain ⟨hver, hval⟩ := absReg_oldVer h hrd q.key
  cases hdel : q.del with
  | false =>
    have h1 := cauv_write (oldVer s q.key) q hdel
    rw [← hw.1] at h1
    have : ver.natAbs = (absReg s q.key).ver + 1 := by rw [hver]; omega
    simp only [WReq.aop, hdel, Bool.false_eq_true, if_false, regStep, this]
  | true =>
    have h1 := cauv_delete (oldVer s q.key) q hdel
    rw [← hw.1] at h1
    have hval : (absReg s q.key).val ≠ 0 := fun h0 => hw.2 ⟨by omega, hval.mp h0⟩
    have : ver.natAbs = (absReg s q.key).ver + 1 := by rw [hver]; omega
    simp only [WReq.aop, hdel, if_true, regStep, hval, ne_eq, not_false_eq_true, this, hq.1 hdel]

theorem reject_reg {s : State} (h : TreeOK s) (hrd : ∀ c, Readable (s.chunks c)) {q : WReq} (hno : notFound s q) :
    regStep (absReg s q.key) q.aop = (absReg s q.key, .rej) := by
  have hdel : q.del = true := by
    cases hdel : q.del with
    | true => rfl
    | false => have := cauv_write (oldVer s q.key) q hdel; have := hno.1; omega
  simp [WReq.aop, hdel, regStep, ((absReg_oldVer h hrd q.key).2).mpr hno.2]

local macro "others" : tactic =>
  `(tactic| (intro u hu; simp [State.goto, State.log, State.respond, State.readDone, State.setChunk, hu]))

-- the case of a micro-step of `t` (standing at `hpc`) that records nothing and leaves the tree alone; not called
-- (`hist_same` does not exist: the lemma is `hist_sameP`)
local macro "same_case" t:ident hi:ident hpc:ident g:ident hd:ident hc:ident hc':ident : tactic => `(tactic| (
  have hlt := HistInv.inv $hi $t (by rw [$hpc:ident]; intro hh; cases hh)
  refine hist_same $t $hi rfl rfl (by others) ?_ $g (fun k => absReg_stable rfl $g $hd $hc $hc') ?_
  · intro _; simp [State.goto, State.log, State.respond, State.readDone, State.setChunk]; omega
  · intro out hp; rw [$hpc:ident] at hp; exact False.elim hp))

/-- 4 micro-steps are linearisation steps (`hist_logP`), 5 response steps (`hist_respondP`); all others record nothing
    (`hist_sameP`).  The layout of the chunks enters through `g`, `hrd`, `hrd'`, `hfile` only.  `hro`: the read `t` is
    about to finish delivers: always without GC (`readOK_of`); beside a GC pass `ConcGC.cmicro` turns a failing read into
    `readFail` and hands only the others to `micro`. -/
theorem micro_hist {cfg : Cfg} {s s' : State} {t : Nat} {D : Nat → Prop}
    (h : micro cfg s t = some s') (hT : TreeOK s) (hw : WriterOK s (s.thr t).pc) (g : Grows s.chunks s'.chunks)
    (hrd : ∀ c, Readable (s.chunks c)) (hrd' : ∀ c, Readable (s'.chunks c))
    (hfile : ∀ c r, r ∈ (s.chunks c).file → fileLookup (s.chunks c) r.off = some r)
    (hD : ∀ c, D c → (s.chunks c).wbuf = [] ∧ (s.chunks c).file = []) (hro : ReadOK s t)
    (hi : HInvP (PendOn D s.chunks) s) : HInvP (PendOn D s'.chunks) s'.tick := by
  obtain ⟨sh, pc', hm, rfl⟩ := micro_elim h
  change Grows s.chunks sh.chunks at g
  change ∀ c, Readable (sh.chunks c) at hrd'
  show HInvP (PendOn D sh.chunks) (sh.goto t pc').tick
  have hthr := hm.thr_others
  have hpc' := goto_pc sh t pc'
  have hinv : ((sh.goto t pc').thr t).inv = (s.thr t).inv := by rw [goto_inv, hm.frame.1]
  have hlt := hi.inv t
  have hpo : ∀ u, u ≠ t → ∀ o, PendOn D s.chunks (s.thr u).pc o → PendOn D sh.chunks (s.thr u).pc o := fun _ _ _ => pendOn_grows g
  have hstable : ∀ k, (sh.goto t pc').tree k = s.tree k → absReg (sh.goto t pc') k = absReg s k :=
    fun k ht => absReg_stable ht g hT hrd hrd'
  have hlog := fun k op out hh hne => hist_logP (P' := PendOn D sh.chunks) (s' := sh.goto t pc') t k op out hi hh hm.frame.2 hthr hne hinv hpo
  have hresp := fun out hh hidle (ht : sh.tree = s.tree) => hist_respondP (P' := PendOn D sh.chunks) (s' := sh.goto t pc') t out hi hh
    hm.frame.2 hthr (hpc'.trans hidle) hpo fun k => hstable k (congrFun ht k)
  have hsame := fun hh hne (ht : sh.tree = s.tree) => hist_sameP (P' := PendOn D sh.chunks) (s' := sh.goto t pc') t hi hh hm.frame.2 hthr
    (fun _ => by rw [hinv]; exact Nat.lt_succ_of_lt (hlt hne)) hpo fun k => hstable k (congrFun ht k)
  -- a reader whose chunk has been emptied misses the buffer
  have hdead : ∀ {k it o}, (∃ c, readerChunk (.rBuf k it) = some c ∧ D c ∧ ∃ v n, o = Out.got v n) →
      bufLookup (s.chunks it.pos.chunk) it.pos.off = .miss := by
    rintro k it o ⟨c, hc, hd, _⟩
    obtain rfl := Option.some.inj hc
    exact bufLookup_nobuf _ _ (hD _ hd).1
  generalize hpc : (s.thr t).pc = pc at hm hw hlog hresp hsame
  cases hm with
  | wGetRej q hno =>
    have hrr := reject_reg hT hrd hno
    refine hlog q.key q.aop .rej rfl nofun ?_ ?_ (fun k' _ => hstable k' rfl) (fun _ h => pendOn_nonreader rfl h)
      (by rw [hpc']; exact .inl rfl)
    · rw [hrr]
    · rw [hrr]; exact hstable _ rfl
  | wTreeSet q ver pos =>
    obtain ⟨hq, hwp, hst⟩ := hw
    have hts := treeSet_reg hT hrd hq hwp
    refine hlog q.key q.aop (.acc ver.natAbs) rfl nofun ?_ ?_ (fun k' hk' => hstable k' (if_neg hk')) (fun _ h => pendOn_nonreader rfl h)
      (by rw [hpc']; exact .inl rfl)
    · rw [hts]
    · rw [hts]
      have hl := (hrd _).lookup _ hst.1
      rw [hst.2] at hl
      simp [absReg, State.goto, State.log, hl, WReq.toRec]
  | rGetNone k hit =>
    refine hlog k .read (.got 0 0) rfl nofun ?_ (hstable k rfl) (fun k' _ => hstable k' rfl) (fun _ h => pendOn_nonreader rfl h)
      (by rw [hpc']; exact .inl rfl)
    rw [absReg_none hit]; rfl
  | rGetSome k it hit =>
    refine hlog k .read (.got (absReg s k).val (absReg s k).ver) rfl nofun rfl (hstable k rfl)
      (fun k' _ => hstable k' rfl) (fun _ h => pendOn_nonreader rfl h) ?_
    obtain ⟨r, h1, h2, _, _, h5⟩ := absReg_eq hT hrd hit
    rw [hpc']
    exact .inl ⟨r, storedAt_grows g h1, h2, by rw [h5]⟩
  | wUnlock k out => exact hresp out rfl rfl rfl (fun _ h => pendOn_nonreader rfl h)
  | rRet k => exact hresp (.got 0 0) rfl rfl rfl (fun _ h => pendOn_nonreader rfl h)
  | rBufFound k it r' hfound =>
    refine hresp (readOut k it (some r')) rfl rfl rfl fun o h => ?_
    rcases h with ⟨r, h1, h2, h3⟩ | h
    · obtain rfl := (h1.buf (hrd _)).1 r' hfound
      simp [readOut, h2, h3]
    · rw [hdead h] at hfound; cases hfound
  | rBufErr k it herr =>
    refine hresp (readOut k it none) rfl rfl rfl fun o h => ?_
    rcases h with ⟨r, h1, _⟩ | h
    · exact absurd herr (h1.buf (hrd _)).2.1
    · rw [hdead h] at herr; cases herr
  | rBufMiss k it hmiss =>
    refine hsame rfl nofun rfl fun o h => ?_
    rw [hpc']
    rcases h with ⟨r, h1, h2, h3⟩ | h
    · exact .inl ⟨r, (g _ _).1 ((h1.buf (hrd _)).2.2 hmiss), h1.2, h2, h3⟩
    · exact .inr h
  | rFile k it =>
    refine hresp (readOut k it (fileLookup (s.chunks it.pos.chunk) it.pos.off)) rfl rfl rfl fun o h => ?_
    rcases h with ⟨r, h1, h2, h3, h4⟩ | ⟨c, hc, hd, _⟩
    · rw [← h2, hfile _ _ h1]
      simp [readOut, h3, h4]
    · -- the file read of a reader whose chunk has been emptied fails, against `hro`
      obtain rfl := Option.some.inj hc
      obtain ⟨r0, hr0, _⟩ := hro.2 k it hpc
      simp [fileLookup, (hD _ hd).2] at hr0
  -- nothing recorded, and the thread is not between linearisation point and response
  | _ => exact hsame rfl nofun rfl fun _ h => (pendOn_nonreader rfl h).elim

/-- the step / the event of a history entry, an open one completed at time `fut` -/
def stepAt (fut : Nat) (e : HEv) : Conc.Step :=
  { op := e.ev.op, inv := e.ev.inv, lin := e.ev.lin, resp := if e.done then e.ev.resp else fut }

def evAt (fut : Nat) (e : HEv) : Ev := if e.done then e.ev else { e.ev with resp := fut }

theorem histAt_eq (s : State) (k fut : Nat) : histAt s k fut = (keyHist s k).map (evAt fut) := rfl

theorem run_of_outs (fut : Nat) (es : List HEv) : ∀ r : Reg, regRun r (opsOf es) = outsOf es →
    Conc.run r (es.map (stepAt fut)) = es.map (evAt fut) := by
  induction es with
  | nil => intro r _; rfl
  | cons e es ih =>
    intro r h
    simp only [opsOf, outsOf, List.map_cons, regRun, List.cons.injEq] at h
    simp only [List.map_cons, Conc.run]
    have hop : (stepAt fut e).op = e.ev.op := rfl
    rw [hop, ih _ h.2]
    congr 1
    unfold stepAt evAt
    rcases e with ⟨tid, key, done, ⟨op, inv, resp, out, lin⟩⟩
    simp only at h
    cases done <;> simp [h.1]

theorem histOf_eq_histAt {s : State} (hq : quiescent s) (k fut : Nat) : histOf s k = histAt s k fut := by
  unfold histOf histAt
  have hall : ∀ e ∈ s.hist.filter (fun e => e.key = k), e.done = true := fun e he => hq e (List.mem_filter.mp he).1
  rw [List.filter_eq_self.mpr hall]
  apply List.map_congr_left
  intro e he
  simp [hall e he]

end ConcFine

namespace ConcGC
open ConcFine

theorem HInvP.atomic {P : PC → Conc.Out → Prop} {s : ConcFine.State} (hi : HInvP P s) (k fut : Nat) (hfut : s.clock ≤ fut) :
    ∃ ss, Conc.Valid ss ∧ histAt s k fut = Conc.run {} ss := by
  refine ⟨(keyHist s k).map (stepAt fut), ⟨?_, ?_⟩, ?_⟩
  · intro st hst
    obtain ⟨e, he, rfl⟩ := List.mem_map.mp hst
    have ht := hi.times e (List.mem_filter.mp he).1
    refine ⟨ht.1, ?_⟩
    unfold stepAt
    cases hd : e.done with
    | true => exact ht.2.2 hd
    | false => exact Nat.lt_of_lt_of_le ht.2.1 hfut
  · rw [List.pairwise_map]
    exact hi.lin.sublist List.filter_sublist
  · rw [histAt_eq, run_of_outs fut _ _ (hi.outs k)]

theorem HInvP.checks {P : PC → Conc.Out → Prop} {s : ConcFine.State} (hi : HInvP P s) (k fut : Nat) (hfut : s.clock ≤ fut) :
    Conc.checkA (histAt s k fut) = true ∧ Conc.checkB (histAt s k fut) = true := by
  obtain ⟨ss, hv, he⟩ := hi.atomic k fut hfut
  rw [he]
  exact ⟨Conc.checkA_sound ss hv, Conc.checkB_sound ss hv⟩

theorem HInvP.checks_done {P : PC → Conc.Out → Prop} {s : ConcFine.State} (hi : HInvP P s) (hq : quiescent s) (k : Nat) :
    Conc.checkA (histOf s k) = true ∧ Conc.checkB (histOf s k) = true :=
  histOf_eq_histAt hq k s.clock ▸ hi.checks k _ (Nat.le_refl _)

end ConcGC
