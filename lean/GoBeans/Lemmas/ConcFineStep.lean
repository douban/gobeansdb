/-
  The micro-step of Model/ConcFine.lean as the relation `Micro` (`micro` branch by branch: an update `sh` of the shared
  state, threads and clock untouched, followed by a jump of the thread); what a step does to chunks, tree and head; an
  invocation and a scheduler decision taken apart.  A lemma about a micro-step is stated on `micro cfg s t = some s'`
  (`micro_*`, here and in the layers above) and opens with `micro_elim`; what is proved of `Micro` itself (`Micro.frame`,
  `Micro.thr_others`, `Micro.locks`) serves inside those proofs.
-/
import GoBeans.Lemmas.ConcFineChunk

namespace ConcFine

-- one goal per enabled branch of `micro`, with `s'` replaced by what the branch yields; not called (the proofs open with
-- `micro_elim`)
macro "micro_split" h:ident : tactic => `(tactic| (
  unfold micro at $h:ident
  split at $h:ident <;> try dsimp only at $h:ident
  all_goals (repeat' (split at $h:ident))
  all_goals (try contradiction)
  all_goals (have $h:ident := Option.some.inj $h; subst $h)))

theorem goto_pc (s : State) (t : Nat) (pc : PC) : ((s.goto t pc).thr t).pc = pc := by
  simp only [State.goto, if_true]

theorem goto_inv (s : State) (t : Nat) (pc : PC) : ((s.goto t pc).thr t).inv = (s.thr t).inv := by
  simp only [State.goto, if_true]

theorem goto_thr_ne (s : State) {t u : Nat} (pc : PC) (hu : u ≠ t) : (s.goto t pc).thr u = s.thr u := by
  simp only [State.goto, hu, if_false]

theorem goto_self (s : State) (t : Nat) : s.goto t (s.thr t).pc = s := by
  simp only [State.goto]
  congr 1
  funext u
  split
  · rename_i h; rw [h]
  · rfl

theorem thr_cases {thr thr' : Nat → Thread} {t : Nat} (hthr : ∀ u, u ≠ t → thr' u = thr u) {P : PC → Prop}
    (ht : P (thr' t).pc) (ho : ∀ u, u ≠ t → P (thr u).pc) : ∀ u, P (thr' u).pc := by
  intro u
  by_cases hu : u = t
  · rw [hu]; exact ht
  · rw [hthr u hu]; exact ho u hu

theorem setChunk_same (s : State) (c : Nat) (ch : Chunk) : (s.setChunk c ch).chunks c = ch := if_pos rfl

theorem setChunk_ne (s : State) {c d : Nat} (ch : Chunk) (h : d ≠ c) : (s.setChunk c ch).chunks d = s.chunks d := if_neg h

/-- the NOT_FOUND test of `checkAndSet` -/
def notFound (s : State) (q : WReq) : Prop :=
  (checkAndUpdateVersion (oldVer s q.key) q.rev).1 < 0 ∧ (s.tree q.key = none ∨ oldVer s q.key < 0)

/-- `State.readDone` before the jump to `idle` -/
def State.readRes (s : State) (t k : Nat) (it : Item) (r : Option Rec) : State :=
  { s with readErr := s.readErr || readBad k r }.respond t (readOut k it r)

/-- thread `t`, standing at `pc`, turns the shared state `s` into `sh` and goes on at `pc'` -/
inductive Micro (cfg : Cfg) (s : State) (t : Nat) : PC → State → PC → Prop
  | wLock (q : WReq) : s.writeLock = none → Micro cfg s t (.wLock q) { s with writeLock := some t } (.wGet q)
  | wGetRej (q : WReq) : notFound s q → Micro cfg s t (.wGet q) (s.log t q.key q.aop .rej) (.wUnlock q.key .rej)
  | wGetOk (q : WReq) : ¬ notFound s q →
      Micro cfg s t (.wGet q) s (.wSlot q (checkAndUpdateVersion (oldVer s q.key) q.rev).1)
  | wSlotRot (q : WReq) (ver : Int) : s.dsLock = none →
      (s.chunks s.newHead).writingHead + (q.sz + 1) > cfg.dataFileMax →
      Micro cfg s t (.wSlot q ver) { s with dsLock := some t, newHead := s.newHead + 1 } (.wAppend q ver ⟨s.newHead + 1, 0⟩)
  | wSlotStay (q : WReq) (ver : Int) : s.dsLock = none →
      ¬ (s.chunks s.newHead).writingHead + (q.sz + 1) > cfg.dataFileMax →
      Micro cfg s t (.wSlot q ver) { s with dsLock := some t }
        (.wAppend q ver ⟨s.newHead, (s.chunks s.newHead).writingHead⟩)
  | wAppend (q : WReq) (ver : Int) (pos : Pos) :
      Micro cfg s t (.wAppend q ver pos) (s.setChunk s.newHead ((s.chunks s.newHead).append (q.toRec ver pos.off)))
        (.wDsUnlock q ver pos)
  | wDsUnlock (q : WReq) (ver : Int) (pos : Pos) :
      Micro cfg s t (.wDsUnlock q ver pos) { s with wbufSize := s.wbufSize + (q.sz + 1), dsLock := none }
        (.wTreeSet q ver pos)
  | wTreeSet (q : WReq) (ver : Int) (pos : Pos) :
      Micro cfg s t (.wTreeSet q ver pos)
        ({ s with tree := fun k => if k = q.key then some ⟨ver, pos⟩ else s.tree k }.log t q.key q.aop (.acc ver.natAbs))
        (.wUnlock q.key (.acc ver.natAbs))
  | wUnlock (k : Nat) (out : Conc.Out) : Micro cfg s t (.wUnlock k out) ({ s with writeLock := none }.respond t out) .idle
  | rGetNone (k : Nat) : s.tree k = none → Micro cfg s t (.rGet k) (s.log t k .read (.got 0 0)) (.rRet k)
  | rGetSome (k : Nat) (it : Item) : s.tree k = some it →
      Micro cfg s t (.rGet k) (s.log t k .read (.got (absReg s k).val (absReg s k).ver)) (.rBuf k it)
  | rRet (k : Nat) : Micro cfg s t (.rRet k) (s.respond t (.got 0 0)) .idle
  | rBufFound (k : Nat) (it : Item) (r : Rec) : bufLookup (s.chunks it.pos.chunk) it.pos.off = .found r →
      Micro cfg s t (.rBuf k it) (s.readRes t k it (some r)) .idle
  | rBufErr (k : Nat) (it : Item) : bufLookup (s.chunks it.pos.chunk) it.pos.off = .err →
      Micro cfg s t (.rBuf k it) (s.readRes t k it none) .idle
  | rBufMiss (k : Nat) (it : Item) : bufLookup (s.chunks it.pos.chunk) it.pos.off = .miss →
      Micro cfg s t (.rBuf k it) s (.rFile k it)
  | rFile (k : Nat) (it : Item) :
      Micro cfg s t (.rFile k it) (s.readRes t k it (fileLookup (s.chunks it.pos.chunk) it.pos.off)) .idle
  | fPreNone (c : Option Nat) (force late : Bool) : s.wbufSize = 0 → Micro cfg s t (.fPre c force late) s .idle
  | fPreSome (c : Option Nat) (force late : Bool) : ¬ s.wbufSize = 0 →
      Micro cfg s t (.fPre c force late) s (.fLock c force late)
  | fLock (c : Option Nat) (force late : Bool) : s.flushLock = none →
      Micro cfg s t (.fLock c force late) { s with flushLock := some t } (.fDs1 c force late)
  | fDs1None (c : Option Nat) (force late : Bool) : s.dsLock = none → s.wbufSize = 0 →
      Micro cfg s t (.fDs1 c force late) s .fUnlock
  | fDs1Late (c : Option Nat) (force late : Bool) : s.dsLock = none → ¬ s.wbufSize = 0 →
      (!force ∧ late ∧ s.wbufSize < cfg.flushBig) → Micro cfg s t (.fDs1 c force late) s .fUnlock
  | fDs1Go (c : Option Nat) (force late : Bool) : s.dsLock = none → ¬ s.wbufSize = 0 →
      ¬ (!force ∧ late ∧ s.wbufSize < cfg.flushBig) →
      Micro cfg s t (.fDs1 c force late) s (.fOpen (match c with | some c => c | none => s.newHead))
  | fOpen (c : Nat) : Micro cfg s t (.fOpen c) s (.fCheck c (s.chunks c).fsize)
  | fCheckBad (c woff : Nat) : woff ≠ diskFileSize (s.chunks c) →
      Micro cfg s t (.fCheck c woff) { s with fatal := true } (.fCheck c woff)
  | fCheckOk (c woff : Nat) : ¬ woff ≠ diskFileSize (s.chunks c) → Micro cfg s t (.fCheck c woff) s (.fCount c woff)
  | fCount (c woff : Nat) : Micro cfg s t (.fCount c woff) s (.fFetch c woff (s.chunks c).wbuf.length 0 0)
  | fFetchSome (c woff n i fl : Nat) (r : Rec) : i < n → (s.chunks c).wbuf[i]? = some r →
      Micro cfg s t (.fFetch c woff n i fl) s (.fWrite c woff n i fl r)
  | fFetchBad (c woff n i fl : Nat) : i < n → (s.chunks c).wbuf[i]? = none →
      Micro cfg s t (.fFetch c woff n i fl) { s with fatal := true } (.fFetch c woff n i fl)
  | fFetchDone (c woff n i fl : Nat) : ¬ i < n → Micro cfg s t (.fFetch c woff n i fl) s (.fDetach c n fl)
  | fWrite (c woff n i fl : Nat) (r : Rec) :
      Micro cfg s t (.fWrite c woff n i fl r) (s.setChunk c ((s.chunks c).write woff r))
        (.fFetch c (woff + r.size) n (i + 1) (fl + r.size))
  | fDetach (c n fl : Nat) :
      Micro cfg s t (.fDetach c n fl) (s.setChunk c ((s.chunks c).detach n)) (.fDs2 fl)
  | fDs2 (fl : Nat) : s.dsLock = none → Micro cfg s t (.fDs2 fl) { s with wbufSize := s.wbufSize - fl } .fUnlock
  | fUnlock : Micro cfg s t .fUnlock { s with flushLock := none } .idle

/-- shaped so that what `simp only [micro, hpc] at h` leaves of `h : micro cfg s t = some s'` is its second argument -/
theorem Micro.intro {cfg : Cfg} {s sh s' : State} {t : Nat} {pc pc' : PC} (hm : Micro cfg s t pc sh pc')
    (h : some (sh.goto t pc') = some s') : ∃ sh pc', Micro cfg s t pc sh pc' ∧ s' = sh.goto t pc' :=
  ⟨sh, pc', hm, (Option.some.inj h).symm⟩

theorem micro_elim {cfg : Cfg} {s s' : State} {t : Nat} (h : micro cfg s t = some s') :
    ∃ sh pc', Micro cfg s t (s.thr t).pc sh pc' ∧ s' = sh.goto t pc' := by
  generalize hpc : (s.thr t).pc = pc
  cases pc <;> simp only [micro, hpc] at h
  -- the two `Fatalf` branches leave the thread where it is
  case fCheck c woff =>
    split at h
    · next hg => exact (Micro.fCheckBad c woff hg).intro (by rw [← hpc, goto_self]; exact h)
    · next hg => exact (Micro.fCheckOk c woff hg).intro h
  case fFetch c woff n i fl =>
    split at h
    · next hlt =>
      split at h
      · next r hg => exact (Micro.fFetchSome c woff n i fl r hlt hg).intro h
      · next hg => exact (Micro.fFetchBad c woff n i fl hlt hg).intro (by rw [← hpc, goto_self]; exact h)
    · next hg => exact (Micro.fFetchDone c woff n i fl hg).intro h
  -- two branches with one target: say which
  case fDs1 c force late =>
    split at h
    · next hd =>
      split at h
      · next hg => exact (Micro.fDs1None c force late hd hg).intro h
      · next hz =>
        split at h
        · next hg => exact (Micro.fDs1Late c force late hd hz hg).intro h
        · next hg => exact (Micro.fDs1Go c force late hd hz hg).intro h
    · contradiction
  -- every other branch of `micro` is, with its guards, a constructor of `Micro`
  all_goals
    repeat' split at h
    all_goals first
      | contradiction
      | exact Micro.intro (by constructor <;> assumption) h

theorem Micro.frame {cfg : Cfg} {s sh : State} {t : Nat} {pc pc' : PC} (hm : Micro cfg s t pc sh pc') :
    sh.thr = s.thr ∧ sh.clock = s.clock := by
  cases hm <;> exact ⟨rfl, rfl⟩

theorem Micro.thr_others {cfg : Cfg} {s sh : State} {t : Nat} {pc pc' : PC} (hm : Micro cfg s t pc sh pc') :
    ∀ u, u ≠ t → (sh.goto t pc').thr u = s.thr u :=
  fun u hu => by rw [goto_thr_ne sh pc' hu, hm.frame.1]

theorem micro_thr_others {cfg : Cfg} {s s' : State} {t : Nat} (h : micro cfg s t = some s') :
    ∀ u, u ≠ t → s'.thr u = s.thr u := by
  obtain ⟨sh, pc', hm, rfl⟩ := micro_elim h
  exact hm.thr_others

theorem micro_chunks {cfg : Cfg} {s s' : State} {t : Nat} (h : micro cfg s t = some s') (d : Nat) :
    s'.chunks d = s.chunks d
    ∨ (∃ q ver pos, (s.thr t).pc = .wAppend q ver pos ∧ d = s.newHead ∧
        s'.chunks d = (s.chunks d).append (q.toRec ver pos.off))
    ∨ (∃ woff n i fl r, (s.thr t).pc = .fWrite d woff n i fl r ∧ s'.chunks d = (s.chunks d).write woff r)
    ∨ (∃ n fl, (s.thr t).pc = .fDetach d n fl ∧ s'.chunks d = (s.chunks d).detach n) := by
  obtain ⟨sh, pc', hm, rfl⟩ := micro_elim h
  generalize hpc : (s.thr t).pc = pc at hm
  cases hm with
  | wAppend q ver pos =>
    by_cases hd : d = s.newHead
    · subst hd; exact .inr (.inl ⟨q, ver, pos, rfl, rfl, setChunk_same ..⟩)
    · exact .inl (setChunk_ne _ _ hd)
  | fWrite c woff n i fl r =>
    by_cases hd : d = c
    · subst hd; exact .inr (.inr (.inl ⟨woff, n, i, fl, r, rfl, setChunk_same ..⟩))
    · exact .inl (setChunk_ne _ _ hd)
  | fDetach c n fl =>
    by_cases hd : d = c
    · subst hd; exact .inr (.inr (.inr ⟨n, fl, rfl, setChunk_same ..⟩))
    · exact .inl (setChunk_ne _ _ hd)
  | _ => exact .inl rfl

theorem micro_tree {cfg : Cfg} {s s' : State} {t : Nat} (h : micro cfg s t = some s') :
    s'.tree = s.tree
    ∨ (∃ q ver pos, (s.thr t).pc = .wTreeSet q ver pos ∧
        s'.tree = fun k => if k = q.key then some ⟨ver, pos⟩ else s.tree k) := by
  obtain ⟨sh, pc', hm, rfl⟩ := micro_elim h
  generalize hpc : (s.thr t).pc = pc at hm
  cases hm with
  | wTreeSet q ver pos => exact .inr ⟨q, ver, pos, rfl, rfl⟩
  | _ => exact .inl rfl

def holdsW : PC → Bool
  | .wGet _ | .wSlot .. | .wAppend .. | .wDsUnlock .. | .wTreeSet .. | .wUnlock .. => true
  | _ => false
def holdsD : PC → Bool
  | .wAppend .. | .wDsUnlock .. => true
  | _ => false
def holdsF : PC → Bool
  | .fDs1 .. | .fOpen _ | .fCheck .. | .fCount .. | .fFetch .. | .fWrite .. | .fDetach .. | .fDs2 _ | .fUnlock => true
  | _ => false

theorem micro_newHead {cfg : Cfg} {b b' : State} {t : Nat} (h : micro cfg b t = some b') :
    b'.newHead = b.newHead ∨ (holdsW (b.thr t).pc = true ∧ b'.newHead = b.newHead + 1) := by
  obtain ⟨sh, pc', hm, rfl⟩ := micro_elim h
  generalize hpc : (b.thr t).pc = pc at hm
  cases hm with
  | wSlotRot => exact Or.inr ⟨rfl, rfl⟩
  | _ => exact Or.inl rfl

theorem micro_head {cfg : Cfg} {b b' : State} {t : Nat} (h : micro cfg b t = some b') :
    b.newHead ≤ b'.newHead := by
  rcases micro_newHead h with e | ⟨_, e⟩ <;> omega

/-- where an invoked operation starts -/
inductive Start : PC → Prop
  | write (k v sz : Nat) : v ≠ 0 → Start (.wLock ⟨k, v, sz, false⟩)
  | delete (k sz : Nat) : Start (.wLock ⟨k, 0, sz, true⟩)
  | read (k : Nat) : Start (.rGet k)
  | flush (c : Option Nat) (force late : Bool) : Start (.fPre c force late)

theorem invoke_elim {s s' : State} {t : Nat} {op : Op} (h : invoke s t op = some s') :
    (s.thr t).pc = .idle ∧
    ∃ pc', s' = { s with thr := fun u => if u = t then { pc := pc', inv := s.clock } else s.thr u } ∧ Start pc' := by
  unfold invoke at h
  split at h
  · next hpc =>
    refine ⟨hpc, ?_⟩
    cases op with
    | write k v sz =>
      dsimp only at h
      split at h
      · contradiction
      · next hv => exact ⟨_, (Option.some.inj h).symm, .write k v sz hv⟩
    | delete k sz => exact ⟨_, (Option.some.inj h).symm, .delete k sz⟩
    | read k => exact ⟨_, (Option.some.inj h).symm, .read k⟩
    | flush c force late => exact ⟨_, (Option.some.inj h).symm, .flush c force late⟩
  · contradiction

theorem step_cases {cfg : Cfg} {s s' : State} {t : Nat} {a : Act} (h : step cfg s t a = some s') :
    s.fatal = false ∧ ∃ s1, s' = s1.tick ∧ (micro cfg s t = some s1 ∨ ∃ op, invoke s t op = some s1) := by
  unfold step at h
  split at h
  · contradiction
  · next hf =>
    refine ⟨Bool.not_eq_true _ ▸ hf, ?_⟩
    cases a <;> (simp only [Option.map_eq_some_iff] at h; obtain ⟨s1, h1, h2⟩ := h)
    · exact ⟨s1, h2.symm, .inr ⟨_, h1⟩⟩
    · exact ⟨s1, h2.symm, .inl h1⟩

end ConcFine
