/-
  The class `SafeR` across a restart (`reopen_safeR`) and over a whole history (`run_safeR`).

  What the class `SafeR` reads off `hintLoop_slots` for the tree rebuilt from the hint files (`rebuilt_tree`): every slot
  points at a record of its hash, and for a key the collision table does not know (it is the only written key of its hash)
  the slot is exactly its last record, present iff live.
-/
import GoBeans.Lemmas.CollideOpen
import GoBeans.Lemmas.CollideR
import GoBeans.Lemmas.CollideROps
namespace CollideLemmas
open Store Spec HintIndex Collide StoreLemmas HintBufferLemmas HintLoadLemmas HintIndexLemmas

section
variable (hash : Key → Nat)

/-- the closed hint state `hs1` that the tree loop reads, against the data files of `b`; `U`: keys alone on their hash -/
structure TC (b : Bucket) (hs1 : Hints) (U : Key → Prop) : Prop where
  pos : PosInv b
  good : ∀ j, CkGood (hs1.chunks j)
  empty : ∀ j, (hs1.chunks j).last.items = []
  hex : ∀ c k, HintAt hash k ((hs1.chunks c).get (hash k) k) (lastIn k (b.chunks c).recs)
  single : ∀ o, U o → ∀ c y, InCk (hs1.chunks c) y → y.khash = hash o → y.key = o

theorem rebuilt_tree {b : Bucket} (x : TrkR) (hx : x.restarted = true)
    (hsingle : ∀ o, (lastOf o b.log).isSome = true → o ∉ x.t.reg → ∀ i, ∀ p ∈ (b.chunks i).recs, hash p.2.key = hash o → p.2.key = o)
    (F : Nat → List (List Item)) (hF : ∀ i, FileHintsOf hash (b.chunks i).recs (F i)) (l : Lay b)
    (mx : Nat) (hmx : mx ≤ b.head) (hemp : ∀ i, mx < i → (b.chunks i).recs = []) :
    (∀ h ti, AMap.get ((List.range (mx + 1)).foldl (fun t i => applySplits i t (F i)) []) h = some ti →
        ∃ r, SlotOK hash b.log x h ti r)
    ∧ (∀ k, k ∉ x.t.reg → (∃ p r, lastOf k b.log = some (p, r) ∧ r.ver > 0) →
        ∃ ti, AMap.get ((List.range (mx + 1)).foldl (fun t i => applySplits i t (F i)) []) (hash k) = some ti) := by
  have hlog : b.log = (List.range (mx + 1)).flatMap (fun i => fileLog i (b.chunks i).recs) :=
    log_as_fileLog b (mx + 1) (Nat.succ_le_succ hmx) (fun j hj => hemp j (by omega))
  obtain ⟨h1, h2⟩ := hintLoop_slots hash (fun i => (b.chunks i).recs) F hF (mx + 1)
  rw [← hlog] at h2
  refine ⟨fun h ti hti => ?_, fun k hnr ⟨p, r, hl, hv⟩ => ?_⟩
  · obtain ⟨i, p, hp, hh, hpos, hver⟩ := h1 h ti hti
    have hm : (ti.pos, p.2) ∈ b.log := by rw [hpos]; exact mem_log_of_mem_recs l.posInv hp
    refine ⟨p.2, { hash := hh, mem := hm, ver := hver, last := fun hnr => ?_, owner := fun hc => by rw [hx] at hc; cases hc }⟩
    -- the key is the only one of its hash: the slot is the replay's, the live part of its last record
    have hs := lastOf_isSome_of_mem hm
    have e := h2 p.2.key (hsingle _ hs (hnr.resolve_left (by rw [hx]; exact Bool.noConfusion)))
    rw [hh, hti] at e
    obtain ⟨⟨q, rl⟩, hlo⟩ := Option.isSome_iff_exists.mp hs
    rw [hlo] at e ⊢
    simp only [itemOfLast] at e
    split at e
    · cases e
      -- both records are read at the slot's position
      have h3 := l.read_log (StoreLemmas.lastOf_mem hlo).1
      rw [l.read_log hm] at h3
      rw [Option.some.inj h3]
    · cases e
  · rw [h2 k (hsingle k (by rw [hl]; rfl) hnr), hl]
    simp only [itemOfLast, hv, if_true]
    exact ⟨_, rfl⟩

/-
  A restart keeps `RInv` (`reopen_safeR`).  `close` leaves the same hints, all written (`closed_of`), and dumps the tree;
  `open` reads them back into a hint manager that is exact again (`reopen_as`).  The tree is either the dump just written,
  untouched — the old slots, of which only what survives a restart is kept — or rebuilt from the hint files (`rebuilt_tree`).
-/
theorem reopen_data {cfg : Collide.Cfg} {st : State} {t : Trk} {n : Nat} (inv : DataInv hash cfg st t n) (mx : Nat) (hle : mx ≤ st.b.head)
    (hemp : ∀ j, mx < j → (st.b.chunks j).recs = [] ∧ (st.b.chunks j).size = 0) (l : Option ((Nat × Int) × Tree)) (x : Hints × Tree) :
    DataInv hash cfg (reState st mx l x) { t with owner := [] } (n + 1) :=
  { inv.quiet hash (st' := reState st mx l x) rfl
      ⟨fun _ => ⟨rfl, rfl⟩, reB_log st mx hle hemp, inv.lay.posInv.below, fun i hi => hemp i (by have : mx + 1 < i := hi; omega)⟩ with
    vers := fun y hy => Nat.le_succ_of_le (inv.vers y ((reB_log st mx hle hemp) ▸ hy)) }

theorem reopen_safeR {cfg : Collide.Cfg} {st : State} {x : TrkR} {n : Nat} (inv : RInv hash cfg st x n)
    (hall : x.t.allDetected hash = true) (hne : x.t.written ≠ []) (kt : Bool) :
    RInv hash cfg (st.reopen hash cfg kt) { t := { x.t with owner := [] }, restarted := true } (n + 1) := by
  have halld := allDetected_spec hash x.t hall
  obtain ⟨k0, hk0⟩ := List.exists_mem_of_ne_nil _ hne
  obtain ⟨⟨p0, r0⟩, hlo0⟩ := Option.isSome_iff_exists.mp ((inv.wr k0).mp hk0)
  obtain ⟨mx, hmx, hmxle, hemp⟩ := reopen_mx st.b inv.lay p0.chunk
    (List.ne_nil_of_mem (mem_log.1 (StoreLemmas.lastOf_mem hlo0).1).2)
  obtain ⟨cl, hmono, _⟩ := closed_of hash inv.hg inv.dsfull
  generalize hhs : closeAll st.hs (st.hs.maxChunk + 1) = hs1 at cl hmono
  generalize hL : reLoaded st mx kt hs1 = L
  -- `close` always dumps the tree it has, under `maxDumpedHintID` (`HintInv.tidle`): what `open` finds is that dump or nothing
  have hLcases : L = none ∨ L = some (hs1.maxDumped, st.b.tree) := by
    rw [← hL, reLoaded_dumped st mx kt (hmono _ inv.tidle)]
    split
    · exact Or.inr rfl
    · exact Or.inl rfl
  obtain ⟨x2, e, ro⟩ := reopen_as hash cfg st kt mx hmx hemp inv.lay hhs cl hL (hLcases.imp id fun e => ⟨_, e⟩)
  rw [e]
  have hdata := reopen_data hash inv.toDataInv mx hmxle hemp L x2
  have hlog : (reState st mx L x2).b.log = st.b.log := reB_log st mx hmxle hemp
  have htree : (∀ h ti, AMap.get x2.2 h = some ti →
        ∃ r, SlotOK hash (reState st mx L x2).b.log { t := { x.t with owner := [] }, restarted := true } h ti r)
      ∧ ∀ k, k ∈ x.t.written → k ∉ x.t.reg → (∃ p r, lastOf k st.b.log = some (p, r) ∧ r.ver > 0) → ∃ ti, AMap.get x2.2 (hash k) = some ti := by
    rcases hLcases with e | e
    · -- the key of a record is written: a hash-mate of `o` would make `o` registered
      have hsingle : ∀ o, (lastOf o (reState st mx L x2).b.log).isSome = true → o ∉ x.t.reg →
          ∀ i, ∀ p ∈ ((reState st mx L x2).b.chunks i).recs, hash p.2.key = hash o → p.2.key = o :=
        fun o ho hnr i p hp hh => Classical.byContradiction fun hne => hnr (halld o p.2.key ((hdata.wr o).mpr ho)
          (written_of_mem_log hash hdata (mem_log_of_mem_recs (o := p.1) (r := p.2) hdata.lay.posInv hp)) hh hne)
      rw [ro.rebuilt e]
      obtain ⟨t1, t2⟩ := rebuilt_tree hash { t := { x.t with owner := [] }, restarted := true } rfl hsingle
        (fun i => (loadedCk (hs1.chunks i) (st.b.chunks i).size).files)
        (loaded_fileHints hash cl fun i => inv.lay.posInv.nil_of_size) hdata.lay mx (Nat.le_succ mx) (fun i hi => (hemp i hi).1)
      exact ⟨t1, fun k _ hnr hlive => t2 k hnr (by rw [hlog]; exact hlive)⟩
    · rw [ro.kept _ e]
      refine ⟨fun h ti hti => ?_, fun k hk hnr hlive => inv.own k hk (Or.inr ⟨hnr, hlive⟩)⟩
      obtain ⟨r, s⟩ := inv.slot h ti hti
      exact ⟨r, (hlog ▸ s).weaken (fun hc => Bool.noConfusion hc) id⟩
  exact { toDataInv := hdata, hg := ro.hg, hmerged := ro.merged, dsfull := ro.dsf, slot := htree.1
          tidle := ro.tid
          ownw := fun h o ho => (by cases ho)
          own := fun k hk hc => by
            obtain ⟨hc1, hc2⟩ := hc.resolve_left Bool.noConfusion
            exact htree.2 k hk hc1 (by rw [← hlog]; exact hc2)
          hmax := fun hr => (by cases hr), alld := fun _ => halld }

/-
  A history of the class `SafeR` is answered like the reference map (`run_safeR`).  The new store satisfies `RInv` with
  version bound 0 (`rinv_init`), every operation raises the bound by one, and a history of fewer than 2^31-1 operations keeps
  it where the operations need it.
-/

theorem step_safeR {cfg : Collide.Cfg} (hcv : cfg.s.checkVHash = false) (hdf : cfg.s.dataFileMax < 4294967296) (hcap : 1 ≤ cfg.cap)
    {st : State} {x : TrkR} {n : Nat} (hn : n + 1 < 2147483647) (inv : RInv hash cfg st x n) (op : Collide.Op) (x' : TrkR)
    (h : x.step hash op = some x') : StepOKR hash cfg st x n op x' := by
  cases op with
  | set k body flag rev ts size =>
    obtain ⟨h, hw⟩ := guard_some hash h
    simp only [Trk.step] at h
    by_cases hc2 : rev = 0 ∧ 0 < size ∧ body.length < 2^63
    · rw [if_pos hc2] at h
      obtain ⟨h0, h1, h2⟩ := hc2
      subst h0
      simp only [Option.map_some, Option.some.injEq] at h
      subst h
      exact set_safeR hash hcv hdf hcap hn inv k body flag ts size h1 h2 hw
    · rw [if_neg hc2] at h; cases h
  | delete k size wts =>
    simp only [TrkR.step, Trk.step] at h
    by_cases hc : 0 < size ∧ (k ∈ x.t.reg ∨ x.t.others hash k = [])
    · rw [if_pos hc] at h
      simp only [Option.map_some, Option.some.injEq] at h
      subst h
      exact delete_safeR hash hcv hdf hcap hn inv k size wts hc.1 hc.2
    · rw [if_neg hc] at h; cases h
  | incr k d size wts =>
    obtain ⟨h, hw⟩ := guard_some hash h
    simp only [Trk.step] at h
    by_cases hc2 : 0 < size
    · rw [if_pos hc2] at h
      simp only [Option.map_some, Option.some.injEq] at h
      subst h
      exact incr_safeR hash hdf hcap inv k d size wts hc2 hw
    · rw [if_neg hc2] at h; cases h
  | get k =>
    simp only [TrkR.step, Trk.step, Option.map_some, Option.some.injEq] at h
    subst h; exact get_safeR hash inv k
  | info k =>
    simp only [TrkR.step, Trk.step, Option.map_some, Option.some.injEq] at h
    subst h; exact info_safeR hash inv k
  | flush =>
    simp only [TrkR.step, Trk.step, Option.map_some, Option.some.injEq] at h
    subst h; exact flush_safeR hash inv
  | hintDump =>
    simp only [TrkR.step, Trk.step, Option.map_some, Option.some.injEq] at h
    subst h; exact dump_safeR hash inv
  | reopen kt =>
    simp only [TrkR.step] at h
    by_cases hc : (x.t.allDetected hash && !x.t.written.isEmpty) = true
    · rw [if_pos hc] at h
      simp only [Option.some.injEq] at h
      subst h
      simp only [Bool.and_eq_true, Bool.not_eq_true', List.isEmpty_eq_false_iff] at hc
      unfold StepOKR
      rw [step_reopen]
      simp only [Collide.cmdOf, and_true]
      exact reopen_safeR hash inv hc.1 hc.2 kt
    · rw [if_neg hc] at h; cases h
  | hintMerge => simp [TrkR.step, Trk.step] at h
  | gc g m => simp [TrkR.step, Trk.step] at h

theorem rinv_init (cfg : Collide.Cfg) : RInv hash cfg {} {} 0 where
  lay := lay_init
  ob _ _ _ hm := nomatch hm
  spec _ := True.intro
  wr _ := ⟨fun h => (nomatch h), fun h => (nomatch h)⟩
  vers _ hx := nomatch hx
  tab _ _ _ hg := nomatch hg
  tabc _ hk := nomatch hk
  tabne _ hh := nomatch hh
  hg := hsG_empty hash (fun _ => rfl) _
  hmerged := rfl
  dsfull _ hz := absurd hz (by simp)
  tidle := rfl
  slot _ _ hti := nomatch hti
  ownw _ _ ho := nomatch ho
  own _ hk _ := nomatch hk
  hmax _ _ hne := absurd rfl hne
  alld hr := nomatch hr

theorem run_safeR {cfg : Collide.Cfg} (hcv : cfg.s.checkVHash = false) (hdf : cfg.s.dataFileMax < 4294967296) (hcap : 1 ≤ cfg.cap)
    (ops : List Collide.Op) :
    ∀ (st : State) (x : TrkR) (n : Nat), RInv hash cfg st x n → n + ops.length < 2147483647 →
      ∀ x', TrkR.run hash x ops = some x' →
      (Collide.run hash cfg st ops).2.map coarse = (Spec.run {} x.t.m (ops.filterMap Collide.cmdOf)).2.map coarse := by
  induction ops with
  | nil => intro st x n _ _ x' _; rfl
  | cons op ops ih =>
    intro st x n inv hn x' hrun
    unfold TrkR.run at hrun
    cases hst : x.step hash op with
    | none => rw [hst] at hrun; cases hrun
    | some x1 =>
      rw [hst] at hrun
      simp only at hrun
      have hlen : (op :: ops).length = ops.length + 1 := rfl
      obtain ⟨i1, i2⟩ := step_safeR hash hcv hdf hcap (by rw [hlen] at hn; omega) inv op x1 hst
      have ih' := ih _ x1 (n + 1) i1 (by rw [hlen] at hn; omega) x' hrun
      rw [run_cons, List.map_append, ih', List.filterMap_cons]
      cases hc : Collide.cmdOf op with
      | none => rw [hc] at i2; rw [i2]; rfl
      | some c => rw [hc] at i2; simp only [Spec.run, List.map_cons, i2.1, i2.2]; rfl
end
end CollideLemmas
