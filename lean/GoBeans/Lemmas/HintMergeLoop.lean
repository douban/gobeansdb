/- C14 hint merge: the loop of `merge` (store/hintmerge.go) over any priority queue that obeys
   `HeapLaws` pops ALL items of ALL sources, in the order of `mergeHeap.Less`, provided every source is strictly
   sorted by (khash, key) (`loop_spec`).  `listHeap` obeys the laws. -/
import GoBeans.Lemmas.HintMergeOrder
namespace HintMergeLemmas
open Hint HintMerge

/-- what the merge assumes of container/heap.  `Pop` returns SOME minimum, not a particular one, which is why two
    queues that obey the laws (`goHeap`, `listHeap`) may pop tied items in different orders -/
structure HeapLaws (I : HeapImpl) where
  inv : List Reader → Prop
  init_inv : ∀ l, inv (I.init l)
  init_perm : ∀ l, (I.init l).Perm l
  pop_none : ∀ h, inv h → (I.pop h = none ↔ h = [])
  pop_some : ∀ h r h', inv h → I.pop h = some (r, h') →
    h.Perm (r :: h') ∧ inv h' ∧ ∀ x ∈ h', less x r = false
  push : ∀ h r, inv h → inv (I.push h r) ∧ (I.push h r).Perm (r :: h)

theorem less_iff (a b : Reader) : less a b = true ↔ ILt a.curr b.curr := itemLt_iff _ _

theorem less_false_iff (a b : Reader) : less a b = false ↔ ILe b.curr a.curr := itemLt_false_iff _ _

def pending (r : Reader) : List Item := r.curr :: r.rest.map (tag r.chunk)

def pendingAll (h : List Reader) : List Item := h.flatMap pending

theorem pending_eq (r : Reader) : pending r = r.curr :: (r.next.map pending).getD [] := by
  obtain ⟨c, x, rest⟩ := r
  cases rest <;> rfl

theorem pendingAll_cons (r : Reader) (h : List Reader) : pendingAll (r :: h) = pending r ++ pendingAll h :=
  List.flatMap_cons

theorem pendingAll_perm {h1 h2 : List Reader} (p : h1.Perm h2) : (pendingAll h1).Perm (pendingAll h2) :=
  List.Perm.flatMap_right _ p

theorem pendingAll_eq_nil {h : List Reader} (e : pendingAll h = []) : h = [] :=
  List.eq_nil_iff_forall_not_mem.mpr fun r hr => List.cons_ne_nil _ _ (List.flatMap_eq_nil_iff.mp e r hr)

def SortedPending (h : List Reader) : Prop := ∀ r ∈ h, (pending r).Pairwise KLt

def afterPop (I : HeapImpl) (mr : Reader) (h' : List Reader) : List Reader :=
  match mr.next with
  | none => h'
  | some mr' => I.push h' mr'

theorem loop_succ (I : HeapImpl) (fuel : Nat) (h : List Reader) (w : Writer) :
    loop I (fuel + 1) h w = match I.pop h with
      | none => (h, w)
      | some (mr, h') => loop I fuel (afterPop I mr h') (write w mr.curr) := by
  rw [loop]
  cases I.pop h with
  | none => rfl
  | some p =>
    simp only [afterPop]
    cases p.1.next <;> rfl

theorem pop_step {I : HeapImpl} (L : HeapLaws I) {h h' : List Reader} {mr : Reader} (hinv : L.inv h)
    (hs : SortedPending h) (hp : I.pop h = some (mr, h')) :
    L.inv (afterPop I mr h') ∧ SortedPending (afterPop I mr h') ∧
    (mr.curr :: pendingAll (afterPop I mr h')).Perm (pendingAll h) ∧
    ∀ y ∈ pendingAll (afterPop I mr h'), ILe mr.curr y := by
  obtain ⟨hperm, hinv', hmin⟩ := L.pop_some h mr h' hinv hp
  have hpp : (pending mr ++ pendingAll h').Perm (pendingAll h) := by
    rw [← pendingAll_cons]; exact (pendingAll_perm hperm).symm
  have hsmr : (pending mr).Pairwise KLt := hs mr (hperm.mem_iff.mpr (by simp))
  have hs' : SortedPending h' := fun r hr => hs r (hperm.mem_iff.mpr (List.mem_cons_of_mem _ hr))
  -- the minimum of the heap is the minimum of everything pending, because every reader is sorted
  have hmin' : ∀ y ∈ pendingAll h', ILe mr.curr y := by
    intro y hy
    obtain ⟨r, hr, hyr⟩ := List.mem_flatMap.mp hy
    refine ILe_trans ((less_false_iff _ _).mp (hmin r hr)) ?_
    rcases List.mem_cons.mp hyr with rfl | hy'
    · exact ILe_refl _
    · exact ILe_of_KLt (List.rel_of_pairwise_cons (hs' r hr) hy')
  rw [pending_eq] at hpp hsmr
  unfold afterPop
  cases hn : mr.next with
  | none =>
    rw [hn] at hpp
    exact ⟨hinv', hs', hpp, hmin'⟩
  | some mr' =>
    rw [hn] at hpp hsmr
    obtain ⟨hinv'', hperm''⟩ := L.push h' mr' hinv'
    have hpp'' : (pendingAll (I.push h' mr')).Perm (pending mr' ++ pendingAll h') := by
      rw [← pendingAll_cons]; exact pendingAll_perm hperm''
    have hsmr' := List.pairwise_cons.mp hsmr
    refine ⟨hinv'', ?_, ((List.perm_cons _).mpr hpp'').trans hpp, ?_⟩
    · intro r hr
      rcases List.mem_cons.mp (hperm''.mem_iff.mp hr) with rfl | hr'
      · exact hsmr'.2
      · exact hs' r hr'
    · intro y hy
      rcases List.mem_append.mp (hpp''.mem_iff.mp hy) with hy1 | hy2
      · exact ILe_of_KLt (hsmr'.1 y hy1)
      · exact hmin' y hy2

/-- `s`: the items popped, in this order.  The last disjunct is what shows the heap empty after `totalItems` rounds
    (`kway_spec`). -/
theorem loop_spec {I : HeapImpl} (L : HeapLaws I) (fuel : Nat) (h : List Reader) (w : Writer) (hinv : L.inv h)
    (hs : SortedPending h) : ∃ s, (loop I fuel h w).2 = s.foldl write w ∧ s.Pairwise ILe ∧
      (s ++ pendingAll (loop I fuel h w).1).Perm (pendingAll h) ∧ ((loop I fuel h w).1 = [] ∨ s.length = fuel) := by
  induction fuel generalizing h w with
  | zero => exact ⟨[], rfl, .nil, .refl _, .inr rfl⟩
  | succ fuel ih =>
    rw [loop_succ]
    cases hp : I.pop h with
    | none => exact ⟨[], rfl, .nil, .refl _, .inl ((L.pop_none h hinv).mp hp)⟩
    | some p =>
      obtain ⟨mr, h'⟩ := p
      obtain ⟨hinv', hs', hperm, hmin⟩ := pop_step L hinv hs hp
      obtain ⟨s, e, ss, sp, stop⟩ := ih (afterPop I mr h') (write w mr.curr) hinv' hs'
      refine ⟨mr.curr :: s, e, List.pairwise_cons.mpr ⟨?_, ss⟩, ((List.perm_cons _).mpr sp).trans hperm,
        stop.imp_right (congrArg (· + 1))⟩
      intro y hy
      exact hmin y (sp.mem_iff.mp (List.mem_append_left _ hy))

theorem popMin_none (h : List Reader) : popMin h = none ↔ h = [] := by
  fun_induction popMin h <;> simp

theorem popMin_some (h : List Reader) (r : Reader) (h' : List Reader) (e : popMin h = some (r, h')) :
    h.Perm (r :: h') ∧ ∀ x ∈ h', less x r = false := by
  fun_induction popMin h generalizing r h' with
  | case1 => cases e
  | case2 a rs hp _ =>
    cases e
    rw [(popMin_none rs).mp hp]
    exact ⟨.refl _, by simp⟩
  | case3 a rs m rest hp hl ih =>
    cases e
    obtain ⟨ihp, ihm⟩ := ih m rest hp
    refine ⟨((List.perm_cons a).mpr ihp).trans (.swap _ _ _), fun x hx => ?_⟩
    rcases List.mem_cons.mp hx with rfl | hx'
    · exact (less_false_iff _ _).mpr (ILe_of_ILt ((less_iff _ _).mp hl))
    · exact ihm x hx'
  | case4 a rs m rest hp hl ih =>
    cases e
    obtain ⟨ihp, ihm⟩ := ih m rest hp
    refine ⟨.refl _, fun x hx => ?_⟩
    have ham : ILe a.curr m.curr := (less_false_iff _ _).mp (by simpa using hl)
    refine (less_false_iff _ _).mpr (ILe_trans ham ?_)
    rcases List.mem_cons.mp (ihp.mem_iff.mp hx) with rfl | hx'
    · exact ILe_refl _
    · exact (less_false_iff _ _).mp (ihm x hx')

def listLaws : HeapLaws listHeap where
  inv := fun _ => True
  init_inv := fun _ => trivial
  init_perm := fun l => List.Perm.refl l
  pop_none := fun h _ => popMin_none h
  pop_some := fun h r h' _ e => ⟨(popMin_some h r h' e).1, trivial, (popMin_some h r h' e).2⟩
  push := fun h r _ => ⟨trivial, by
    show (h ++ [r]).Perm (r :: h)
    exact List.perm_append_comm.trans (by simp)⟩

end HintMergeLemmas
