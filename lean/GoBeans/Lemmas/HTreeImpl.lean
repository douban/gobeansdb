/-
  C08, lazy inner nodes of store/htree.go — entry module of the proofs about Model/HTreeImpl.lean: non-vacuity (the
  hypotheses of the theorems hold on a concrete tree with stale flags) and sanity evaluations of the model against the
  specification.
-/
import GoBeans.Lemmas.HTreeImplAbs
namespace HTreeImplLemmas
open Tree TreeLemmas HTreeImpl

/-- a history on bucket 1 of 16 (depth 1), height 3: set k1; list node "12" (flags level-1 node 2) and node "15" (flags
    level-1 node 5); set k2 below node "12" (stale again); a remove whose position test fails (invalidates only); a GC
    repointing; set and remove k3 -/
def demoOps : List Op :=
  [.set k1, .list 1 [1, 2], .list 1 [1, 5], .set k2, .remove k1.khash false, .movePos k2.khash true, .set k3,
   .remove k3.khash true]

theorem t0_new : newHTree 1 1 3 = some t0 := rfl

theorem demo_ok : ∀ op ∈ demoOps, OpOk' t0 op := by
  intro op h
  simp only [demoOps, List.mem_cons, List.mem_nil_iff, or_false] at h
  rcases h with rfl | rfl | rfl | rfl | rfl | rfl | rfl | rfl
  · show topDigits k1.khash 1 = 1; decide
  · exact ⟨by decide, by decide, by decide⟩
  · exact ⟨by decide, by decide, by decide⟩
  · show topDigits k2.khash 1 = 1; decide
  · show topDigits k1.khash 1 = 1; decide
  · trivial
  · show topDigits k3.khash 1 = 1; decide
  · show topDigits k3.khash 1 = 1; decide

def demoT : HTree := ((run t0 demoOps).map (·.1)).getD t0

/-- that the run succeeds is `run_total`, not an evaluation -/
theorem demo_run : (∃ outs, run t0 demoOps = some (demoT, outs)) ∧ Reach t0 demoT := by
  obtain ⟨t, outs, h1, _, _, h4⟩ := run_total t0 demoOps (newHTree_inv 1 1 3 t0 t0_new (by decide)).1
    (fun o h => opOk'_ok t0 o (demo_ok o h))
  have : demoT = t := by unfold demoT; rw [h1]; rfl
  rw [this]
  exact ⟨⟨outs, h1⟩, h4⟩

/-- non-vacuity of `C08_lazy_never_stale` / `C08_every_node` / `C08_history_to_summary`: their hypotheses hold of
    `demoT`, a tree with stale flags (`demo_obs`) -/
theorem demo_reach : Reach t0 demoT := demo_run.2

/-- the root was never refreshed; the level-1 node above k1/k2 is STALE (flag false, stored count 1 although 2 keys are
    live below it) -/
theorem demo_obs : content demoT = [k1, k2] ∧ rootCountNoUpdate demoT = 0 ∧
    (demoT.node 0 0).upd = false ∧ (demoT.node 1 2).upd = false ∧ (demoT.node 1 2).count = 1 ∧
    (demoT.node 1 5).upd = true := by decide +kernel

theorem demo_dict : absRun [] demoOps = [k2, k1] := by decide +kernel

example : (demoT.node 0 0).upd = false ∧ (demoT.node 1 2).upd = false ∧ (demoT.node 1 2).count = 1 ∧
    (demoT.node 1 5).upd = true := demo_obs.2.2
example : content demoT = [k1, k2] := demo_obs.1
example : rootCountNoUpdate demoT = 0 ∧ liveCount (content demoT) = 2 := by
  rw [demo_obs.1]; exact ⟨demo_obs.2.1, by decide⟩

/-- the theorem applied: on the stale tree `Update` returns the specification of [k1, k2] -/
example : ((update demoT).2.count, (update demoT).2.hash) = nodeSum [k1, k2] 1 1 2 := by
  have h := (C08_every_node 1 1 3 t0 demoT t0_new (by decide) demo_reach 0 0 (by decide) (by decide)).1
  rw [demo_obs.1] at h
  -- `demoT` is made a variable so that the unifier does not start to evaluate the run
  generalize demoT = T at h ⊢
  exact h

/-- and of the dictionary the history builds -/
example : absRun [] demoOps = [k2, k1] := demo_dict
example : ((update demoT).2.count, (update demoT).2.hash) = nodeSum [k2, k1] 1 1 2 := by
  obtain ⟨outs, hr⟩ := demo_run.1
  have h := C08_history_to_summary 1 1 3 t0 demoT demoOps outs t0_new (by decide) demo_ok hr 0 0 (by decide) (by decide)
  rw [demo_dict] at h
  generalize demoT = T at h ⊢
  exact h

/-! sanity evaluations: model against specification on concrete inputs (height 2 keeps the evaluation of `updateNodes`
    by the kernel cheap) -/

def t2h : HTree := (newHTree 1 1 2).getD ⟨0, 0, [], []⟩

example : (run t2h [.set k1, .set k2, .update]).map (·.2)
    = some [.done, .done, .node (nodeSum [k1, k2] 1 1 1).1 (nodeSum [k1, k2] 1 1 1).2] := by decide +kernel
example : (run t2h [.set k1, .set k2, .set k3, .list 1 [1]]).map (fun r => r.2.getLast?)
    = some (some (.listing (listBucket [k1, k2, k3] 1 2 1 [1]))) := by decide +kernel
example : (run t2h [.set k1, .set k2, .set k3, .list 1 [1], .remove k2.khash true, .list 1 [1]]).map (fun r => r.2.getLast?)
    = some (some (.listing (listBucket [k1, k3] 1 2 1 [1]))) := by decide +kernel
example : (run t0 [.set k1, .set k2, .set k3, .list 1 [1, 2]]).map (fun r => r.2.getLast?)
    = some (some (.listing (listBucket [k1, k2, k3] 1 3 1 [1, 2]))) := by decide +kernel
example : (run t0 [.set k1, .set k2, .list 256 [1, 2, 3, 4]]).map (fun r => r.2.getLast?)
    = some (some (.listing (.items [k1]))) := by decide +kernel
example : (run t0 [.list 1 []]).map (·.2) = some [.err] := by decide +kernel
-- `stats curr_items` after two sets on a fresh tree: 0, until somebody lists the bucket root
example : (run t2h [.set k1, .set k2]).map (fun r => rootCountNoUpdate r.1) = some 0 := by decide +kernel
example : (run t0 [.set k1, .set k2, .list 256 [1, 2]]).map (fun r => rootCountNoUpdate r.1) = some 0 := by decide +kernel
example : (run t2h [.set k1, .set k2, .list 256 [1]]).map (fun r => rootCountNoUpdate r.1) = some 2 := by decide +kernel
example : (run t2h [.set k1, .set k2, .list 256 [1], .remove k1.khash true]).map (fun r => rootCountNoUpdate r.1) = some 2 := by
  decide +kernel
-- restart: `load` of the dumped leaves leaves every inner node stale; `curr_items` is 0 until `ListTop` (depth 1) ran
example : ((run t2h [.set k1, .set k2]).bind (fun r => load t2h r.1.leaves)).map
    (fun t => (rootCountNoUpdate t, rootCountNoUpdate (listTop t), liveCount (content t))) = some (0, 2, 2) := by decide +kernel
-- a short dump file is a read error
example : (load t2h []).isNone = true := by decide +kernel
-- 256 buckets, bucket 5: `ListTop` formats the path as "5" (one digit), `ListDir` says "too short": nothing happens
example : (newHTree 2 5 2).map (fun t => decide (listTop t = t)) = some true := by decide +kernel
-- height 1: the first `set` panics (index -1 in getLeafAndInvalidNodes)
example : ((newHTree 0 0 1).bind (fun t => run t [.set k1])).isNone = true := by decide +kernel

end HTreeImplLemmas
