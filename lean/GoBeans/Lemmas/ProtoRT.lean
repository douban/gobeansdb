/-
  Request round trip (C11): parsing what `writeReq` wrote gives the request back, consumes exactly its bytes and does not
  look at what follows.
-/
import GoBeans.Lemmas.ProtoTok

namespace Proto

theorem noreply_tok : Tok noreplyTok := tok_of_tokb (by decide)

theorem readReq_line (cfg : Cfg) (led : Ledger) (cmd : Bytes) (args : List Bytes) (rest : Bytes)
    (ht : ∀ t ∈ cmd :: args, Tok t) :
    readReq cfg led (joinSp (cmd :: args) ++ crlf ++ rest)
      = readCmd cfg led (joinSp (cmd :: args) ++ crlf ++ rest) (joinSp (cmd :: args) ++ crlf).length cmd args := by
  unfold readReq
  rw [readLine_toks _ _ ht]
  simp only []
  rw [endsCRLF_append, fields_line_toks _ ht]
  rfl

/-- the whole `ReadOut` (for `serveOnce_get`; `rt_req` keeps three of its fields) -/
theorem rt_get (cfg : Cfg) (led : Ledger) (gets : Bool) (ks : List Bytes) (rest : Bytes)
    (hks : ∀ k ∈ ks, Tok k) (hne : ks ≠ []) :
    let r : Req := { cmd := if gets then ascii "gets" else ascii "get", keys := ks }
    readReq cfg led (writeReq r ++ rest)
      = { n := (writeReq r).length, res := .ok, req := r, working := true, led := led.tokGet, item := none, kind := .get } := by
  generalize hcd : (if gets then ascii "gets" else ascii "get") = c
  have hc : (c == ascii "get" || c == ascii "gets") = true ∧ isStoreCmd c = false
      ∧ (c == ascii "incr" || c == ascii "decr") = false ∧ tokb c = true := by
    subst hcd; cases gets <;> decide
  intro r
  have hw : writeReq r = joinSp (c :: ks) ++ crlf := by simp [writeReq, r, hc]
  rw [hw, readReq_line cfg led c ks rest (List.forall_mem_cons.mpr ⟨tok_of_tokb hc.2.2.2, hks⟩)]
  unfold readCmd
  have hne' : ks.isEmpty = false := by cases ks <;> simp_all
  simp [hc, hne', r]

def storeArgs (c k : Bytes) (flag exptime cas : Int) (len : Nat) (nr : Bool) : List Bytes :=
  [k, itoa flag, itoa exptime, itoa len] ++ (if c == ascii "cas" then [itoa cas] else []) ++ (if nr then [noreplyTok] else [])

theorem readStore_ok (cfg : Cfg) (led : Ledger) (line c k : Bytes) (flag exptime cas : Int) (body rest : Bytes) (nr : Bool)
    (hf : I64 flag) (he : I64 exptime) (hcas : I64 cas) (hlen : body.length ≤ cfg.bodyMax) (hlen2 : body.length < 4294967296) :
    readStore cfg led (line ++ (body ++ crlf ++ rest)) line.length c (storeArgs c k flag exptime cas body.length nr)
        ((storeArgs c k flag exptime cas body.length nr).length + 1)
      = { n := line.length + body.length + 2, res := .ok,
          req := { cmd := c, keys := [k], flag := flag, exptime := exptime, cas := if c == ascii "cas" then cas else 0,
                   body := body, noreply := nr },
          working := true,
          led := ((led.tokGet).alloc cfg body.length).1.setAdd ((led.tokGet).alloc cfg body.length).2.cap,
          item := some ((led.tokGet).alloc cfg body.length).2,
          kind := if c == ascii "append" || c == ascii "prepend" then .append else .store } := by
  have hinp : (line ++ (body ++ crlf ++ rest)).drop line.length = body ++ crlf ++ rest := List.drop_left
  -- `simp` is to meet the input only through the facts about `inp.drop n` below
  generalize line ++ (body ++ crlf ++ rest) = inp at hinp ⊢
  generalize line.length = n at hinp ⊢
  have a1 := atoi_itoa flag hf
  have a2 := atoi_itoa exptime he
  have a3 : atoi (itoa (body.length : Int)) = some (body.length : Int) := atoi_itoa _ (by constructor <;> omega)
  have a4 := atoi_itoa cas hcas
  have hok : lengthOK cfg (body.length : Int) = true := by
    simp only [lengthOK, Bool.and_eq_true, decide_eq_true_eq]
    refine ⟨⟨by omega, by exact_mod_cast hlen⟩, by omega⟩
  have hrest : (inp.drop n).length = body.length + 2 + rest.length := by rw [hinp]; simp [crlf]; omega
  have htake : (inp.drop n).take body.length = body := by rw [hinp]; simp
  have hterm : ((inp.drop n).drop body.length).take 2 = crlf := by rw [hinp]; simp [crlf]
  have hterm' : List.take 2 (List.drop (n + body.length) inp) = crlf := by
    rw [← List.drop_drop]; exact hterm
  have hnl : ¬ (body.length + 2 + rest.length < body.length + 2) := by omega
  unfold readStore storeArgs
  cases hc : (c == ascii "cas") <;> cases nr <;>
    simp [a1, a2, a3, a4, hok, hrest, htake, hterm', hnl, Int.toNat_natCast]

theorem storeArgs_tok (c k : Bytes) (flag exptime cas : Int) (len : Nat) (nr : Bool) (hk : Tok k) :
    ∀ t ∈ storeArgs c k flag exptime cas len nr, Tok t := by
  unfold storeArgs
  cases (c == ascii "cas") <;> cases nr <;> simp [hk, itoa_tok, noreply_tok]

def _root_.storeVerbs : List Bytes := [ascii "set", ascii "add", ascii "replace", ascii "cas", ascii "append", ascii "prepend"]

/-- the requests of the round trip, verb by verb (`Request.Write` also writes `quit`, `version`, `stats`, `flush_all`:
    for those no round trip is stated); a field the verb does not send is at its default (`cas` is sent by the verb
    cas only) -/
inductive WFReq (cfg : Cfg) : Req → Prop
  | get (gets : Bool) (ks : List Bytes) (hks : ∀ k ∈ ks, Tok k) (hne : ks ≠ []) :
      WFReq cfg { cmd := if gets then ascii "gets" else ascii "get", keys := ks }
  | delete (k : Bytes) (nr : Bool) (hk : Tok k) : WFReq cfg { cmd := ascii "delete", keys := [k], noreply := nr }
  | incr (decr : Bool) (k num : Bytes) (nr : Bool) (hk : Tok k) (hn : Tok num) :
      WFReq cfg { cmd := if decr then ascii "decr" else ascii "incr", keys := [k], body := num, noreply := nr }
  | store (c k : Bytes) (flag exptime cas : Int) (body : Bytes) (nr : Bool) (hc : c ∈ storeVerbs) (hk : Tok k)
      (hf : I64 flag) (he : I64 exptime) (hcas : I64 cas) (hlen : body.length ≤ cfg.bodyMax) (hlen2 : body.length < 4294967296) :
      WFReq cfg { cmd := c, keys := [k], flag := flag, exptime := exptime, cas := if c == ascii "cas" then cas else 0,
                  body := body, noreply := nr }

theorem rt_req (cfg : Cfg) (led : Ledger) (r : Req) (rest : Bytes) (h : WFReq cfg r) :
    (readReq cfg led (writeReq r ++ rest)).res = .ok ∧ (readReq cfg led (writeReq r ++ rest)).req = r
      ∧ (readReq cfg led (writeReq r ++ rest)).n = (writeReq r).length := by
  cases h with
  | get gets ks hks hne => exact rt_get cfg led gets ks rest hks hne ▸ ⟨rfl, rfl, rfl⟩
  | delete k nr hk =>
    have h : (ascii "delete" == ascii "get" || ascii "delete" == ascii "gets") = false ∧ isStoreCmd (ascii "delete") = false
        ∧ (ascii "delete" == ascii "incr" || ascii "delete" == ascii "decr") = false ∧ tokb (ascii "delete") = true := by decide
    have hw : writeReq { cmd := ascii "delete", keys := [k], noreply := nr }
        = joinSp (ascii "delete" :: k :: if nr then [noreplyTok] else []) ++ crlf := by
      cases nr <;> simp [writeReq, h, joinSp]
    rw [hw, readReq_line _ _ _ _ _ (by cases nr <;> simp [tok_of_tokb h.2.2.2, hk, noreply_tok])]
    unfold readCmd
    cases nr <;> simp [h]
  | incr decr k num nr hk hn =>
    generalize hcd : (if decr then ascii "decr" else ascii "incr") = c
    have h : (c == ascii "incr" || c == ascii "decr") = true ∧ (c == ascii "get" || c == ascii "gets") = false
        ∧ isStoreCmd c = false ∧ (c == ascii "delete") = false ∧ tokb c = true := by
      subst hcd; cases decr <;> decide
    have hw : writeReq { cmd := c, keys := [k], body := num, noreply := nr }
        = joinSp (c :: k :: num :: if nr then [noreplyTok] else []) ++ crlf := by
      cases nr <;> simp [writeReq, h, joinSp]
    rw [hw, readReq_line _ _ _ _ _ (by cases nr <;> simp [tok_of_tokb h.2.2.2.2, hk, hn, noreply_tok])]
    unfold readCmd
    cases nr <;> simp [h]
  | store c k flag exptime cas body nr hc hk hf he hcas hlen hlen2 =>
    have facts : ∀ c ∈ storeVerbs,
        isStoreCmd c = true ∧ (c == ascii "get" || c == ascii "gets") = false ∧ tokb c = true := by decide +kernel
    obtain ⟨hs, hg, hct⟩ := facts c hc
    have hw : writeReq { cmd := c, keys := [k], flag := flag, exptime := exptime, cas := if c == ascii "cas" then cas else 0,
                         body := body, noreply := nr }
        = joinSp (c :: storeArgs c k flag exptime cas body.length nr) ++ crlf ++ (body ++ crlf) := by
      unfold writeReq storeArgs
      cases c == ascii "cas" <;> cases nr <;> simp [hs, joinSp, List.append_assoc]
    rw [hw, List.append_assoc _ (body ++ crlf) rest, readReq_line cfg led c _ _
      (List.forall_mem_cons.mpr ⟨tok_of_tokb hct, storeArgs_tok c k flag exptime cas body.length nr hk⟩)]
    unfold readCmd
    simp only [hg, hs, if_true, if_false, Bool.false_eq_true]
    rw [readStore_ok cfg led _ c k flag exptime cas body rest nr hf he hcas hlen hlen2]
    exact ⟨rfl, rfl, by simp [crlf]; omega⟩

end Proto
