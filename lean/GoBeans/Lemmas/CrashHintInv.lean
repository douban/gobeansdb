/-
  Crash recovery through the hint files, up to the kill.  ONE data file and its split files: a kill leaves of a
  data file a prefix `durOf recs n` of its records (`n` bytes on disk) and ANY subset of the split files of its hint
  chunk — `DiskOK hash recs files`: the files describe a cut of ALL records `recs` appended so far, also those that never
  reached the data file.
-/
import GoBeans.Lemmas.HintIndex
import GoBeans.Model.CrashHint
namespace CrashHintLemmas
open Store Spec StoreLemmas HintIndex HintBufferLemmas HintLoadLemmas HintIndexLemmas CrashHint

theorem loadPrefixG_true (ds : Nat) : ∀ (l : List SplitFile) (d : Nat), loadPrefixG true ds l d = loadPrefix ds l d := by
  intro l
  induction l with
  | nil => intro d; rfl
  | cons f rest ih =>
    intro d
    simp only [loadPrefixG, loadPrefix, Bool.true_and, decide_eq_true_eq]
    rw [ih]

theorem checkHintG_true (hash : Key → Nat) (cap : Nat) (recs : FileRecs) (ds : Nat) (disk : List (Option SplitFile)) :
    checkHintG hash cap true recs ds disk = checkHintWithData hash cap recs ds disk := by
  unfold checkHintG checkHintWithData
  rw [loadPrefixG_true]

def durOf (recs : FileRecs) (n : Nat) : FileRecs := recs.filter (fun p => decide (p.1 + p.2.size ≤ n))

def tornOf (recs : FileRecs) (n : Nat) : Bool := n ≠ 0 && !(recs.any (fun p => p.1 + p.2.size == n))

theorem crash_recs (c : CrashHint.Chunk) : c.crash.recs = durOf c.recs c.onDisk := rfl
theorem crash_torn (c : CrashHint.Chunk) : c.crash.torn = tornOf c.recs c.onDisk := rfl
theorem crash_size (c : CrashHint.Chunk) : c.crash.size = c.onDisk := rfl
theorem crash_hints (c : CrashHint.Chunk) : c.crash.hints = c.files := rfl

theorem durOf_eq (recs : FileRecs) (n : Nat) : durOf recs n = recs.filter (fits n) := rfl

theorem mem_durOf {recs : FileRecs} {n : Nat} {p : Nat × Rec} : p ∈ durOf recs n ↔ p ∈ recs ∧ p.1 + p.2.size ≤ n := by
  simp [durOf]

theorem dur_zero {recs : FileRecs} (hc : Contig recs) : durOf recs 0 = [] :=
  filter_fits_zero hc

theorem dataSizeOf_nil : dataSizeOf [] = 0 := rfl

theorem size_of_not_torn {recs : FileRecs} (hc : Contig recs) {n : Nat} (ht : tornOf recs n = false) :
    n = dataSizeOf (durOf recs n) := by
  have hle : dataSizeOf (durOf recs n) ≤ n := by
    rcases dataSizeOf_cases (durOf recs n) with h | ⟨q, hq, h⟩
    · omega
    · have := (mem_durOf.mp hq).2
      omega
  unfold tornOf at ht
  by_cases h0 : n = 0
  · omega
  · simp only [ne_eq, h0, not_false_eq_true, decide_true, Bool.true_and, Bool.not_eq_false', List.any_eq_true] at ht
    obtain ⟨p, hp, he⟩ := ht
    have he' : p.1 + p.2.size = n := by simpa using he
    have := dataSizeOf_bound (durOf recs n) (contig_filter hc _) p (mem_durOf.mpr ⟨hp, Nat.le_of_eq he'⟩)
    omega

-- `hc` is not needed
set_option linter.unusedVariables false in
theorem torn_full {recs : FileRecs} (hc : Contig recs) : tornOf recs (dataSizeOf recs) = false := by
  unfold tornOf
  rcases dataSizeOf_cases recs with h | ⟨q, hq, h⟩
  · simp [h]
  · have : recs.any (fun p => p.1 + p.2.size == dataSizeOf recs) = true :=
      List.any_eq_true.mpr ⟨q, hq, by simp [h]⟩
    simp [this]

theorem dataSizeOf_eq_zero {recs : FileRecs} (hc : Contig recs) (h : dataSizeOf recs = 0) : recs = [] := by
  cases recs with
  | nil => rfl
  | cons p l =>
    have h1 := dataSizeOf_bound (p :: l) hc p (by simp)
    have h2 := hc.2 p (by simp)
    omega

/-- `checkHintWithData` on what a kill left (`load_diskOK` with the `n` bytes on disk): the chunk ends up with split files
    of a cut of exactly the durable records, and they are `DiskOK` again: the next kill is covered by the same lemma -/
theorem chunk_recover (hash : Key → Nat) (cap : Nat) (hcap : 1 ≤ cap) (recs : FileRecs) (files : List (Option SplitFile))
    (n : Nat) (hc : Contig recs) (hd : DiskOK hash recs files) (ht : tornOf recs n = false) :
    FileHintsOf hash (durOf recs n) ((checkHintG hash cap true (durOf recs n) n files).map (·.items)) ∧
    DiskOK hash (durOf recs n) ((checkHintG hash cap true (durOf recs n) n files).map some) := by
  have hn := size_of_not_torn hc ht
  rw [durOf_eq] at hn ⊢
  rw [checkHintG_true]
  exact load_diskOK hash cap hcap hc hn hd

/-
  The invariant `Inv` of the transition system of Model/CrashHint.lean and its preservation by every action of one
  process life (write, flush, split closing, split dump, close steps); the start after a kill (`Bucket.open`) is
  Lemmas/CrashHintOpen.lean.
  `ChunkOK.nocreate` (a data file that was never created holds no byte): the start takes `newHead` from the files that
  exist, so a chunk beyond it must not have a durable record.  `Inv.maxd`: the chunk id of `maxDumpedHintID`, which
  `removeDump` copies to `TreeID`, is the id of a chunk that exists; `Inv.pend`: between the two halves of `dumpHtree`
  (`pending`) `TreeID` is such an id, the bucket is closing and every file is flushed — what makes the dump `writeDump`
  writes `DumpOK`.
-/

theorem updAt_eq_modify {α : Type} (f : α → α) : ∀ (l : List α) (i : Nat), updAt l i f = l.modify i f
  | [], _ => by simp [updAt]
  | _ :: _, 0 => by simp [updAt]
  | _ :: l, i + 1 => by simp [updAt, updAt_eq_modify f l i]

theorem length_updAt {α : Type} (f : α → α) (l : List α) (i : Nat) : (updAt l i f).length = l.length := by
  rw [updAt_eq_modify, List.length_modify]

-- core has nothing like the next one, `map_updAt` and `updAt_snoc` for `List.modify`
theorem mem_updAt {α : Type} {f : α → α} {x : α} : ∀ {l : List α} {i : Nat}, x ∈ updAt l i f →
    x ∈ l ∨ ∃ c, l[i]? = some c ∧ x = f c
  | [], _, h => by simp [updAt] at h
  | a :: l, 0, h => by
    rcases List.mem_cons.mp h with h | h
    · exact Or.inr ⟨a, rfl, h⟩
    · exact Or.inl (List.mem_cons_of_mem _ h)
  | a :: l, i + 1, h => by
    rcases List.mem_cons.mp h with h | h
    · exact Or.inl (by simp [h])
    · exact (mem_updAt h).imp (List.mem_cons_of_mem _) (by simp)

theorem map_updAt {α β : Type} (g : α → β) (f : α → α) (h : ∀ a, g (f a) = g a) :
    ∀ (l : List α) (i : Nat), (updAt l i f).map g = l.map g
  | [], _ => rfl
  | _ :: _, 0 => by simp [updAt, h]
  | _ :: l, i + 1 => by simp [updAt, map_updAt g f h l i]

theorem take_updAt {α : Type} (f : α → α) (l : List α) (i n : Nat) : (updAt l i f).take n = updAt (l.take n) i f := by
  rw [updAt_eq_modify, updAt_eq_modify, List.take_modify]

theorem updAt_snoc {α : Type} (f : α → α) (a : α) : ∀ (l : List α) (i : Nat),
    updAt (l ++ [a]) i f = (if i < l.length then updAt l i f else l) ++ [if i = l.length then f a else a]
  | [], 0 => rfl
  | [], i + 1 => by simp [updAt]
  | _ :: _, 0 => by simp [updAt]
  | _ :: l, i + 1 => by simp [updAt, updAt_snoc f a l i]; split <;> rfl

theorem modChunk_eq (s : St) (i : Nat) (f : CrashHint.Chunk → CrashHint.Chunk) :
    s.modChunk i f = { s with prev := if i < s.prev.length then updAt s.prev i f else s.prev,
                              head := if i = s.prev.length then f s.head else s.head } := by
  unfold St.modChunk
  split
  · next h => simp [Nat.ne_of_lt h]
  · split <;> simp [*]

theorem all_modChunk (s : St) (i : Nat) (f : CrashHint.Chunk → CrashHint.Chunk) :
    (s.modChunk i f).all = updAt s.all i f := by
  rw [modChunk_eq, St.all, St.all, updAt_snoc]

theorem prev_length_modChunk (s : St) (i : Nat) (f : CrashHint.Chunk → CrashHint.Chunk) :
    (s.modChunk i f).prev.length = s.prev.length := by
  rw [modChunk_eq]
  show (if i < s.prev.length then updAt s.prev i f else s.prev).length = _
  split
  · exact length_updAt f _ _
  · rfl

def memLog (s : St) : List (Pos × Rec) := logOf (s.all.map (·.recs))

theorem lastOf_append (k : Key) (a b : List (Pos × Rec)) : lastOf k (a ++ b) = (lastOf k b).or (lastOf k a) :=
  StoreLemmas.lastOf_append k a b

theorem live_memItem (pos : Pos) (r : Rec) : live (some (memItem pos r)) = itemOfLast (some (pos, r)) := by
  by_cases h : r.ver > 0 <;> simp [itemOfLast, live, memItem, h]

/-- `fs` holds, by split number, files of `d` — any subset of them, none beyond.  It may be shorter than `d` (a directory
    shows files only, and `setPad` lengthens it), which `Masked` does not allow: `chunk_diskOK` pads it (`sub_masked`),
    applies `written_diskOK` and trims again (`diskOK_trim`). -/
inductive Sub : List (Option SplitFile) → List (Option SplitFile) → Prop
  | nil {d} : Sub d []
  | keep {a d fs} : Sub d fs → Sub (a :: d) (a :: fs)
  | drop {a d fs} : Sub d fs → Sub (a :: d) (none :: fs)

theorem sub_append {d fs : List (Option SplitFile)} (h : Sub d fs) (x : List (Option SplitFile)) : Sub (d ++ x) fs := by
  induction h with
  | nil => exact Sub.nil
  | keep _ ih => exact Sub.keep ih
  | drop _ ih => exact Sub.drop ih

theorem sub_setPad {a : SplitFile} : ∀ {d fs : List (Option SplitFile)} (j : Nat), Sub d fs →
    d[j]? = some (some a) → Sub d (setPad fs j a)
  | _ :: _, [], 0, _, hj => by cases hj; exact Sub.keep Sub.nil
  | _ :: _, [], j + 1, _, hj => Sub.drop (sub_setPad j Sub.nil hj)
  | _ :: _, _ :: _, 0, h, hj => by cases hj; cases h <;> exact Sub.keep ‹_›
  | _ :: _, _ :: _, j + 1, .keep h, hj => Sub.keep (sub_setPad j h hj)
  | _ :: _, _ :: _, j + 1, .drop h, hj => Sub.drop (sub_setPad j h hj)
  | [], _, _, _, hj => by cases hj

theorem masked_none : ∀ d : List (Option SplitFile), Masked d (List.replicate d.length none) := by
  intro d
  induction d with
  | nil => exact Masked.nil
  | cons a d ih => exact Masked.drop ih

theorem sub_masked {d fs : List (Option SplitFile)} (h : Sub d fs) :
    Masked d (fs ++ List.replicate (d.length - fs.length) none) := by
  induction h with
  | nil => simpa using masked_none _
  | keep _ ih => simpa using Masked.keep ih
  | drop _ ih => simpa using Masked.drop ih

section Inv
variable (hash : Key → Nat) (K : Key → Prop) (cap : Nat)

/-- a chunk written in this process life: the hint chunk is what the chunk's own history of `setItem`s (one per record,
    `some p`) and split closings (`none`) makes of it, and a split file on disk is the dump of the closed split of
    that number -/
def Cur (c : CrashHint.Chunk) : Prop :=
  ∃ es : List (Option (Nat × Rec)), c.recs = es.filterMap id ∧ c.hint = HChunk.run cap (es.map (evOf hash false)) ∧
    Sub (c.hint.closed.map HintLoadLemmas.fileOfBuf) c.files

/-- a chunk of an earlier process life: no hint buffer holds items; the split files are whatever the last start left -/
def Old (c : CrashHint.Chunk) : Prop :=
  c.hint.closed = [] ∧ c.hint.last.items = [] ∧ DiskOK hash c.recs c.files

structure ChunkOK (c : CrashHint.Chunk) : Prop where
  contig : Contig c.recs
  keys : ∀ p ∈ c.recs, K p.2.key
  le : c.onDisk ≤ dataSizeOf c.recs
  nocreate : c.created = false → c.onDisk = 0
  hint : Old hash c ∨ Cur hash cap c

theorem cur_fresh : Cur hash cap {} := ⟨[], rfl, rfl, Sub.nil⟩

theorem chunkOK_fresh : ChunkOK hash K cap {} :=
  ⟨⟨List.Pairwise.nil, by intro p hp; simp at hp⟩, by intro p hp; simp at hp, Nat.le_refl _, fun _ => rfl,
    Or.inr (cur_fresh hash cap)⟩

theorem chunk_diskOK (hcap : 1 ≤ cap) {c : CrashHint.Chunk} (h : ChunkOK hash K cap c) : DiskOK hash c.recs c.files := by
  rcases h.hint with ho | ⟨es, hr, hh, hs⟩
  · exact ho.2.2
  · -- whatever subset of the closed splits has been dumped: a correct directory for ALL records appended so far
    have hm := sub_masked (sub_append hs [fileOfBuf c.hint.last])
    have hd : (HChunk.run cap (es.map (evOf hash false))).disk =
        c.hint.closed.map fileOfBuf ++ [fileOfBuf c.hint.last] := by
      rw [disk_eq, ← hh]; simp
    rw [← hd] at hm
    rw [hr]
    exact diskOK_trim hash _ (written_diskOK hash cap hcap es (hr ▸ h.contig) _ hm)

theorem run_snoc (evs : List Ev) (e : Ev) : HChunk.run cap (evs ++ [e]) = (HChunk.run cap evs).step cap e := by
  unfold HChunk.run
  rw [List.foldl_append]
  rfl

theorem cur_push {c : CrashHint.Chunk} (h : Cur hash cap c) (p : Nat × Rec) : Cur hash cap (c.push hash cap p) := by
  obtain ⟨es, hr, hh, hs⟩ := h
  refine ⟨es ++ [some p], by simp [Chunk.push, hr, List.filterMap_append], ?_, ?_⟩
  · rw [List.map_append, List.map_singleton, run_snoc, ← hh]
    rfl
  · show Sub ((c.hint.setItem cap (itemOfWrite hash p) p.2.size).closed.map _) c.files
    cases ha : (c.hint.last.set cap (itemOfWrite hash p) p.2.size).2 with
    | true => rw [setItem_accepted ha]; exact hs
    | false => rw [setItem_refused ha, List.map_append]; exact sub_append hs _

theorem cur_setFile {c : CrashHint.Chunk} (h : Cur hash cap c) (j : Nat) (b : Buf) (hb : c.hint.closed[j]? = some b)
    (hne : b.items.isEmpty = false) : Cur hash cap { c with files := setPad c.files j b.dump } := by
  obtain ⟨es, hr, hh, hs⟩ := h
  refine ⟨es, hr, hh, ?_⟩
  apply sub_setPad j hs
  simp only [List.getElem?_map, hb, Option.map_some]
  simp [fileOfBuf, hne]

theorem chunkOK_push {c : CrashHint.Chunk} (h : ChunkOK hash K cap c) (hcur : Cur hash cap c) (r : Rec)
    (hk : K r.key) (hs : 0 < r.size) :
    ChunkOK hash K cap (c.push hash cap (dataSizeOf c.recs, r)) := by
  refine ⟨contig_snoc h.contig (dataSizeOf_bound _ h.contig) hs, ?_, ?_, h.nocreate, Or.inr (cur_push hash cap hcur _)⟩
  · intro p hp
    rcases List.mem_append.mp hp with hp | hp
    · exact h.keys p hp
    · simp at hp; subst hp; exact hk
  · show c.onDisk ≤ dataSizeOf (c.recs ++ [(dataSizeOf c.recs, r)])
    rw [dataSizeOf_snoc]
    have := h.le
    simp only
    omega

def Flushed (c : CrashHint.Chunk) : Prop := c.onDisk = dataSizeOf c.recs

theorem allFlushed_iff (s : St) : allFlushed s = true ↔ ∀ c ∈ s.all, Flushed c := by
  unfold allFlushed Flushed
  rw [List.all_eq_true]
  simp

/-- the tree dump on disk: the data files split into `A` (completely on disk, they will not change any more, the dump
    knows their records and nothing else) and `B`; the dump's chunk id lies inside `A` -/
def DumpOK (s : St) (d : TreeDump) : Prop :=
  0 ≤ d.ts ∧ ∃ A B : List CrashHint.Chunk, s.all = A ++ B ∧ d.tc < A.length ∧ (B = [] → s.closing = true) ∧ (∀ c ∈ A, Flushed c) ∧
    ∀ k, K k → live (AMap.get d.tree (hash k)) = itemOfLast (lastOf k (logOf (A.map (·.recs))))

structure Inv (s : St) : Prop where
  chunks : ∀ c ∈ s.all, ChunkOK hash K cap c
  headCur : Cur hash cap s.head
  tree : ∀ k, K k → live (AMap.get s.tree (hash k)) = itemOfLast (lastOf k (memLog s))
  maxd : s.maxDumped.1 ≤ s.prev.length
  pend : s.pending = true → s.treeID.1 ≤ s.prev.length ∧ s.closing = true ∧ allFlushed s = true
  dump : ∀ d, s.dump = some d → DumpOK hash K s d

theorem dumpOK_take {s : St} {d : TreeDump} : DumpOK hash K s d ↔
    0 ≤ d.ts ∧ ∃ n, d.tc < n ∧ n ≤ s.all.length ∧ (s.all.length ≤ n → s.closing = true) ∧
      (∀ c ∈ s.all.take n, Flushed c) ∧ TreeOf hash K d.tree (logOf ((s.all.take n).map (·.recs))) := by
  constructor
  · rintro ⟨hts, A, B, hAB, htc, hB, hfl, htr⟩
    have ht : s.all.take A.length = A := by rw [hAB, List.take_left']; rfl
    refine ⟨hts, A.length, htc, by simp [hAB], fun h => hB ?_, by rwa [ht], by rwa [ht]⟩
    rw [hAB, List.length_append] at h
    exact List.length_eq_zero_iff.mp (by omega)
  · rintro ⟨hts, n, htc, hn, hcl, hfl, htr⟩
    exact ⟨hts, s.all.take n, s.all.drop n, (List.take_append_drop n _).symm, by rw [List.length_take]; omega,
      fun h => hcl (List.drop_eq_nil_iff.mp h), hfl, htr⟩

theorem inv_init : Inv hash K cap {} := by
  refine ⟨?_, cur_fresh hash cap, ?_, Nat.le_refl _, ?_, ?_⟩
  · intro c hc
    simp [St.all] at hc
    subst hc
    exact chunkOK_fresh hash K cap
  · intro k _
    simp [memLog, St.all, logOf, logFrom, fileLog, lastOf, itemOfLast, live]
  · intro h; simp at h
  · intro d h; simp at h

theorem tree_after_write (hInj : InjOn hash K) {t : Tree} {log : List (Pos × Rec)} (ht : TreeOf hash K t log) (pos : Pos) (r : Rec)
    (hk : K r.key) : TreeOf hash K (AMap.set t (hash r.key) (memItem pos r)) (log ++ [(pos, r)]) := by
  intro k hkk
  rw [lastOf_append_single]
  by_cases he : r.key = k
  · subst he
    simp only [if_true, AMap.get_set_self]
    exact live_memItem pos r
  · have hne : hash r.key ≠ hash k := fun e => he (hInj _ _ hk hkk e)
    simp only [he, if_false]
    rw [AMap.get_set_ne _ _ _ _ hne]
    exact ht k hkk

theorem not_pending {s : St} (inv : Inv hash K cap s) (hcl : s.closing = false) (hp : s.pending = true) : False := by
  have := (inv.pend hp).2.1
  rw [hcl] at this
  cases this

/-- a state that agrees with `s` on the files a dump of `s` knows carries that dump on; while clients write
    (`closing = false`) these are files below the head -/
theorem dump_carry {s s' : St} (inv : Inv hash K cap s) (hcl : s.closing = false) (hprev : ∃ l, s'.prev = s.prev ++ l)
    (hdump : s'.dump = s.dump) : ∀ d, s'.dump = some d → DumpOK hash K s' d := by
  intro d hd
  obtain ⟨l, hl⟩ := hprev
  obtain ⟨hts, n, htc, hn, hc, hfl, htr⟩ := (dumpOK_take hash K).mp (inv.dump d (hdump ▸ hd))
  have hlt : n ≤ s.prev.length := by
    simp only [St.all, List.length_append, List.length_singleton] at hn hc
    cases Nat.lt_or_ge n (s.prev.length + 1) with
    | inl h => omega
    | inr h => have := hc h; rw [hcl] at this; cases this
  have ht : s'.all.take n = s.all.take n := by
    rw [St.all, St.all, hl, List.append_assoc, List.take_append_of_le_length hlt, List.take_append_of_le_length hlt]
  have hlen : n < s'.all.length := by
    simp only [St.all, hl, List.length_append, List.length_singleton]; omega
  exact (dumpOK_take hash K).mpr
    ⟨hts, n, htc, Nat.le_of_lt hlen, fun h => absurd h (Nat.not_le_of_lt hlen), by rwa [ht], by rwa [ht]⟩

theorem inv_write_same (hInj : InjOn hash K) {s : St} (inv : Inv hash K cap s) (hcl : s.closing = false) (r : Rec)
    (hk : K r.key) (hs : 0 < r.size) :
    Inv hash K cap { s with head := s.head.push hash cap (dataSizeOf s.head.recs, r),
                            tree := AMap.set s.tree (hash r.key)
                              (memItem { chunk := s.prev.length, off := dataSizeOf s.head.recs } r) } := by
  have hhead : ChunkOK hash K cap s.head := inv.chunks s.head (by simp [St.all])
  refine ⟨?_, cur_push hash cap inv.headCur _, ?_, inv.maxd, ?_, dump_carry hash K cap inv hcl ⟨[], by simp⟩ rfl⟩
  · intro c hc
    simp only [St.all, List.mem_append, List.mem_singleton] at hc
    rcases hc with hc | hc
    · exact inv.chunks c (by simp [St.all, hc])
    · subst hc; exact chunkOK_push hash K cap hhead inv.headCur r hk hs
  · have hl : memLog { s with head := s.head.push hash cap (dataSizeOf s.head.recs, r) } =
        memLog s ++ [(({ chunk := s.prev.length, off := dataSizeOf s.head.recs } : Pos), r)] := by
      simp only [memLog, St.all, List.map_append, List.map_singleton, Chunk.push]
      rw [logOf_push, List.length_map]
    exact hl ▸ tree_after_write hash K hInj inv.tree _ r hk
  · exact fun hp => (not_pending hash K cap inv hcl hp).elim

/-- `AppendRecord` when the record does not fit -/
theorem inv_newHead {s : St} (inv : Inv hash K cap s) (hcl : s.closing = false) :
    Inv hash K cap { s with prev := s.prev ++ [s.head], head := {} } := by
  refine ⟨?_, cur_fresh hash cap, ?_, ?_, ?_, dump_carry hash K cap inv hcl ⟨[s.head], rfl⟩ rfl⟩
  · intro c hc
    rcases List.mem_append.mp hc with hc | hc
    · exact inv.chunks c hc
    · rw [List.mem_singleton.mp hc]; exact chunkOK_fresh hash K cap
  · have hl : memLog { s with prev := s.prev ++ [s.head], head := {} } = memLog s := by
      simp only [memLog, St.all, List.map_append, List.map_singleton]
      exact logOf_append_empties _ _ (by simp)
    exact hl ▸ inv.tree
  · have := inv.maxd
    simp only [List.length_append, List.length_singleton]
    omega
  · exact fun hp => (not_pending hash K cap inv hcl hp).elim

theorem inv_write (hInj : InjOn hash K) (cfg : Store.Cfg) {s : St} (inv : Inv hash K cap s) (r : Rec)
    (hk : K r.key) (hs : 0 < r.size) : Inv hash K cap (s.write hash cfg cap r) := by
  unfold St.write
  by_cases hcl : s.closing = true
  · rw [if_pos hcl]; exact inv
  · rw [if_neg hcl]
    have hcl : s.closing = false := by simpa using hcl
    simp only
    split
    · have h := inv_write_same hash K cap hInj (inv_newHead hash K cap inv hcl) hcl r hk hs
      simp only [List.length_append, List.length_singleton] at h
      exact h
    · exact inv_write_same hash K cap hInj inv hcl r hk hs

/-- the frame lemma for the actions on one chunk (flush, split closing, split dump) -/
theorem inv_modChunk {s : St} (inv : Inv hash K cap s) (i : Nat) (f : CrashHint.Chunk → CrashHint.Chunk)
    (hrec : ∀ c, (f c).recs = c.recs)
    (hok : ∀ c, s.all[i]? = some c → ChunkOK hash K cap c → ChunkOK hash K cap (f c))
    (hcur : ∀ c, s.all[i]? = some c → Cur hash cap c → Cur hash cap (f c))
    (hfl : ∀ c, Flushed c → Flushed (f c)) :
    Inv hash K cap (s.modChunk i f) := by
  have hall := all_modChunk s i f
  have hlen := prev_length_modChunk s i f
  have hmem : ∀ {P : CrashHint.Chunk → Prop} (l : List CrashHint.Chunk), (∀ c, P c → P (f c)) → (∀ c ∈ l, P c) →
      ∀ c ∈ updAt l i f, P c := by
    intro P l hP h c hc
    rcases mem_updAt hc with hc | ⟨c0, hc0, rfl⟩
    · exact h c hc
    · exact hP c0 (h c0 (List.mem_of_getElem? hc0))
  obtain ⟨htree, htid, hmax, hdump, hcl, hpend, hhead⟩ : (s.modChunk i f).tree = s.tree ∧
      (s.modChunk i f).treeID = s.treeID ∧ (s.modChunk i f).maxDumped = s.maxDumped ∧ (s.modChunk i f).dump = s.dump ∧
      (s.modChunk i f).closing = s.closing ∧ (s.modChunk i f).pending = s.pending ∧
      (s.modChunk i f).head = if i = s.prev.length then f s.head else s.head := by
    rw [modChunk_eq]; exact ⟨rfl, rfl, rfl, rfl, rfl, rfl, rfl⟩
  refine ⟨?_, ?_, ?_, by rw [hmax, hlen]; exact inv.maxd, ?_, ?_⟩
  · intro c hc
    rw [hall] at hc
    rcases mem_updAt hc with hc | ⟨c0, hc0, rfl⟩
    · exact inv.chunks c hc
    · exact hok c0 hc0 (inv.chunks c0 (List.mem_of_getElem? hc0))
  · rw [hhead]
    split
    · next h => exact hcur _ (by simp [St.all, h]) inv.headCur
    · exact inv.headCur
  · rw [memLog, hall, map_updAt _ f hrec, htree]; exact inv.tree
  · intro hp
    rw [hpend] at hp
    obtain ⟨h1, h2, h3⟩ := inv.pend hp
    rw [htid, hlen, hcl]
    refine ⟨h1, h2, ?_⟩
    rw [allFlushed_iff] at h3 ⊢
    rw [hall]
    exact hmem _ hfl h3
  · intro d hd
    rw [hdump] at hd
    obtain ⟨hts, n, htc, hn, hc, hfln, htr⟩ := (dumpOK_take hash K).mp (inv.dump d hd)
    refine (dumpOK_take hash K).mpr ⟨hts, n, htc, ?_, ?_, ?_, ?_⟩
    · rw [hall, length_updAt]; exact hn
    · rw [hall, length_updAt, hcl]; exact hc
    · rw [hall, take_updAt]; exact hmem _ hfl hfln
    · rw [hall, take_updAt, map_updAt _ f hrec]; exact htr

theorem chunkOK_flushTo (c : CrashHint.Chunk) (n : Nat) :
    (c.flushTo n).recs = c.recs ∧ (ChunkOK hash K cap c → ChunkOK hash K cap (c.flushTo n)) ∧
    (Cur hash cap c → Cur hash cap (c.flushTo n)) ∧ (Flushed c → Flushed (c.flushTo n)) := by
  unfold Chunk.flushTo
  split
  · next hg =>
    refine ⟨rfl, fun h => ⟨h.contig, h.keys, hg.2, fun e => (by cases e), h.hint⟩, id, fun h => ?_⟩
    unfold Flushed at *
    show n = dataSizeOf c.recs
    omega
  · exact ⟨rfl, id, id, id⟩

theorem inv_flushTo {s : St} (inv : Inv hash K cap s) (i n : Nat) :
    Inv hash K cap (s.modChunk i (fun c => c.flushTo n)) :=
  have h := fun c => chunkOK_flushTo hash K cap c n
  inv_modChunk hash K cap inv i _ (fun c => (h c).1) (fun c _ => (h c).2.1) (fun c _ => (h c).2.2.1) (fun c => (h c).2.2.2)

theorem chunkOK_rotate (c : CrashHint.Chunk) :
    c.rotateSplit.recs = c.recs ∧ (ChunkOK hash K cap c → ChunkOK hash K cap c.rotateSplit) ∧
    (Cur hash cap c → Cur hash cap c.rotateSplit) ∧ (Flushed c → Flushed c.rotateSplit) := by
  unfold Chunk.rotateSplit
  split
  · exact ⟨rfl, id, id, id⟩
  · next he =>
    have hcur : Cur hash cap c →
        Cur hash cap { c with hint := { closed := c.hint.closed ++ [c.hint.last], last := {} } } := by
      rintro ⟨es, hr, hh, hs⟩
      refine ⟨es ++ [none], by simp [hr, List.filterMap_append], ?_, ?_⟩
      · rw [List.map_append, List.map_singleton, run_snoc, ← hh]
        rfl
      · simp only [List.map_append]
        exact sub_append hs _
    -- a chunk of an earlier life holds no item: nothing is closed
    exact ⟨rfl, fun h => ⟨h.contig, h.keys, h.le, h.nocreate,
      h.hint.elim (fun hold => absurd (by simp [hold.2.1]) he) fun hc => Or.inr (hcur hc)⟩, hcur, id⟩

theorem inv_rotateSplit {s : St} (inv : Inv hash K cap s) (i : Nat) :
    Inv hash K cap (s.modChunk i Chunk.rotateSplit) :=
  have h := chunkOK_rotate hash K cap
  inv_modChunk hash K cap inv i _ (fun c => (h c).1) (fun c _ => (h c).2.1) (fun c _ => (h c).2.2.1) (fun c => (h c).2.2.2)

theorem inv_dumpSplit {s : St} (inv : Inv hash K cap s) (i j : Nat) : Inv hash K cap (s.dumpSplit i j) := by
  unfold St.dumpSplit
  split
  · exact inv
  · next c hc =>
    split
    · exact inv
    · next b hb =>
      split
      · exact inv
      · next hg =>
        have hne : b.items.isEmpty = false := by
          cases h : b.items.isEmpty
          · rfl
          · simp [h] at hg
        have hset : ∀ c', s.all[i]? = some c' → Cur hash cap c' →
            Cur hash cap { c' with files := setPad c'.files j b.dump } := fun c' hc' h => by
          rw [hc] at hc'
          cases hc'
          exact cur_setFile hash cap h j b hb hne
        have hok : ∀ c', s.all[i]? = some c' → ChunkOK hash K cap c' →
            ChunkOK hash K cap { c' with files := setPad c'.files j b.dump } := fun c' hc' h => by
          refine ⟨h.contig, h.keys, h.le, h.nocreate, h.hint.elim (fun hold => ?_) (fun hcur => Or.inr (hset c' hc' hcur))⟩
          rw [hc] at hc'
          cases hc'
          rw [hold.1] at hb
          cases hb
        have h := inv_modChunk hash K cap inv i (fun c => { c with files := setPad c.files j b.dump }) (fun _ => rfl)
          hok hset (fun _ h => h)
        refine ⟨h.chunks, h.headCur, h.tree, ?_, h.pend, h.dump⟩
        show (setIfLarger s.maxDumped i j).1 ≤ (s.modChunk i _).prev.length
        rw [prev_length_modChunk]
        unfold setIfLarger
        split
        · have := (List.getElem?_eq_some_iff.mp hc).1
          simp only [St.all, List.length_append, List.length_singleton] at this
          simp only
          omega
        · exact inv.maxd

theorem inv_beginClose {s : St} (inv : Inv hash K cap s) : Inv hash K cap { s with closing := true } := by
  refine ⟨inv.chunks, inv.headCur, inv.tree, inv.maxd, ?_, ?_⟩
  · intro hp
    obtain ⟨h1, _, h3⟩ := inv.pend hp
    exact ⟨h1, rfl, h3⟩
  · intro d hd
    obtain ⟨hts, A, B, hAB, htc, _, hfl, htr⟩ := inv.dump d hd
    exact ⟨hts, A, B, hAB, htc, fun _ => rfl, hfl, htr⟩

theorem inv_removeDump {s : St} (inv : Inv hash K cap s) : Inv hash K cap s.removeDump := by
  unfold St.removeDump
  by_cases hg : (s.closing && !s.pending && allFlushed s && isLarger s.treeID s.maxDumped.1 s.maxDumped.2) = true
  · simp only [hg, if_true]
    simp only [Bool.and_eq_true, Bool.not_eq_true'] at hg
    refine ⟨inv.chunks, inv.headCur, inv.tree, inv.maxd, ?_, ?_⟩
    · intro _
      exact ⟨inv.maxd, hg.1.1.1, hg.1.2⟩
    · intro d hd; simp at hd
  · simpa [hg] using inv

theorem inv_writeDump {s : St} (inv : Inv hash K cap s) : Inv hash K cap s.writeDump := by
  unfold St.writeDump
  by_cases hp : s.pending = true
  · simp only [hp, if_true]
    obtain ⟨h1, h2, h3⟩ := inv.pend hp
    refine ⟨inv.chunks, inv.headCur, inv.tree, inv.maxd, ?_, ?_⟩
    · intro h; simp at h
    · intro d hd
      by_cases hts : s.treeID.2 < 0
      · simp [hts] at hd
      · simp only [hts, if_false, Option.some.injEq] at hd
        subst hd
        refine ⟨by simp only; omega, s.all, [], by simp [St.all], ?_, fun _ => h2, (allFlushed_iff s).mp h3, inv.tree⟩
        simp only [St.all, List.length_append, List.length_singleton]
        omega
  · simpa [hp] using inv
end Inv
end CrashHintLemmas
