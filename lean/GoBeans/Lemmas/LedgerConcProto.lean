/-
  The tie of the micro-operation model to Model/Proto.lean.  One served command appends to the write buffer's list exactly
  the buffers the micro-operations of its outcome push, and moves the ledger by exactly their ownership
  (`serveOnce_moves`: `Proto.serveOnce_pushes` with the pushed buffers named).  Hence folding `microOps (outcomeOf ..)`
  gives what `serveOnce` does to both (`serveOnce_microOps`).
-/
import GoBeans.Lemmas.Proto
import GoBeans.Lemmas.LedgerConcOps
namespace LedgerConc
open Proto (Ledger Buf Cfg St Kind)

theorem apply_plain (l : Ledger) : applyOps (microOps .plain) l = l := rfl

/-- the inner match of `outcomeOf` (a command `readReq` accepted).  `grown`: `process` appended to the write buffer's
    list; it returns no flag for "written", so `outcomeOf` reads it off the length of that list.  A store the bucket
    refuses is `dropped`, not `refused {}`: the same sum, without the `SetData.AddSize(0)` the code performs before it
    decides (bucket.go:354-356) -/
def servedOutcome (kind : Kind) (item : Option Buf) (bufs : List Buf) (grown : Bool) : Outcome :=
  match kind with
  | .get => .get (bufs.map fun b => .hit { raw := b }) bufs
  | .store => if grown then .store (item.getD (heap 0)) (.written {} {}) else .store (item.getD (heap 0)) .dropped
  | .append => .store (item.getD (heap 0)) .append
  | .incr => if grown then .incr (.written .miss {}) else .incr .early
  | .decr => .incr .early
  | _ => .plain

theorem outcomeOf_served {cfg : Cfg} {st : St} {inp : Bytes} (h : (Proto.readReq cfg st.led inp).res = .ok) :
    outcomeOf cfg st inp =
      let ro := Proto.readReq cfg st.led inp
      let pr := Proto.process cfg { st with led := ro.led } ro.req ro.item ro.kind
      servedOutcome ro.kind ro.item pr.2.2.1 (decide (pr.1.pend.length > st.pend.length)) := by
  unfold outcomeOf; simp only [h]; rfl

theorem outcomeOf_refused {cfg : Cfg} {st : St} {inp : Bytes} (h : (Proto.readReq cfg st.led inp).res ≠ .ok) :
    outcomeOf cfg st inp
      = if (Proto.readReq cfg st.led inp).working then .store (bufOf cfg (announcedLen inp)) .cut else .plain := by
  unfold outcomeOf; dsimp only; split
  · contradiction
  · rfl

theorem held_of_hits (bufs : List Buf) : (bufs.map (fun b => KeyRead.hit { raw := b })).flatMap keyHeld = bufs := by
  induction bufs with
  | nil => rfl
  | cons b bs ih => simp [List.flatMap_cons, keyHeld, RdBuf.fin, ih]

theorem servedOutcome_ok (kind : Kind) (item : Option Buf) (bufs : List Buf) (grown : Bool) :
    (servedOutcome kind item bufs grown).clean = true ∧ RelOK (servedOutcome kind item bufs grown) := by
  cases kind
  case get => exact ⟨by simp [servedOutcome, Outcome.clean, KeyRead.clean], fun _ _ h => by cases h; rw [held_of_hits]⟩
  all_goals cases grown <;> exact ⟨rfl, nofun⟩

theorem outcomeOf_ok (cfg : Cfg) (st : Proto.St) (inp : Bytes) :
    (outcomeOf cfg st inp).clean = true ∧ RelOK (outcomeOf cfg st inp) := by
  by_cases h : (Proto.readReq cfg st.led inp).res = .ok
  · rw [outcomeOf_served h]; exact servedOutcome_ok ..
  · rw [outcomeOf_refused h]; split <;> exact ⟨rfl, nofun⟩

theorem outcomeOf_balanced (cfg : Cfg) (st : Proto.St) (inp : Bytes) : Balanced (microOps (outcomeOf cfg st inp)) :=
  microOps_balanced _ (outcomeOf_ok cfg st inp)

/-- `p0`, `p1`: the write buffer's list before and after `process`; `bs`: what `Proto.serveOnce_pushes` says was appended -/
theorem pushes_served (kind : Kind) (item : Option Buf) (bufs p0 p1 bs : List Buf) :
    (bs = [] ∨ bs = Proto.mayPush item kind) → p1 = p0 ++ bs →
    pushes (microOps (servedOutcome kind item bufs (decide (p1.length > p0.length)))) = bs := by
  intro hbs hp
  cases kind <;> rcases hbs with rfl | rfl <;>
    simp [servedOutcome, hp, Proto.mayPush, microOps, Attempt.out, keyHeld, pushOf]

theorem serveOnce_moves (cfg : Cfg) (st : St) (inp : Bytes) :
    (Proto.serveOnce cfg st inp).st.pend = st.pend ++ pushes (microOps (outcomeOf cfg st inp))
    ∧ (Proto.serveOnce cfg st inp).st.led = st.led + ownSum (pushes (microOps (outcomeOf cfg st inp))) := by
  by_cases hok : (Proto.readReq cfg st.led inp).res = .ok
  · obtain ⟨bs, hbs, h1, h2⟩ := Proto.serveOnce_pushes hok
    -- `outcomeOf_served` looks at the list `process` leaves, which is the list `serveOnce` leaves
    have hp := h1
    rw [Proto.serveOnce_ok hok] at hp
    rw [outcomeOf_served hok, pushes_served _ _ _ _ _ bs hbs hp]
    exact ⟨h1, h2⟩
  · rw [Proto.serveOnce_refused cfg st inp hok]
    have : pushes (microOps (outcomeOf cfg st inp)) = [] := by
      rw [outcomeOf_refused hok]; split <;> simp [microOps]
    rw [this]; exact ⟨(List.append_nil _).symm, (vadd_nil _).symm⟩

theorem serveOnce_microOps (cfg : Cfg) (st : St) (inp : Bytes) :
    applyOps (microOps (outcomeOf cfg st inp)) st.led = (Proto.serveOnce cfg st inp).st.led
    ∧ st.pend ++ pushes (microOps (outcomeOf cfg st inp)) = (Proto.serveOnce cfg st inp).st.pend :=
  ⟨by rw [applyOps_eq, (outcomeOf_balanced cfg st inp).2, (serveOnce_moves cfg st inp).2], (serveOnce_moves cfg st inp).1.symm⟩

end LedgerConc
