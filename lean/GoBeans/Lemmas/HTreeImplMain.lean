/-
  Lazy Merkle tree (C08), main theorems about Model/HTreeImpl.lean (the inner levels of store/htree.go).
  `Inv` (height ≥ 2: at height 1 the first writer panics) holds for `newHTree` and is kept by every call whose
  arguments are admissible (`OpOk`), for every pattern of stale flags.  Under it every reader, after the lazy update it
  triggers itself, returns the SPECIFICATION (`Tree.nodeSum` / `Tree.listBucket`) of the current content: lazy
  invalidation never serves a stale summary (`step_exact`).  The one reader that does NOT update first
  (`HStore.NumKey`, `stats curr_items`) returns the number of live keys at the time of the last refresh of the root
  (`rootCount_run`).  Histories are `Reach t0 t` (some admissible sequence of calls leads to `t`) or
  `run t ops = some (t', outs)` (this sequence, with its outputs); a run gives a `Reach` (`run_post`), nothing leads
  back.  `ListTop` is a `list` step with fixed arguments (`listTop_of_step`); `load` (restart from a dump) is outside
  `Op`, `Reach` and `run`.
-/
import GoBeans.Lemmas.HTreeImplContent
namespace HTreeImplLemmas
open Tree TreeLemmas HTreeImpl

structure Inv (t : HTree) : Prop where
  shape : Shape t
  tree : TreeInv t
  leaves : LeavesInv t
  h2 : 2 ≤ t.height

/-- the tree `newHTree` returns -/
def fresh (depth bid height : Nat) : HTree :=
  ⟨depth, bid, (List.range (height - 1)).map (fun i => List.replicate (16 ^ i) {}), List.replicate (16 ^ (height - 1)) {}⟩

theorem newHTree_eq (depth bid height : Nat) (t : HTree) (h : newHTree depth bid height = some t) :
    t = fresh depth bid height ∧ depth + height ≤ 8 ∧ 1 ≤ height := by
  unfold newHTree at h
  split at h
  · cases h
  · split at h
    · cases h
    · rename_i h1 h0
      exact ⟨(Option.some.inj h).symm, by unfold Gen.MAX_DEPTH at h1; omega, by omega⟩

theorem fresh_height (depth bid height : Nat) (h : 1 ≤ height) : (fresh depth bid height).height = height := by
  simp [fresh, HTree.height]; omega

theorem fresh_row (depth bid height l : Nat) :
    (fresh depth bid height).inner.getD l [] = if l < height - 1 then List.replicate (16 ^ l) {} else [] := by
  simp only [fresh, List.getD_eq_getElem?_getD, List.getElem?_map]
  split
  · rename_i hl; rw [List.getElem?_range hl]; rfl
  · rename_i hl; rw [List.getElem?_eq_none (by simpa using hl)]; rfl

theorem fresh_innerNode (depth bid height l o : Nat) : (fresh depth bid height).innerNode l o = {} := by
  unfold HTree.innerNode
  rw [fresh_row]
  split
  · exact getD_replicate _ _ _
  · rfl

theorem fresh_leaf (depth bid height j : Nat) : (fresh depth bid height).leaf j = {} := getD_replicate _ _ _

theorem newHTree_inv (depth bid height : Nat) (t : HTree) (h : newHTree depth bid height = some t) (hh : 2 ≤ height) :
    Inv t ∧ t.depth = depth ∧ t.bucketID = bid ∧ t.height = height ∧ content t = [] := by
  obtain ⟨rfl, hb, h1⟩ := newHTree_eq depth bid height t h
  have hheight := fresh_height depth bid height h1
  refine ⟨⟨⟨?_, ?_, by rw [hheight]; exact hb⟩, treeInv_of_unflagged _ (fun l o => by rw [fresh_innerNode]), ⟨?_, ?_⟩,
    by rw [hheight]; exact hh⟩, rfl, rfl, hheight, ?_⟩
  · intro l hl
    rw [fresh_row, if_pos (by simpa [fresh] using hl), List.length_replicate]
  · simp [fresh]
  · intro j; rw [fresh_leaf]; exact leaf_init
  · intro j x hx; rw [fresh_leaf] at hx; exact absurd hx (by simp)
  · simp [content, fresh]

/-- the key belongs to this bucket (`KeyInfo.Prepare` routes by the first `depth` digits) -/
def KeyOk (t : HTree) (kh : Nat) : Prop := topDigits kh t.depth = t.bucketID

/-- follows from `KeyOk` (`keyOk_leaf`); `set_inv` asks for this form because `movePos` sets an item again of which
    only `LeavesInv.routed` is known -/
def LeafKeyOk (t : HTree) (kh : Nat) : Prop :=
  topDigits kh (t.depth + t.height - 1) = t.bucketID * 16 ^ (t.height - 1) + leafOffset t kh

theorem keyOk_leaf (t : HTree) (kh : Nat) (hs : Shape t) (h : KeyOk t kh) : LeafKeyOk t kh := by
  have hb := hs.bound
  show topDigits kh (t.depth + t.inner.length) = t.bucketID * 16 ^ t.inner.length + offsetAt kh t.depth t.inner.length
  rw [topDigits_offsetAt _ _ _ (by rw [height_eq] at hb; omega), h]

/-- the writers in normal form: ONE `setLeaf`, of a leaf made from the leaf of the ORIGINAL tree, on the tree
    `getLeafAndInvalidNodes` returns -/
theorem set_eq (t : HTree) (e : Ent) (hh : 2 ≤ t.height) : ∃ t1, GLRes t t1 (leafOffset t e.khash) ∧
    HTreeImpl.set t e = some (t1.setLeaf (leafOffset t e.khash) ((t.leaf (leafOffset t e.khash)).set e)) := by
  obtain ⟨t1, hg, g⟩ := getLeafAndInvalidNodes_spec t e.khash hh
  refine ⟨t1, g, ?_⟩
  unfold HTreeImpl.set
  rw [hg, ← leaf_congr g.leaves]

/-- also when the position test fails: the leaf is then written back as it is -/
theorem remove_eq (t : HTree) (kh : Nat) (p : Bool) (hh : 2 ≤ t.height) : ∃ t1, GLRes t t1 (leafOffset t kh) ∧
    remove t kh p = some (t1.setLeaf (leafOffset t kh)
      (if p then (t.leaf (leafOffset t kh)).remove kh else t.leaf (leafOffset t kh))) := by
  obtain ⟨t1, hg, g⟩ := getLeafAndInvalidNodes_spec t kh hh
  refine ⟨t1, g, ?_⟩
  unfold remove
  rw [hg, ← leaf_congr g.leaves]
  cases p with
  | true => rfl
  | false => exact congrArg some (setLeaf_self t1 _).symm

theorem rootCount_inner (t : HTree) (h : 2 ≤ t.height) : rootCountNoUpdate t = (t.innerNode 0 0).count := by
  unfold rootCountNoUpdate
  rw [node_inner t 0 0 (by omega)]

structure WriteRes (t t' : HTree) : Prop where
  inv : Inv t'
  params : SameParams t t'
  root : rootCountNoUpdate t' = rootCountNoUpdate t

theorem touch_inv (t t1 : HTree) (off : Nat) (lf : Leaf) (inv : Inv t) (g : GLRes t t1 off)
    (h1 : LeafInv lf)
    (h2 : ∀ x ∈ lf.items, topDigits x.khash (t.depth + t.height - 1) = t.bucketID * 16 ^ (t.height - 1) + off) :
    WriteRes t (t1.setLeaf off lf) := by
  have hp : SameParams t (t1.setLeaf off lf) := g.params
  have hh : 2 ≤ (t1.setLeaf off lf).height := by rw [hp.height]; exact inv.h2
  refine ⟨⟨shape_setLeaf _ _ _ (g.shape inv.shape), ?_, ?_, hh⟩, hp, ?_⟩
  · refine treeInv_touch t t1 (t1.setLeaf off lf) off inv.tree g rfl ?_
    intro j hj
    rw [leaf_setLeaf, if_neg (by intro h; exact hj h.1.symm)]
  · apply leavesInv_setLeaf t1 _ lf (leavesInv_congr g.leaves g.params inv.leaves) h1
    rw [g.depth, g.bid, g.height]; exact h2
  · rw [rootCount_inner _ hh, rootCount_inner t inv.h2, innerNode_setLeaf]
    by_cases hc : Cleared t.height off 0 0
    · rw [g.hit 0 0 hc]; rfl
    · rw [g.miss 0 0 hc]

theorem set_inv (t : HTree) (e : Ent) (inv : Inv t) (hk : LeafKeyOk t e.khash) :
    ∃ t', HTreeImpl.set t e = some t' ∧ WriteRes t t' := by
  obtain ⟨t1, g, h⟩ := set_eq t e inv.h2
  refine ⟨_, h, touch_inv t t1 _ _ inv g (leaf_set_inv _ _ (inv.leaves.leaf _)) ?_⟩
  intro x hx
  rcases List.mem_cons.mp ((set_items_perm _ e (inv.leaves.leaf _).nodup).mem_iff.mp hx) with rfl | hx
  · exact hk
  · exact inv.leaves.routed _ x (List.mem_filter.mp hx).1

theorem remove_inv (t : HTree) (kh : Nat) (p : Bool) (inv : Inv t) : ∃ t', remove t kh p = some t' ∧ WriteRes t t' := by
  obtain ⟨t1, g, h⟩ := remove_eq t kh p inv.h2
  refine ⟨_, h, touch_inv t t1 _ _ inv g ?_ ?_⟩
  · split
    · exact leaf_remove_inv _ _ (inv.leaves.leaf _)
    · exact inv.leaves.leaf _
  · intro x hx
    split at hx
    · rw [remove_items] at hx
      exact inv.leaves.routed _ x (List.mem_filter.mp hx).1
    · exact inv.leaves.routed _ x hx

theorem movePos_eq (t : HTree) (kh : Nat) (p : Bool) :
    movePos t kh p = some t ∨
      ∃ it, (t.leaf (leafOffset t it.khash)).find it.khash = some it ∧ movePos t kh p = HTreeImpl.set t it := by
  unfold movePos
  cases hf : get t kh with
  | none => exact .inl rfl
  | some it =>
    cases p with
    | false => exact .inl rfl
    | true =>
      obtain ⟨rfl, _⟩ := find_khash _ _ _ hf
      exact .inr ⟨it, hf, rfl⟩

theorem movePos_inv (t : HTree) (kh : Nat) (p : Bool) (inv : Inv t) : ∃ t', movePos t kh p = some t' ∧ WriteRes t t' := by
  rcases movePos_eq t kh p with h | ⟨it, hf, h⟩
  · exact ⟨t, h, inv, SameParams.refl t, rfl⟩
  · rw [h]
    exact set_inv t it inv (inv.leaves.routed _ it (find_khash _ _ _ hf).2)

theorem flagged_exact (t : HTree) (inv : Inv t) (l o : Nat) (ho : o < 16 ^ l) (hf : (t.node l o).upd = true) :
    ((t.node l o).count, (t.node l o).hash)
      = nodeSum (content t) (t.depth + l) (t.bucketID * 16 ^ l + o) (t.height - 1 - l) := by
  have hl := upd_lt_height hf
  rw [inv.tree.exact l o hf, nodeSum_eq_subSum t inv.shape inv.leaves (t.height - 1 - l) l o (by omega) ho]

structure ReadRes (t : HTree) (level offset : Nat) (r : HTree × Node) : Prop where
  inv : Inv r.1
  params : SameParams t r.1
  leaves : r.1.leaves = t.leaves
  exact : (r.2.count, r.2.hash)
    = nodeSum (content t) (t.depth + level) (t.bucketID * 16 ^ level + offset) (t.height - 1 - level)
  ret : r.2 = r.1.node level offset
  flagged : r.2.upd = true
  frame : Frame level t r.1

theorem updateAt_exact (t : HTree) (level offset : Nat) (inv : Inv t) (hl : level < t.height) (ho : offset < 16 ^ level) :
    ReadRes t level offset (updateAt t level offset) := by
  unfold updateAt
  have r := updateNodes_spec (t.height - 1 - level) t level offset inv.shape inv.tree (by omega) ho
  have hp := r.ext.params
  refine ⟨⟨r.shape, r.inv, leavesInv_congr r.ext.leaves hp inv.leaves, by rw [hp.height]; exact inv.h2⟩, hp, r.ext.leaves, ?_,
    r.ret, r.flagged, r.frame⟩
  rw [r.value, nodeSum_eq_subSum t inv.shape inv.leaves _ level offset (by omega) ho]

structure PathOk (t : HTree) (ds : List Nat) : Prop where
  len : ds.length ≤ 16
  digits : ∀ d ∈ ds, d < 16
  bucket : t.depth ≤ ds.length → digitsVal (ds.take t.depth) = t.bucketID

theorem listPos_eq (t : HTree) (ds : List Nat) :
    (if ds.length = t.depth then ((0 : Nat), (0 : Nat)) else getNodePos t ds) = getNodePos t ds := by
  by_cases h : ds.length = t.depth
  · rw [if_pos h]
    unfold getNodePos
    have h1 : min ds.length (t.depth + t.height - 1) = t.depth := by
      rw [h]; exact Nat.min_eq_left (Nat.le_add_right _ t.inner.length)
    simp only [h1, Nat.sub_self]
    have : (ds.take t.depth).drop t.depth = [] :=
      List.drop_eq_nil_iff.mpr (by rw [List.length_take]; exact Nat.min_le_left _ _)
    rw [this]; rfl
  · rw [if_neg h]

/-- the conjuncts: what `updateAt_exact` asks of level and offset, what `listBucket_at` asks of the level, the node's prefix -/
theorem getNodePos_spec (t : HTree) (ds : List Nat) (hp : PathOk t ds) (hd : t.depth ≤ ds.length) :
    ∃ level off, getNodePos t ds = (level, off) ∧ level < t.height ∧ off < 16 ^ level ∧
      t.depth + level = min ds.length (t.depth + t.height - 1) ∧
      digitsVal (ds.take (t.depth + level)) = t.bucketID * 16 ^ level + off := by
  unfold getNodePos
  have h1 := height_eq t
  generalize hl : min ds.length (t.depth + t.height - 1) = l
  have hlL : l ≤ ds.length := hl ▸ Nat.min_le_left _ _
  have hlh : l ≤ t.depth + t.height - 1 := hl ▸ Nat.min_le_right _ _
  have hdl : t.depth ≤ l := hl ▸ Nat.le_min.mpr ⟨hd, by omega⟩
  clear hl
  have hld : t.depth + (l - t.depth) = l := Nat.add_sub_cancel' hdl
  have hlen : ((ds.take l).drop t.depth).length = l - t.depth := by
    rw [List.length_drop, List.length_take, Nat.min_eq_left hlL]
  have hlt := digitsVal_lt ((ds.take l).drop t.depth)
    (fun d hd => hp.digits d (List.mem_of_mem_take (List.mem_of_mem_drop hd)))
  rw [hlen] at hlt
  refine ⟨_, _, rfl, by omega, hlt, hld, ?_⟩
  rw [hld]
  conv => lhs; rw [← List.take_append_drop t.depth (ds.take l)]
  rw [digitsVal_append, List.take_take, Nat.min_eq_left hdl, hp.bucket hd, hlen]
  rfl

theorem keepItem_eq (ds : List Nat) : keepItem ds = (fun e => topDigits e.khash ds.length == digitsVal ds) := by
  funext e
  unfold keepItem maskTop pathKeyHash topDigits
  have hpos : 0 < 16 ^ (16 - ds.length) := Nat.pow_pos (by decide)
  by_cases h : e.khash / 16 ^ (16 - ds.length) = digitsVal ds
  · simp [h]
  · have : ¬ (e.khash / 16 ^ (16 - ds.length) * 16 ^ (16 - ds.length) = digitsVal ds * 16 ^ (16 - ds.length)) :=
      fun h' => h (Nat.eq_of_mul_eq_mul_right hpos h')
    rw [beq_false_of_ne this, beq_false_of_ne h]

theorem root_spec_count (t : HTree) (inv : Inv t) :
    (nodeSum (content t) t.depth t.bucketID (t.height - 1)).1 = liveCount (content t) := by
  have hb := inv.shape.bound
  have h2 := inv.h2
  rw [node_count (content t) (t.height - 1) t.depth t.bucketID (by omega), under_root t inv.shape inv.leaves]

theorem ReadRes.child {t : HTree} {level offset : Nat} {r : HTree × Node} (h : ReadRes t level offset r)
    (hl : level + 1 < t.height) (ho : offset < 16 ^ level) (i : Nat) (hi : i < 16) :
    ((r.1.node (level + 1) (offset * 16 + i)).count, (r.1.node (level + 1) (offset * 16 + i)).hash)
      = nodeSum (content t) (t.depth + (level + 1)) (t.bucketID * 16 ^ (level + 1) + (offset * 16 + i))
          (t.height - 1 - (level + 1)) := by
  have hf := h.inv.tree.down level offset i hi (by rw [← h.ret]; exact h.flagged) (by rw [h.params.height]; exact hl)
  rw [flagged_exact _ h.inv _ _ (child_lt ho hi) hf, content_congr h.leaves, h.params.depth, h.params.bid, h.params.height]

theorem ReadRes.rootCount {t : HTree} {level offset : Nat} {r : HTree × Node} (h : ReadRes t level offset r) (inv : Inv t)
    (ho : offset < 16 ^ level) :
    rootCountNoUpdate r.1 = if level = 0 then liveCount (content t) else rootCountNoUpdate t := by
  unfold rootCountNoUpdate
  by_cases h0 : level = 0
  · subst h0
    obtain rfl : offset = 0 := by simpa using ho
    rw [if_pos rfl, ← h.ret, ← root_spec_count t inv]
    have := congrArg Prod.fst h.exact
    simpa using this
  · rw [if_neg h0, h.frame 0 0 (by omega)]

/-- what the callers of the tree guarantee -/
def OpOk (t : HTree) : Op → Prop
  | .set e => KeyOk t e.khash
  | .list _ ds => PathOk t ds
  | _ => True

def specOut (t : HTree) (c : Content) : Op → Out
  | .update => .node (nodeSum c t.depth t.bucketID (t.height - 1)).1 (nodeSum c t.depth t.bucketID (t.height - 1)).2
  | .list thr ds => if ds.length < t.depth then .err else .listing (listBucket c t.depth t.height thr ds)
  | _ => .done

def isReader : Op → Bool
  | .update => true
  | .list _ _ => true
  | _ => false

def refreshesRoot (t : HTree) : Op → Bool
  | .update => true
  | .list _ ds => ds.length == t.depth
  | _ => false

theorem opOk_params {t s : HTree} (h : SameParams t s) (op : Op) (ok : OpOk t op) : OpOk s op := by
  cases op with
  | set e => unfold OpOk KeyOk at *; rw [h.depth, h.bid]; exact ok
  | list thr ds =>
    unfold OpOk at *
    exact ⟨ok.len, ok.digits, by rw [h.depth, h.bid]; exact ok.bucket⟩
  | remove _ _ => trivial
  | movePos _ _ => trivial
  | update => trivial

theorem specOut_params {t s : HTree} (h : SameParams t s) (c : Content) (op : Op) : specOut s c op = specOut t c op := by
  cases op <;> simp [specOut, h.depth, h.bid, h.height]

/-- what a writer does to the content is `content_step` (Lemmas/HTreeImplAbs.lean) -/
structure StepRes (t : HTree) (op : Op) (t' : HTree) (out : Out) : Prop where
  inv : Inv t'
  params : SameParams t t'
  out_eq : out = specOut t (content t) op
  reader : isReader op = true → content t' = content t
  root : rootCountNoUpdate t' = if refreshesRoot t op then liveCount (content t') else rootCountNoUpdate t

theorem ReadRes.step {t : HTree} {level offset : Nat} {r : HTree × Node} (h : ReadRes t level offset r) (inv : Inv t)
    (ho : offset < 16 ^ level) {op : Op} {out : Out} (hout : out = specOut t (content t) op)
    (hroot : level = 0 ↔ refreshesRoot t op = true) : StepRes t op r.1 out :=
  ⟨h.inv, h.params, hout, fun _ => content_congr h.leaves,
    by rw [h.rootCount inv ho, content_congr h.leaves]; exact if_iff hroot _ _⟩

theorem listDir_exact (t : HTree) (thr : Nat) (ds : List Nat) (inv : Inv t) (hp : PathOk t ds) (hd : t.depth ≤ ds.length) :
    StepRes t (.list thr ds) (listDir t thr ds).1 (.listing (listDir t thr ds).2) := by
  have h2 := inv.h2
  obtain ⟨level, off, hpos, e2, e3, e5, e4⟩ := getNodePos_spec t ds hp hd
  have r := updateAt_exact t level off inv e2 e3
  suffices h : (listDir t thr ds).1 = (updateAt t level off).1 ∧
      (listDir t thr ds).2 = listBucket (content t) t.depth t.height thr ds by
    rw [h.1, h.2]
    exact r.step inv e3 (by rw [specOut, if_neg (Nat.not_lt.mpr hd)]) (by rw [refreshesRoot, beq_iff_eq]; omega)
  unfold listDir
  simp only [listPos_eq, keepItem_eq]
  simp only [hpos]
  rw [listBucket_at _ _ _ _ _ level e5, e4, ← r.exact]
  have hle : t.depth + level ≤ ds.length := e5 ▸ Nat.min_le_left _ _
  clear e5
  split
  · refine ⟨rfl, ?_⟩
    simp only []
    congr 1
    rw [collectItems_eq, sub_congr r.leaves, ← under_content t inv.shape inv.leaves _ level off (by omega) e3]
    -- an item with the whole path as prefix has the node's prefix
    refine under_refine _ (fun x _ hx => ?_)
    rw [← e4, ← topDigits_shift x.khash (t.depth + level) ds.length hle hp.len, hx, digitsVal_take ds _ hp.digits]
  · rename_i hc
    refine ⟨rfl, ?_⟩
    simp only []
    congr 1
    apply List.map_congr_left
    intro i hi
    rw [child_prefix, ← r.child (Nat.add_lt_of_lt_sub (Nat.lt_of_not_le (not_or.mp hc).1)) e3 i (List.mem_range.mp hi)]

theorem writer_step {t : HTree} {op : Op} {w : Option HTree} (h : ∃ t', w = some t' ∧ WriteRes t t')
    (hout : specOut t (content t) op = .done) (hr : isReader op = false) (hroot : refreshesRoot t op = false) :
    ∃ t' out, w.map (fun t' => (t', Out.done)) = some (t', out) ∧ StepRes t op t' out := by
  obtain ⟨t', h1, r⟩ := h
  exact ⟨t', .done, by rw [h1]; rfl, r.inv, r.params, hout.symm, fun h => absurd (hr.symm.trans h) Bool.false_ne_true,
    by rw [hroot]; exact r.root⟩

theorem step_exact (t : HTree) (op : Op) (inv : Inv t) (ok : OpOk t op) :
    ∃ t' out, step t op = some (t', out) ∧ StepRes t op t' out := by
  cases op with
  | set e => exact writer_step (set_inv t e inv (keyOk_leaf t e.khash inv.shape ok)) rfl rfl rfl
  | remove kh p => exact writer_step (remove_inv t kh p inv) rfl rfl rfl
  | movePos kh p => exact writer_step (movePos_inv t kh p inv) rfl rfl rfl
  | update =>
    have r := updateAt_exact t 0 0 inv (by have := inv.h2; omega) Nat.one_pos
    refine ⟨(update t).1, _, rfl, r.step inv Nat.one_pos ?_ (by simp [refreshesRoot])⟩
    have h := r.exact
    simp only [Nat.add_zero, Nat.pow_zero, Nat.mul_one, Nat.sub_zero] at h
    rw [specOut, ← h]; rfl
  | list thr ds =>
    by_cases hd : ds.length < t.depth
    · refine ⟨t, .err, by simp [step, ListDir, hd], inv, SameParams.refl t, by simp [specOut, hd], fun _ => rfl, ?_⟩
      rw [if_neg (by simp [refreshesRoot]; omega)]
    · exact ⟨_, _, by simp [step, ListDir, hd], listDir_exact t thr ds inv ok (by omega)⟩

theorem step_post (t t' : HTree) (op : Op) (out : Out) (inv : Inv t) (ok : OpOk t op) (hs : step t op = some (t', out)) :
    StepRes t op t' out := by
  obtain ⟨t'', out', h1, h⟩ := step_exact t op inv ok
  rw [hs] at h1
  obtain ⟨rfl, rfl⟩ := Prod.mk.inj (Option.some.inj h1)
  exact h

inductive Reach (t0 : HTree) : HTree → Prop
  | init : Reach t0 t0
  | step (t t' : HTree) (op : Op) (out : Out) : Reach t0 t → OpOk t op → step t op = some (t', out) → Reach t0 t'

theorem reach_inv (t0 t : HTree) (inv0 : Inv t0) (h : Reach t0 t) : Inv t ∧ SameParams t0 t := by
  induction h with
  | init => exact ⟨inv0, SameParams.refl t0⟩
  | step t t' op out _ ok hs ih =>
    have r := step_post t t' op out ih.1 ok hs
    exact ⟨r.inv, ih.2.trans r.params⟩

theorem reach_new_inv (depth bid height : Nat) (t0 t : HTree) (h0 : newHTree depth bid height = some t0) (hh : 2 ≤ height)
    (hr : Reach t0 t) : Inv t ∧ SameParams t0 t ∧ t.depth = depth ∧ t.bucketID = bid ∧ t.height = height := by
  obtain ⟨inv0, hd, hb, hhe, _⟩ := newHTree_inv depth bid height t0 h0 hh
  obtain ⟨inv, hp⟩ := reach_inv t0 t inv0 hr
  exact ⟨inv, hp, hp.depth.trans hd, hp.bid.trans hb, hp.height.trans hhe⟩

/-- Props/C08.lean states this theorem again under the same name and says what it claims.  Likewise `C08_every_node`
    (`C08_every_node_exact` there), which stands here for the example of Lemmas/HTreeImpl.lean that applies it. -/
theorem C08_lazy_never_stale (depth bid height : Nat) (t0 t : HTree) (h0 : newHTree depth bid height = some t0)
    (hh : 2 ≤ height) (hr : Reach t0 t) (op : Op) (ok : OpOk t op) :
    ∃ t' out, step t op = some (t', out) ∧ out = specOut t0 (content t) op ∧ Reach t0 t' ∧
      (isReader op = true → content t' = content t) := by
  obtain ⟨inv, hp, _⟩ := reach_new_inv depth bid height t0 t h0 hh hr
  obtain ⟨t', out, h1, r⟩ := step_exact t op inv ok
  exact ⟨t', out, h1, by rw [r.out_eq, specOut_params hp], Reach.step t t' op out hr ok h1, r.reader⟩

theorem C08_every_node (depth bid height : Nat) (t0 t : HTree) (h0 : newHTree depth bid height = some t0)
    (hh : 2 ≤ height) (hr : Reach t0 t) (level offset : Nat) (hl : level < height) (ho : offset < 16 ^ level) :
    ((updateAt t level offset).2.count, (updateAt t level offset).2.hash)
      = nodeSum (content t) (depth + level) (bid * 16 ^ level + offset) (height - 1 - level) ∧
    (updateAt t level offset).2 = (updateAt t level offset).1.node level offset ∧
    content (updateAt t level offset).1 = content t := by
  obtain ⟨inv, _, rfl, rfl, rfl⟩ := reach_new_inv depth bid height t0 t h0 hh hr
  have r := updateAt_exact t level offset inv hl ho
  exact ⟨r.exact, r.ret, content_congr r.leaves⟩

theorem Reach.trans {a b c : HTree} (h1 : Reach a b) (h2 : Reach b c) : Reach a c := by
  induction h2 with
  | init => exact h1
  | step x y o out _ ok hs ih => exact Reach.step x y o out ih ok hs

def OpsOk (t : HTree) (ops : List Op) : Prop := ∀ op ∈ ops, OpOk t op

theorem opsOk_tail {t s : HTree} {op : Op} {ops : List Op} (h : SameParams t s) (ok : OpsOk t (op :: ops)) : OpsOk s ops :=
  fun o ho => opOk_params h o (ok o (List.mem_cons_of_mem _ ho))

theorem run_nil_some {t t' : HTree} {outs : List Out} (h : run t [] = some (t', outs)) : t' = t ∧ outs = [] := by
  obtain ⟨rfl, rfl⟩ := Prod.mk.inj (Option.some.inj h)
  exact ⟨rfl, rfl⟩

theorem run_cons_some {t t' : HTree} {op : Op} {ops : List Op} {outs : List Out} (h : run t (op :: ops) = some (t', outs)) :
    ∃ t1 o os, step t op = some (t1, o) ∧ run t1 ops = some (t', os) ∧ outs = o :: os := by
  unfold run at h
  split at h
  · cases h
  · rename_i t1 o hs
    split at h
    · cases h
    · rename_i t2 os hr
      obtain ⟨rfl, rfl⟩ := Prod.mk.inj (Option.some.inj h)
      exact ⟨t1, o, os, hs, hr, rfl⟩

theorem run_append_some {t t1 t2 : HTree} {a b : List Op} {o1 o2 : List Out} (h1 : run t a = some (t1, o1))
    (h2 : run t1 b = some (t2, o2)) : run t (a ++ b) = some (t2, o1 ++ o2) := by
  induction a generalizing t o1 with
  | nil => obtain ⟨rfl, rfl⟩ := run_nil_some h1; exact h2
  | cons op a ih =>
    obtain ⟨t', o, os, hs, hr, rfl⟩ := run_cons_some h1
    simp only [List.cons_append, run, hs, ih hr]

/-- the cons case of an induction along a given run -/
theorem run_cons_inv {t t' : HTree} {op : Op} {ops : List Op} {outs : List Out} (inv : Inv t) (ok : OpsOk t (op :: ops))
    (h : run t (op :: ops) = some (t', outs)) :
    ∃ t1 o os, step t op = some (t1, o) ∧ StepRes t op t1 o ∧ OpsOk t1 ops ∧ run t1 ops = some (t', os) ∧ outs = o :: os := by
  obtain ⟨t1, o, os, h1, g1, ho⟩ := run_cons_some h
  have r := step_post t t1 op o inv (ok op List.mem_cons_self) h1
  exact ⟨t1, o, os, h1, r, opsOk_tail r.params ok, g1, ho⟩

theorem run_total (t : HTree) (ops : List Op) (inv : Inv t) (ok : OpsOk t ops) :
    ∃ t' outs, run t ops = some (t', outs) ∧ Inv t' ∧ SameParams t t' ∧ Reach t t' := by
  induction ops generalizing t with
  | nil => exact ⟨t, [], rfl, inv, SameParams.refl t, Reach.init⟩
  | cons op ops ih =>
    have ok1 := ok op List.mem_cons_self
    obtain ⟨t1, out, h1, r⟩ := step_exact t op inv ok1
    obtain ⟨t2, outs, g1, g2, g3, g4⟩ := ih t1 r.inv (opsOk_tail r.params ok)
    exact ⟨t2, out :: outs, by simp [run, h1, g1], g2, r.params.trans g3, (Reach.step t t1 op out Reach.init ok1 h1).trans g4⟩

theorem run_post (t t' : HTree) (ops : List Op) (outs : List Out) (inv : Inv t) (ok : OpsOk t ops)
    (hr : run t ops = some (t', outs)) : Inv t' ∧ SameParams t t' ∧ Reach t t' := by
  obtain ⟨t2, outs2, g1, h⟩ := run_total t ops inv ok
  obtain ⟨rfl, _⟩ := Prod.mk.inj (Option.some.inj (hr.symm.trans g1))
  exact h

/-- the value `NumKey` reports after a run, told from the contents along the run: the live-key count at the last
    refresh of the root, `seen` if there was none -/
def seenAfter : HTree → Nat → List Op → Nat
  | _, seen, [] => seen
  | t, seen, op :: ops =>
    match step t op with
    | none => seen
    | some (t1, _) => seenAfter t1 (if refreshesRoot t op then liveCount (content t1) else seen) ops

theorem rootCount_run (t t' : HTree) (ops : List Op) (outs : List Out) (inv : Inv t) (ok : OpsOk t ops)
    (hr : run t ops = some (t', outs)) : rootCountNoUpdate t' = seenAfter t (rootCountNoUpdate t) ops := by
  induction ops generalizing t outs with
  | nil => obtain ⟨rfl, _⟩ := run_nil_some hr; rfl
  | cons op ops ih =>
    obtain ⟨t1, o, os, h1, r, ok1, g1, _⟩ := run_cons_inv inv ok hr
    rw [ih t1 os r.inv ok1 g1, r.root]
    simp only [seenAfter, h1]

theorem rootCount_writers_only (t t' : HTree) (ops : List Op) (outs : List Out) (inv : Inv t) (ok : OpsOk t ops)
    (hw : ∀ op ∈ ops, isReader op = false) (hr : run t ops = some (t', outs)) :
    rootCountNoUpdate t' = rootCountNoUpdate t := by
  induction ops generalizing t outs with
  | nil => obtain ⟨rfl, _⟩ := run_nil_some hr; rfl
  | cons op ops ih =>
    obtain ⟨t1, o, os, _, r, ok1, g1, _⟩ := run_cons_inv inv ok hr
    have hroot : refreshesRoot t op = false := by
      have := hw op List.mem_cons_self
      cases op <;> simp [isReader, refreshesRoot] at this ⊢
    rw [ih t1 os r.inv ok1 (fun o ho => hw o (List.mem_cons_of_mem _ ho)) g1, r.root, hroot, if_neg Bool.false_ne_true]

/-- `hfresh`: as `newHTree` leaves the inner nodes.  `hli` is a hypothesis about the RESULT `t'`: summaries = sums over
    items, items in their leaves - what a dump written by `dump` holds and `load` does not re-check. -/
theorem load_inv (t t' : HTree) (leaves : List Leaf) (hs : Shape t) (h2 : 2 ≤ t.height)
    (hfresh : ∀ l o, (t.innerNode l o).upd = false) (hl : load t leaves = some t') (hli : LeavesInv t') :
    Inv t' ∧ SameParams t t' ∧ (∀ l o, (t'.innerNode l o).upd = false) ∧ rootCountNoUpdate t' = rootCountNoUpdate t := by
  unfold load at hl
  split at hl
  · cases hl
  · rename_i hlen
    obtain rfl := Option.some.inj hl
    have hinner : ∀ l o, HTree.innerNode { t with leaves := leaves.take (16 ^ (t.height - 1)) } l o = t.innerNode l o :=
      fun _ _ => rfl
    refine ⟨⟨⟨hs.rows, ?_, hs.bound⟩, treeInv_of_unflagged _ (fun l o => by rw [hinner]; exact hfresh l o), hli, h2⟩,
      ⟨rfl, rfl, rfl⟩, fun l o => by rw [hinner]; exact hfresh l o, ?_⟩
    · show (leaves.take (16 ^ (t.height - 1))).length = 16 ^ t.inner.length
      rw [height_eq, Nat.add_sub_cancel] at hlen ⊢
      rw [List.length_take]; omega
    · rw [rootCount_inner t h2]; exact rootCount_inner { t with leaves := _ } h2

theorem listTop_of_step {t t' : HTree} {out : Out}
    (h : step t (.list Gen.ThresholdListKeyDefault (listTopPath t.bucketID)) = some (t', out)) : listTop t = t' := by
  unfold listTop
  simp only [step] at h
  split at h <;> exact (Prod.mk.inj (Option.some.inj h)).1

/-- the root count is refreshed exactly when the formatted bucket id has `depth` digits (shorter: `ListDir` answers
    "too short"; longer: a node below the root) -/
theorem listTop_spec (t : HTree) (inv : Inv t) (hp : PathOk t (listTopPath t.bucketID)) :
    Inv (listTop t) ∧ SameParams t (listTop t) ∧ content (listTop t) = content t ∧
      rootCountNoUpdate (listTop t)
        = if (listTopPath t.bucketID).length = t.depth then liveCount (content t) else rootCountNoUpdate t := by
  obtain ⟨t', out, hs, r⟩ := step_exact t (.list Gen.ThresholdListKeyDefault (listTopPath t.bucketID)) inv hp
  rw [listTop_of_step hs]
  refine ⟨r.inv, r.params, r.reader rfl, ?_⟩
  rw [r.root, r.reader rfl]
  exact if_iff beq_iff_eq _ _

/-- a bucket id that "%x" prints as one digit; `h` is `PathOk.bucket` of that path -/
theorem listTop_digit (t : HTree) (inv : Inv t) (hb : t.bucketID < 16)
    (h : t.depth ≤ 1 → digitsVal ([t.bucketID].take t.depth) = t.bucketID) :
    rootCountNoUpdate (listTop t) = if 1 = t.depth then liveCount (content t) else rootCountNoUpdate t := by
  have hpath : listTopPath t.bucketID = [t.bucketID] := if_pos hb
  have hp : PathOk t (listTopPath t.bucketID) := by
    rw [hpath]
    exact ⟨Nat.le_add_left 1 15, fun d hd => List.mem_singleton.mp hd ▸ hb, h⟩
  obtain ⟨_, _, _, h⟩ := listTop_spec t inv hp
  rwa [hpath] at h

/-- 16 buckets (depth 1): the path is the bucket's own digit -/
theorem listTop_depth1 (t : HTree) (inv : Inv t) (hd : t.depth = 1) (hb : t.bucketID < 16) :
    rootCountNoUpdate (listTop t) = liveCount (content t) := by
  have h := listTop_digit t inv hb (fun _ => by rw [hd]; exact Nat.zero_add _)
  rwa [if_pos hd.symm] at h

/-- 256 buckets (depth 2), bucket id below 16: "%x" gives ONE digit, `ListDir` answers "too short", nothing is updated -/
theorem listTop_depth2_small (t : HTree) (hd : t.depth = 2) (hb : t.bucketID < 16) : listTop t = t := by
  simp [listTop, ListDir, listTopPath, hb, hd]

/-- one bucket (depth 0, bucket 0): the path is "0", i.e. the level-1 node 0, not the root -/
theorem listTop_depth0 (t : HTree) (inv : Inv t) (hd : t.depth = 0) (hb : t.bucketID = 0) :
    rootCountNoUpdate (listTop t) = rootCountNoUpdate t := by
  have h := listTop_digit t inv (by rw [hb]; decide) (fun _ => by rw [hd, hb]; rfl)
  rwa [if_neg (by rw [hd]; decide)] at h

end HTreeImplLemmas
