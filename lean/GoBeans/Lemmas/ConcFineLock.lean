/-
  The first invariant `LockInv`: who owns bkt.writeLock / ds.Mutex / ds.flushLock ⇔ where that thread's program counter
  stands (`holdsW`, `holdsD`, `holdsF` of Lemmas/ConcFineStep.lean); from it, `no_deadlock`.
-/
import GoBeans.Lemmas.ConcFineStep

namespace ConcFine

structure LockInv (s : State) : Prop where
  w : ∀ u, s.writeLock = some u ↔ holdsW (s.thr u).pc = true
  d : ∀ u, s.dsLock = some u ↔ holdsD (s.thr u).pc = true
  f : ∀ u, s.flushLock = some u ↔ holdsF (s.thr u).pc = true

/-- what a step of `t` does to one lock `L` and to its holder predicate `H`: nothing, acquire, or release -/
def LockStep (H : PC → Bool) (t : Nat) (L L' : Option Nat) (pc pc' : PC) : Prop :=
  (L' = L ∧ H pc' = H pc) ∨ (L = none ∧ L' = some t ∧ H pc' = true) ∨ (L = some t ∧ L' = none ∧ H pc' = false)

theorem lock_upd {H : PC → Bool} {L L' : Option Nat} {thr thr' : Nat → Thread} {t : Nat}
    (h : ∀ u, L = some u ↔ H (thr u).pc = true) (hthr : ∀ u, u ≠ t → thr' u = thr u)
    (hc : LockStep H t L L' (thr t).pc (thr' t).pc) : ∀ u, L' = some u ↔ H (thr' u).pc = true := by
  intro u
  by_cases hu : u = t
  · subst hu
    rcases hc with ⟨h1, h2⟩ | ⟨_, h2, h3⟩ | ⟨_, h2, h3⟩
    · rw [h1, h2]; exact h u
    · simp [h2, h3]
    · simp [h2, h3]
  · rw [hthr u hu, ← h u]
    rcases hc with ⟨h1, _⟩ | ⟨h1, h2, _⟩ | ⟨h1, h2, _⟩
    · rw [h1]
    · simp [h1, h2, Ne.symm hu]
    · simp [h1, h2, Ne.symm hu]

theorem lock_others {H : PC → Bool} {L : Option Nat} {thr : Nat → Thread} (h : ∀ u, L = some u ↔ H (thr u).pc = true)
    {t u : Nat} (ht : H (thr t).pc = true) (hu : u ≠ t) : H (thr u).pc = false := by
  cases hd : H (thr u).pc with
  | false => rfl
  | true =>
    have h1 := (h t).2 ht
    rw [(h u).2 hd] at h1
    exact absurd (Option.some.inj h1) hu

theorem lock_free {H : PC → Bool} {L : Option Nat} {thr : Nat → Thread} (h : ∀ u, L = some u ↔ H (thr u).pc = true)
    (hn : L = none) (u : Nat) : H (thr u).pc = false := by
  cases hd : H (thr u).pc with
  | false => rfl
  | true => have := (h u).2 hd; rw [hn] at this; cases this

theorem Micro.locks {cfg : Cfg} {s sh : State} {t : Nat} {pc pc' : PC} (hm : Micro cfg s t pc sh pc')
    (hw : holdsW pc = true → s.writeLock = some t) (hd : holdsD pc = true → s.dsLock = some t)
    (hf : holdsF pc = true → s.flushLock = some t) :
    LockStep holdsW t s.writeLock sh.writeLock pc pc' ∧ LockStep holdsD t s.dsLock sh.dsLock pc pc' ∧
    LockStep holdsF t s.flushLock sh.flushLock pc pc' := by
  cases hm with
  | wLock q hg => exact ⟨.inr (.inl ⟨hg, rfl, rfl⟩), .inl ⟨rfl, rfl⟩, .inl ⟨rfl, rfl⟩⟩
  | wUnlock k out => exact ⟨.inr (.inr ⟨hw rfl, rfl, rfl⟩), .inl ⟨rfl, rfl⟩, .inl ⟨rfl, rfl⟩⟩
  | wSlotRot q ver hg => exact ⟨.inl ⟨rfl, rfl⟩, .inr (.inl ⟨hg, rfl, rfl⟩), .inl ⟨rfl, rfl⟩⟩
  | wSlotStay q ver hg => exact ⟨.inl ⟨rfl, rfl⟩, .inr (.inl ⟨hg, rfl, rfl⟩), .inl ⟨rfl, rfl⟩⟩
  | wDsUnlock q ver pos => exact ⟨.inl ⟨rfl, rfl⟩, .inr (.inr ⟨hd rfl, rfl, rfl⟩), .inl ⟨rfl, rfl⟩⟩
  | fLock c force late hg => exact ⟨.inl ⟨rfl, rfl⟩, .inl ⟨rfl, rfl⟩, .inr (.inl ⟨hg, rfl, rfl⟩)⟩
  | fUnlock => exact ⟨.inl ⟨rfl, rfl⟩, .inl ⟨rfl, rfl⟩, .inr (.inr ⟨hf rfl, rfl, rfl⟩)⟩
  | _ => exact ⟨.inl ⟨rfl, rfl⟩, .inl ⟨rfl, rfl⟩, .inl ⟨rfl, rfl⟩⟩

theorem micro_lock {cfg : Cfg} {s s' : State} {t : Nat} (hl : LockInv s) (h : micro cfg s t = some s') : LockInv s' := by
  obtain ⟨sh, pc', hm, rfl⟩ := micro_elim h
  have hpc := goto_pc sh t pc'
  obtain ⟨hw, hd, hf⟩ := hm.locks (hl.w t).2 (hl.d t).2 (hl.f t).2
  exact ⟨lock_upd hl.w hm.thr_others (by rw [hpc]; exact hw), lock_upd hl.d hm.thr_others (by rw [hpc]; exact hd),
    lock_upd hl.f hm.thr_others (by rw [hpc]; exact hf)⟩

theorem invoke_lock {s s' : State} {t : Nat} {op : Op} (hl : LockInv s) (h : invoke s t op = some s') : LockInv s' := by
  obtain ⟨hpc, pc', rfl, hs⟩ := invoke_elim h
  have hn : holdsW pc' = false ∧ holdsD pc' = false ∧ holdsF pc' = false := by
    cases hs <;> exact ⟨rfl, rfl, rfl⟩
  have key : ∀ H : PC → Bool, H pc' = H .idle →
      H (if t = t then ({ pc := pc', inv := s.clock } : Thread) else s.thr t).pc = H (s.thr t).pc :=
    fun H h => by rw [if_pos rfl, hpc]; exact h
  exact ⟨lock_upd hl.w (fun u hu => if_neg hu) (.inl ⟨rfl, key _ hn.1⟩),
    lock_upd hl.d (fun u hu => if_neg hu) (.inl ⟨rfl, key _ hn.2.1⟩),
    lock_upd hl.f (fun u hu => if_neg hu) (.inl ⟨rfl, key _ hn.2.2⟩)⟩

theorem tick_lock (s : State) (h : LockInv s) : LockInv s.tick := ⟨h.w, h.d, h.f⟩

/-- which lock the next micro-step has to acquire -/
def needsW : PC → Bool | .wLock _ => true | _ => false
def needsD : PC → Bool | .wSlot .. | .fDs1 .. | .fDs2 _ => true | _ => false
def needsF : PC → Bool | .fLock .. => true | _ => false

theorem micro_enabled (cfg : Cfg) (s : State) (u : Nat) (hne : (s.thr u).pc ≠ .idle)
    (hw : needsW (s.thr u).pc = false ∨ s.writeLock = none) (hd : needsD (s.thr u).pc = false ∨ s.dsLock = none)
    (hf : needsF (s.thr u).pc = false ∨ s.flushLock = none) : (micro cfg s u).isSome = true := by
  cases hpc : (s.thr u).pc with
  | idle => exact absurd hpc hne
  | wLock q => rw [hpc] at hw; simp [micro, hpc, hw.resolve_left nofun]
  | wSlot q ver => rw [hpc] at hd; simp only [micro, hpc, hd.resolve_left nofun, if_true]; split <;> rfl
  | fLock c force late => rw [hpc] at hf; simp [micro, hpc, hf.resolve_left nofun]
  | fDs1 c force late =>
    rw [hpc] at hd; simp only [micro, hpc, hd.resolve_left nofun, if_true]
    split
    · rfl
    · split <;> rfl
  | fDs2 fl => rw [hpc] at hd; simp [micro, hpc, hd.resolve_left nofun]
  | _ =>
    simp only [micro, hpc]
    repeat' split
    all_goals rfl

/-- the holder of a lock is inside an operation and does not wait for that lock or one before it in the lock order -/
theorem holder_needs (pc : PC) :
    (holdsD pc = true → pc ≠ .idle ∧ needsW pc = false ∧ needsD pc = false ∧ needsF pc = false) ∧
    (holdsW pc = true → pc ≠ .idle ∧ needsW pc = false ∧ needsF pc = false) ∧
    (holdsF pc = true → pc ≠ .idle ∧ needsF pc = false) := by
  cases pc <;> simp [holdsW, holdsD, holdsF, needsW, needsD, needsF]

/-- the lock order (write lock → ds lock, flush lock → ds lock) admits no cycle -/
theorem no_deadlock (cfg : Cfg) {s : State} (hl : LockInv s) (t : Nat) (hne : (s.thr t).pc ≠ .idle) :
    ∃ u, (micro cfg s u).isSome = true := by
  cases hds : s.dsLock with
  | some u =>
    obtain ⟨h0, hW, hD, hF⟩ := (holder_needs _).1 ((hl.d u).1 hds)
    exact ⟨u, micro_enabled cfg s u h0 (.inl hW) (.inl hD) (.inl hF)⟩
  | none =>
    cases hwl : s.writeLock with
    | some u =>
      obtain ⟨h0, hW, hF⟩ := (holder_needs _).2.1 ((hl.w u).1 hwl)
      exact ⟨u, micro_enabled cfg s u h0 (.inl hW) (.inr hds) (.inl hF)⟩
    | none =>
      cases hfl : s.flushLock with
      | some u =>
        obtain ⟨h0, hF⟩ := (holder_needs _).2.2 ((hl.f u).1 hfl)
        exact ⟨u, micro_enabled cfg s u h0 (.inr hwl) (.inr hds) (.inl hF)⟩
      | none => exact ⟨t, micro_enabled cfg s t hne (.inr hwl) (.inr hds) (.inr hfl)⟩

end ConcFine
