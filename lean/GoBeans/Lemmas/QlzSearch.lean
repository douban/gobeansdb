/-
  QuickLZ (C10) — what the match searches of the two levels of `Compress` share: the loop that extends a match byte by
  byte stays inside the source and counts only bytes it has compared (`extend3_run`), because `remaining` keeps it four
  bytes short of the end (`remaining_spec`); the level-1 loop `extend1` is the same loop counting positions.
-/
import GoBeans.Lemmas.QlzBytes
namespace QlzRT
open Qlz QlzLemmas

theorem extend3_run (s : Buf) (o src rem : Nat) (ho : o ≤ src) (hr : src + rem < s.size) : ∀ (fuel m0 : Nat), m0 ≤ rem →
    ∃ m, extend3 s o src rem fuel m0 = some m ∧ m0 ≤ m ∧ m ≤ rem ∧ ∀ j, m0 ≤ j → j < m → s[o + j]? = s[src + j]? := by
  intro fuel
  induction fuel with
  | zero => intro m0 h0; exact ⟨m0, rfl, Nat.le_refl _, h0, fun j h1 h2 => by omega⟩
  | succ f ih =>
    intro m0 h0
    unfold extend3
    obtain ⟨a, ha⟩ := getElem?_ok s (o + m0) (by omega)
    obtain ⟨b, hb⟩ := getElem?_ok s (src + m0) (by omega)
    rw [ha, hb]
    simp only
    by_cases hc : a = b ∧ m0 < rem
    · rw [if_pos hc]
      obtain ⟨m, hm, m1, m2, m3⟩ := ih (m0 + 1) (by omega)
      refine ⟨m, hm, by omega, m2, fun j j1 j2 => ?_⟩
      by_cases hj : j = m0
      · subst hj; rw [ha, hb, hc.1]
      · exact m3 j (by omega) j2
    · rw [if_neg hc]
      exact ⟨m0, rfl, Nat.le_refl _, h0, fun j h1 h2 => by omega⟩

/-- `remaining` of a length search at `src` (quicklz.go:150-153, 199-202) -/
theorem remaining_spec {s : Buf} {src : Nat} (hsrc : (src : Int) ≤ (s.size : Int) - 11) :
    let rem : Nat := if (s.size : Int) - 4 - (src : Int) + 1 - 1 ≤ 255 then ((s.size : Int) - 4 - (src : Int) + 1 - 1).toNat else 255
    6 ≤ rem ∧ rem ≤ 255 ∧ src + rem + 4 ≤ s.size := by
  intro rem
  by_cases h : (s.size : Int) - 4 - (src : Int) + 1 - 1 ≤ 255
  · rw [show rem = ((s.size : Int) - 4 - (src : Int) + 1 - 1).toNat from if_pos h]; omega
  · rw [show rem = 255 from if_neg h]; omega

theorem extend1_eq (s : Buf) (o src rem : Nat) : ∀ (fuel m : Nat),
    extend1 s o src rem fuel (src + m) = (extend3 s o src rem fuel m).map (src + ·) := by
  intro fuel
  induction fuel with
  | zero => intro m; rfl
  | succ f ih =>
    intro m
    unfold extend1 extend3
    rw [Nat.add_sub_cancel_left]
    cases s[o + m]? with
    | none => rfl
    | some a =>
      cases s[src + m]? with
      | none => rfl
      | some b =>
        show (if a = b ∧ m < rem then extend1 s o src rem f (src + m + 1) else some (src + m)) = _
        by_cases hc : a = b ∧ m < rem
        · rw [if_pos hc]; simp only [if_pos hc]; exact ih (m + 1)
        · rw [if_neg hc]; simp only [if_neg hc]; rfl

end QlzRT
