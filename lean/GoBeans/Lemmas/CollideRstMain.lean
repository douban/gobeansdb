/-
  Injective hash: `C13_collide_extends_store_general`.  One operation (`inj_step`) keeps `NoColl` and the invariant `HInv`
  of the non-colliding bucket model on the data part, and answers like `Store.step`, whose replies are the reference's.
  A restart needs the restart invariant `RI`; every operation but a GC request keeps it (`ri_step`, `reopen_ok`), so along a
  history either `RI` holds or no restart lies ahead (`inj_run`).
-/
import GoBeans.Lemmas.CollideRstInv
namespace CollideLemmas
open Store Spec HintIndex Collide HintBufferLemmas HintLoadLemmas HintIndexLemmas StoreLemmas

section
variable (hash : Key → Nat) (K : Key → Prop)

theorem hinv_congr {cfg : Store.Cfg} {n : Nat} {m : KV} {b b' : Bucket} (hc : b'.chunks = b.chunks) (hh : b'.head = b.head)
    (ht : ∀ k, K k → AMap.get b'.tree (hash k) = AMap.get b.tree (hash k)) (h : HInv hash K cfg n b m) : HInv hash K cfg n b' m := by
  obtain ⟨ch', hd', t', g'⟩ := b'
  obtain ⟨ch, hd, t, g⟩ := b
  simp only at hc hh ht
  subst hc hh
  -- the buckets now differ in tree and `nextGC` only: data files, head, log and `readAt` are the same terms
  refine ⟨⟨⟨h.inv.pos.below, h.inv.pos.fresh⟩, fun k hk => ?_⟩, ⟨h.lr.keys, fun k hk => ?_⟩, ⟨h.wf.ok, h.wf.max, h.wf.fresh⟩, h.nz, h.nd⟩
  · rcases h.inv.agree k hk with ⟨a1, a2⟩ | ⟨it, e, r, a1, a2, a3, a4⟩
    · exact Or.inl ⟨(ht k hk).trans a1, a2⟩
    · exact Or.inr ⟨it, e, r, (ht k hk).trans a1, a2, a3, a4⟩
  · rcases h.lr.last k hk with ⟨it, r, a1, a2, a3, a4⟩ | ⟨a1, a2⟩
    · exact Or.inl ⟨it, r, (ht k hk).trans a1, a2, a3, a4⟩
    · exact Or.inr ⟨(ht k hk).trans a1, a2⟩

theorem sizeOK_of {cfg : Collide.Cfg} {R : Nat} {op : Collide.Op} (h : InjOK K cfg R op) : SizeOK op := by
  cases op with
  | set k body flag rev ts size => exact h.1.2.1
  | delete k size wts => exact h.1.2
  | incr k d size wts => exact h.1.2
  | _ => trivial

theorem hspec_cons (c : Spec.Cfg) (m : KV) (o : Store.Op) (l : List HOp) :
    (hspec c m (.op o :: l)).2
      = (match (specStep c m o).2 with | some r => [r] | none => []) ++ (hspec c (specStep c m o).1 l).2 := by
  cases hr : (specStep c m o).2 <;> simp [hspec, hr]

theorem inj_step (hInj : InjOn hash K) (cfg : Collide.Cfg) (hcv : cfg.s.checkVHash = false) (R : Nat)
    {st : State} {m : KV} {n : Nat} (nc : NoColl hash K st) (h : HInv hash K cfg.s n st.b m) (hR : R ≤ n)
    (hn : n + 1 < 2147483647) (op : Collide.Op) (hop : InjOK K cfg R op) (hre : IsReopen op → RI hash st) :
    ∃ m', NoColl hash K (Collide.step hash cfg st op).1 ∧ HInv hash K cfg.s (n + 1) (Collide.step hash cfg st op).1.b m'
      ∧ (1 ≤ cfg.cap → RI hash st → ¬ IsGC op → RI hash (Collide.step hash cfg st op).1)
      ∧ ∀ ops, (hspec { checkVHash := cfg.s.checkVHash } m ((op :: ops).filterMap toH)).2
          = (match Collide.cmdOf op with | some _ => [(Collide.step hash cfg st op).2.1] | none => [])
            ++ (hspec { checkVHash := cfg.s.checkVHash } m' (ops.filterMap toH)).2 := by
  have hri : 1 ≤ cfg.cap → RI hash st → ¬ IsReopen op → ¬ IsGC op → RI hash (Collide.step hash cfg st op).1 :=
    fun hcap ri h1 h2 => ri_step hash cfg hcap ri h.wf op (sizeOK_of K hop) h1 h2 (fun _ => (merge_nc hash K hInj nc false).1.ct)
  cases hto : toH op with
  | none =>
    -- the dumper's round, a hint merge: the bucket model does not see them
    cases op <;> simp [toH] at hto
    · refine ⟨m, ?_, ?_, fun hc ri _ => hri hc ri id id, fun ops => rfl⟩ <;> rw [step_hintDump]
      · exact ⟨nc.ct, hsNC_dumpAll hash K _ _ nc.hs⟩
      · exact hinv_mono hash K (Nat.le_succ n) h
    · refine ⟨m, ?_, ?_, fun hc ri _ => hri hc ri id id, fun ops => rfl⟩ <;> rw [step_hintMerge]
      · exact (merge_nc hash K hInj nc false).1
      · rw [(merge_nc hash K hInj nc false).2]; exact hinv_mono hash K (Nat.le_succ n) h
  | some ho =>
    cases ho with
    | gc g =>
      -- a GC request: the pass of `Store.gcRun` on the data part, invisible to the reference
      have hmg : ∃ mg, op = .gc g mg := by
        cases op <;> simp [toH] at hto
        subst hto; exact ⟨_, rfl⟩
      obtain ⟨mg, rfl⟩ := hmg
      obtain ⟨e1, e2⟩ := gcOp_ext hash K hInj cfg nc (allrecs_K hash K h) g mg
      rw [step_gc]
      refine ⟨m, e2, ?_, fun _ _ hg => absurd trivial hg, fun ops => rfl⟩
      rw [e1]
      exact hinv_mono hash K (Nat.le_succ n) (gcOp_hinv hash K cfg.s hInj h g)
    | op o =>
      have hok : OpOK3 K cfg.s R o := by
        unfold InjOK at hop; rw [hto] at hop; exact hop
      obtain ⟨h', hr⟩ := op_hinv hash K cfg.s hcv hInj R h hR hn o hok
      -- equal replies of the two models suffice: the bucket model's are the reference's
      suffices hs : NoColl hash K (Collide.step hash cfg st op).1
          ∧ HInv hash K cfg.s (n + 1) (Collide.step hash cfg st op).1.b (specStep { checkVHash := cfg.s.checkVHash } m o).1
          ∧ (1 ≤ cfg.cap → RI hash st → RI hash (Collide.step hash cfg st op).1)
          ∧ (Collide.step hash cfg st op).2.1 = (Store.step hash cfg.s st.b o).2.1 by
        obtain ⟨nc', h'', ri', e2⟩ := hs
        refine ⟨_, nc', h'', fun hc ri _ => ri' hc ri, fun ops => ?_⟩
        simp only [List.filterMap_cons, hto]
        rw [hspec_cons, cmdOf_toH op o hto, e2]
        exact congrArg (· ++ _) hr.symm
      by_cases hro : IsReopen op
      · cases op <;> first | exact hro.elim | skip
        rename_i kt
        have ho : o = .reopen kt := by simp [toH] at hto; exact hto.symm
        subst ho
        have r := reopen_ok hash K hInj cfg nc h (hre trivial) kt
        rw [step_reopen]
        exact ⟨r.nc, hinv_congr hash K r.chunks r.head r.tree h', fun _ _ => r.ri, by cases kt <;> rfl⟩
      · obtain ⟨e1, e2, e3⟩ := client_ext hash K cfg R nc h op o hto hop hro
        refine ⟨e3, by rw [e1]; exact h', fun hc ri => hri hc ri hro ?_, e2⟩
        cases op <;> first | exact id | simp [toH] at hto

/-- no restart after a GC request -/
def RestartsFirst : List Collide.Op → Prop
  | [] => True
  | op :: ops => (IsGC op → ∀ o ∈ ops, ¬ IsReopen o) ∧ RestartsFirst ops

theorem inj_run (hInj : InjOn hash K) (cfg : Collide.Cfg) (hcv : cfg.s.checkVHash = false) (R : Nat) (ops : List Collide.Op) :
    ∀ (st : State) (m : KV) (n : Nat), NoColl hash K st → HInv hash K cfg.s n st.b m → R ≤ n →
      n + ops.length < 2147483647 → (∀ op ∈ ops, InjOK K cfg R op) →
      ((1 ≤ cfg.cap ∧ RI hash st ∧ RestartsFirst ops) ∨ ∀ o ∈ ops, ¬ IsReopen o) →
      (Collide.run hash cfg st ops).2 = (hspec { checkVHash := cfg.s.checkVHash } m (ops.filterMap toH)).2 := by
  induction ops with
  | nil => intro st m n _ _ _ _ _ _; rfl
  | cons op ops ih =>
    intro st m n nc h hR hn hops hre
    simp only [List.length_cons] at hn
    obtain ⟨m', nc', h', ri', hs⟩ := inj_step hash K hInj cfg hcv R nc h hR (by omega) op (hops op (by simp))
      (fun hro => hre.elim (fun a => a.2.1) (fun a => absurd hro (a op (by simp))))
    rw [run_cons, hs ops]
    refine congrArg _ (ih _ m' (n + 1) nc' h' (by omega) (by omega) (fun o ho => hops o (by simp [ho])) ?_)
    rcases hre with ⟨hc, ri, hgc, hrest⟩ | hno
    · by_cases hg : IsGC op
      · exact Or.inr (hgc hg)
      · exact Or.inl ⟨hc, ri' hc ri hg, hrest⟩
    · exact Or.inr fun o ho => hno o (by simp [ho])

end
end CollideLemmas

open Store Spec Collide CollideLemmas StoreLemmas

/-- **injective hash**: client commands (explicit revisions included), flush, the hint dumper's round, hint merges, GC
    requests (merge on or off) and, for `SplitCap ≥ 1` and until the first GC request, restarts in both modes, in any order:
    the replies of `Collide.run` are those of the non-colliding model (`hrun` = `Store.step` + `Store.gcRun`), and therefore
    those of the reference map.  `hlen`: versions are int32 in the store and every operation may raise one by one (the bound
    `n` of `HInv`, as in C01).  With restarts after a GC request the statement is open
    (`C13_collide_extends_store_restarts_gc_statement`): `RI` would have to be carried through the GC pass -/
theorem C13_collide_extends_store_general (hash : Key → Nat) (K : Key → Prop) (hInj : InjOn hash K) (cfg : Collide.Cfg)
    (hcv : cfg.s.checkVHash = false) (R : Nat) (ops : List Collide.Op) (hlen : R + ops.length < 2147483647)
    (hops : ∀ op ∈ ops, InjOK K cfg R op)
    (hre : (1 ≤ cfg.cap ∧ RestartsFirst ops) ∨ ∀ o ∈ ops, ¬ IsReopen o) :
    (Collide.run hash cfg {} ops).2 = (hrun hash cfg.s {} (ops.filterMap toH)).2
    ∧ (Collide.run hash cfg {} ops).2 = (hspec { checkVHash := cfg.s.checkVHash } [] (ops.filterMap toH)).2 := by
  have nc0 : NoColl hash K ({} : Collide.State) := ⟨rfl, fun _ => ckNC_empty hash K⟩
  have h0 : HInv hash K cfg.s R ({} : Collide.State).b [] := hinv_init hash K cfg.s
  have e1 := inj_run hash K hInj cfg hcv R ops {} [] R nc0 h0 (Nat.le_refl R) hlen hops
    (hre.imp (fun a => ⟨a.1, ri_init hash, a.2⟩) id)
  refine ⟨?_, e1⟩
  rw [e1]
  have hl : (ops.filterMap toH).length ≤ ops.length := List.length_filterMap_le _ _
  refine (hrun_refines hash K cfg.s hcv hInj R (ops.filterMap toH) R {} [] h0 (Nat.le_refl R) (by omega) ?_).1.symm
  intro h hh
  rw [List.mem_filterMap] at hh
  obtain ⟨op, hop, ht⟩ := hh
  have := hops op hop
  unfold InjOK at this
  rw [ht] at this
  exact this
