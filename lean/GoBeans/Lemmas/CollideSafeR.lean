/-
  C13 (b) with restarts: the class `SafeR` extends `Safe` by restarts (tree dump kept or rebuilt from hints; hint
  files and collision.yaml stay) at moments when something has been written and every key that has a written hash-mate
  is in the collision table; after a restart no NEW undetected pair may be started (a key with written hash-mates may
  be written only if its hash is already in the table).  `C13_safe_with_restarts_statement` is PROVED in
  GoBeans/Lemmas/Collide.lean (`C13_safe_with_restarts`, through `CollideLemmas.run_safeR` and the invariant `RInv`);
  the differential harness checks the same statement on the real store (CollideCheck.lean counts the replies inside
  `SafeR` prefixes that deviate from the reference map: none).
-/
import GoBeans.Lemmas.CollideSafe
namespace CollideLemmas
open Store Spec HintIndex Collide

structure TrkR where
  t : Trk := {}
  restarted : Bool := false

section
variable (hash : Key → Nat)

/-- every key with a written hash-mate is in the collision table -/
def Trk.allDetected (t : Trk) : Bool := t.written.all (fun k => (t.others hash k).isEmpty || t.reg.contains k)

/-- after a restart a write must not start a new undetected pair -/
def Trk.writeOK (t : Trk) (k : Key) : Bool := (t.others hash k).isEmpty || t.det hash (hash k)

def TrkR.step (x : TrkR) : Collide.Op → Option TrkR
  | .reopen _ =>
    if x.t.allDetected hash && !x.t.written.isEmpty then
      -- which key owns a slot is not tracked any more (a rebuilt tree replays splits in (hash,key) order); it is not
      -- needed either: every key with a written hash-mate is in the table
      some { t := { x.t with owner := [] }, restarted := true }
    else none
  | .set k body flag rev ts size =>
    if x.restarted && !(x.t.writeOK hash k) then none
    else (x.t.step hash (.set k body flag rev ts size)).map (fun t => { x with t := t })
  | .incr k d size wts =>
    if x.restarted && !(x.t.writeOK hash k) then none
    else (x.t.step hash (.incr k d size wts)).map (fun t => { x with t := t })
  | op => (x.t.step hash op).map (fun t => { x with t := t })

def TrkR.run (x : TrkR) : List Collide.Op → Option TrkR
  | [] => some x
  | op :: ops => match x.step hash op with | some x' => TrkR.run x' ops | none => none

def SafeR (ops : List Collide.Op) : Bool := (TrkR.run hash {} ops).isSome

end

/-- the statement with restarts -/
def C13_safe_with_restarts_statement : Prop :=
  ∀ (hash : Key → Nat) (cfg : Collide.Cfg), cfg.s.checkVHash = false → cfg.s.dataFileMax < 4294967296 → 1 ≤ cfg.cap →
    ∀ ops : List Collide.Op, ops.length < 2147483647 → SafeR hash ops = true →
      (Collide.run hash cfg {} ops).2.map coarse = (Spec.run {} [] (ops.filterMap Collide.cmdOf)).2.map coarse

end CollideLemmas
