/-
  The ledger as a vector (Model/LedgerConc.lean: `plus`, `neg`, `nil`): a commutative group, componentwise, and every
  ledger operation of Model/Proto.lean as the addition of the vector of a buffer or of the token (`tokGet_eq` …
  `releaseRead_eq`), so that what a path of the server does to the ledger is a sum.
  A ledger literal that leaves `tokens` out has 16 tokens (the structure default of Model/Proto.lean): `nil` is
  `{ tokens := 0 }` for that reason.
-/
import GoBeans.Model.LedgerConc
namespace LedgerConc
open Proto (Ledger Buf Cfg)

section proj
variable (a b : Ledger)
@[simp] theorem add_getC : (a + b).getC = a.getC + b.getC := rfl
@[simp] theorem add_getS : (a + b).getS = a.getS + b.getS := rfl
@[simp] theorem add_setC : (a + b).setC = a.setC + b.setC := rfl
@[simp] theorem add_setS : (a + b).setS = a.setS + b.setS := rfl
@[simp] theorem add_flushC : (a + b).flushC = a.flushC + b.flushC := rfl
@[simp] theorem add_flushS : (a + b).flushS = a.flushS + b.flushS := rfl
@[simp] theorem add_allocC : (a + b).allocC = a.allocC + b.allocC := rfl
@[simp] theorem add_allocS : (a + b).allocS = a.allocS + b.allocS := rfl
@[simp] theorem add_tokens : (a + b).tokens = a.tokens + b.tokens := rfl
@[simp] theorem sub_getC : (a - b).getC = a.getC + -b.getC := rfl
@[simp] theorem sub_getS : (a - b).getS = a.getS + -b.getS := rfl
@[simp] theorem sub_setC : (a - b).setC = a.setC + -b.setC := rfl
@[simp] theorem sub_setS : (a - b).setS = a.setS + -b.setS := rfl
@[simp] theorem sub_flushC : (a - b).flushC = a.flushC + -b.flushC := rfl
@[simp] theorem sub_flushS : (a - b).flushS = a.flushS + -b.flushS := rfl
@[simp] theorem sub_allocC : (a - b).allocC = a.allocC + -b.allocC := rfl
@[simp] theorem sub_allocS : (a - b).allocS = a.allocS + -b.allocS := rfl
@[simp] theorem sub_tokens : (a - b).tokens = a.tokens + -b.tokens := rfl
@[simp] theorem neg_getC : (-a).getC = -a.getC := rfl
@[simp] theorem neg_getS : (-a).getS = -a.getS := rfl
@[simp] theorem neg_setC : (-a).setC = -a.setC := rfl
@[simp] theorem neg_setS : (-a).setS = -a.setS := rfl
@[simp] theorem neg_flushC : (-a).flushC = -a.flushC := rfl
@[simp] theorem neg_flushS : (-a).flushS = -a.flushS := rfl
@[simp] theorem neg_allocC : (-a).allocC = -a.allocC := rfl
@[simp] theorem neg_allocS : (-a).allocS = -a.allocS := rfl
@[simp] theorem neg_tokens : (-a).tokens = -a.tokens := rfl
end proj
@[simp] theorem nil_getC : nil.getC = 0 := rfl
@[simp] theorem nil_getS : nil.getS = 0 := rfl
@[simp] theorem nil_setC : nil.setC = 0 := rfl
@[simp] theorem nil_setS : nil.setS = 0 := rfl
@[simp] theorem nil_flushC : nil.flushC = 0 := rfl
@[simp] theorem nil_flushS : nil.flushS = 0 := rfl
@[simp] theorem nil_allocC : nil.allocC = 0 := rfl
@[simp] theorem nil_allocS : nil.allocS = 0 := rfl
@[simp] theorem nil_tokens : nil.tokens = 0 := rfl

def allocVec (b : Buf) : Ledger := { nil with allocC := if b.inC then 1 else 0, allocS := if b.inC then b.cap else 0 }
/-- a read buffer in the hands of a caller: AllocRL (if malloc'ed) and GetData -/
def heldVec (b : Buf) : Ledger := { allocVec b with getC := 1, getS := b.cap }
/-- a body buffer in the hands of a request: AllocRL (if malloc'ed) and SetData -/
def setVec (b : Buf) : Ledger := { allocVec b with setC := 1, setS := b.cap }
/-- a Go-heap buffer of `n` bytes: counted where it is held, never in AllocRL -/
abbrev heap (n : Nat) : Buf := { cap := n, inC := false }
abbrev tok : Ledger := delta .tokPut

theorem led_eq_iff (a b : Ledger) : a = b ↔ a.getC = b.getC ∧ a.getS = b.getS ∧ a.setC = b.setC ∧ a.setS = b.setS
    ∧ a.flushC = b.flushC ∧ a.flushS = b.flushS ∧ a.allocC = b.allocC ∧ a.allocS = b.allocS ∧ a.tokens = b.tokens := by
  cases a; cases b; simp
theorem vadd_def (a b : Ledger) : a + b = plus a b := rfl
theorem vneg_def (a : Ledger) : -a = neg a := rfl
theorem vsub_eq (a b : Ledger) : a - b = a + -b := rfl

/-- an equation between ledgers: both sides unfolded to their nine components, then `omega` -/
macro "vec" : tactic =>
  `(tactic| (rw [led_eq_iff] <;> (try simp only [vadd_def, vneg_def, vsub_eq, plus, neg, nil, Ctr.vec, delta, heldVec, setVec,
      ownVec, allocVec, Bool.false_eq_true, if_false, if_true, true_and, and_true]) <;> omega))

theorem vadd_assoc (a b c : Ledger) : a + b + c = a + (b + c) := by vec
theorem vadd_comm (a b : Ledger) : a + b = b + a := by vec
theorem vadd_nil (a : Ledger) : a + nil = a := by vec
theorem nil_vadd (a : Ledger) : nil + a = a := by rw [vadd_comm, vadd_nil]
theorem vadd_neg (a : Ledger) : a + -a = nil := by vec
theorem vneg_add (a b : Ledger) : -(a + b) = -a + -b := by vec

/-! Sums of ledgers that agree up to order, bracketing and `nil` are closed by `ac_rfl`; what is added and taken away
    again is cancelled first, by the lemmas below. -/
instance : Std.Associative (α := Ledger) (· + ·) := ⟨vadd_assoc⟩
instance : Std.Commutative (α := Ledger) (· + ·) := ⟨vadd_comm⟩
instance : Std.LawfulIdentity (α := Ledger) (· + ·) nil := { left_id := nil_vadd, right_id := vadd_nil }

theorem vadd_right_comm (a b c : Ledger) : a + b + c = a + c + b := by ac_rfl
theorem vadd_neg_cancel (x a : Ledger) : x + a + -a = x := by rw [vadd_assoc, vadd_neg, vadd_nil]
theorem vadd_tele (x a b : Ledger) : x + a + b + -a = x + b := by
  rw [vadd_right_comm x a b, vadd_neg_cancel]
theorem vadd_tele0 (a b : Ledger) : a + b + -a = b := by rw [vadd_comm a b, vadd_neg_cancel]
theorem vneg_vadd (a : Ledger) : -a + a = nil := by rw [vadd_comm, vadd_neg]
theorem vadd_bracket (a b : Ledger) : -a + b + a = b := by rw [vadd_comm _ b, vadd_assoc, vneg_vadd, vadd_nil]
theorem vadd_right_cancel {a b c : Ledger} (h : a + c = b + c) : a = b := by
  rw [← vadd_neg_cancel a c, h, vadd_neg_cancel]

@[simp] theorem vsum_nil : vsum [] = nil := rfl
@[simp] theorem vsum_cons (x : Ledger) (xs : List Ledger) : vsum (x :: xs) = x + vsum xs := rfl
theorem vsum_append (xs ys : List Ledger) : vsum (xs ++ ys) = vsum xs + vsum ys := by
  induction xs with
  | nil => exact (nil_vadd _).symm
  | cons x xs ih => rw [List.cons_append, vsum_cons, ih, vsum_cons, vadd_assoc]

theorem vsum_perm {xs ys : List Ledger} (h : xs.Perm ys) : vsum xs = vsum ys := by
  induction h with
  | nil => rfl
  | cons x _ ih => rw [vsum_cons, vsum_cons, ih]
  | swap x y l => simp only [vsum_cons]; ac_rfl
  | trans _ _ ih1 ih2 => rw [ih1, ih2]

theorem vsum_map_nil {α} (f : α → Ledger) (l : List α) (h : ∀ x ∈ l, f x = nil) : vsum (l.map f) = nil := by
  induction l with
  | nil => rfl
  | cons x xs ih =>
    rw [List.map_cons, vsum_cons, h x (by simp), ih (fun y hy => h y (by simp [hy])), vadd_nil]

@[simp] theorem ownSum_nil : ownSum [] = nil := rfl
@[simp] theorem ownSum_cons (b : Buf) (bs : List Buf) : ownSum (b :: bs) = ownVec b + ownSum bs := rfl
theorem ownSum_append (a b : List Buf) : ownSum (a ++ b) = ownSum a + ownSum b := by
  simp only [ownSum, List.map_append, vsum_append]

@[simp] theorem allocVec_getC (b : Buf) : (allocVec b).getC = 0 := rfl
@[simp] theorem allocVec_getS (b : Buf) : (allocVec b).getS = 0 := rfl
@[simp] theorem allocVec_setC (b : Buf) : (allocVec b).setC = 0 := rfl
@[simp] theorem allocVec_setS (b : Buf) : (allocVec b).setS = 0 := rfl
@[simp] theorem allocVec_flushC (b : Buf) : (allocVec b).flushC = 0 := rfl
@[simp] theorem allocVec_flushS (b : Buf) : (allocVec b).flushS = 0 := rfl
@[simp] theorem allocVec_tokens (b : Buf) : (allocVec b).tokens = 0 := rfl
@[simp] theorem allocVec_heap (n : Nat) : allocVec { cap := n, inC := false } = nil := rfl

@[simp] theorem vec_tokens (c : Ctr) (d : Int) : (c.vec d).tokens = 0 := by cases c <;> rfl
@[simp] theorem ownVec_tokens (b : Buf) : (ownVec b).tokens = 0 := rfl

theorem vsum_tokens_zero {α} (f : α → Ledger) : ∀ l : List α, (∀ x ∈ l, (f x).tokens = 0) → (vsum (l.map f)).tokens = 0
  | [], _ => rfl
  | x :: xs, h => by
    rw [List.map_cons, vsum_cons, add_tokens, h x List.mem_cons_self,
      vsum_tokens_zero f xs fun y hy => h y (List.mem_cons_of_mem _ hy)]
    rfl

theorem ownSum_tokens (bs : List Buf) : (ownSum bs).tokens = 0 := vsum_tokens_zero ownVec bs fun _ _ => rfl

theorem ownSum_proj (bs : List Buf) : (ownSum bs).getC = 0 ∧ (ownSum bs).getS = 0 ∧ (ownSum bs).setC = 0
    ∧ (ownSum bs).setS = 0 ∧ (ownSum bs).flushC = bs.length := by
  induction bs with
  | nil => simp
  | cons b bs ih => simp [ownVec, ih]; omega

open Proto.Ledger

theorem delta_tokGet : delta .tokGet = -tok := by vec
theorem tokGet_eq (l : Ledger) : l.tokGet = l + -tok := by unfold tokGet; vec
theorem tokPut_eq (l : Ledger) : l.tokPut = l + tok := by unfold tokPut; vec
theorem setAdd_eq (l : Ledger) (n : Nat) : l.setAdd n = l + setVec (heap n) := by unfold setAdd; vec
theorem setSub_eq (l : Ledger) (n : Nat) : l.setSub n = l + -setVec (heap n) := by unfold setSub; vec
theorem getAdd_eq (l : Ledger) (n : Nat) : l.getAdd n = l + heldVec (heap n) := by unfold getAdd; vec
theorem getSub_eq (l : Ledger) (n : Nat) : l.getSub n = l + -heldVec (heap n) := by unfold getSub; vec
theorem flushAdd_eq (l : Ledger) (n : Nat) : l.flushAdd n = l + ownVec (heap n) := by unfold flushAdd; vec
theorem flushSub_eq (l : Ledger) (n : Nat) : l.flushSub n = l + -ownVec (heap n) := by unfold flushSub; vec

theorem alloc_buf (cfg : Cfg) (l : Ledger) (n : Nat) : (l.alloc cfg n).2 = bufOf cfg n := by
  unfold alloc bufOf; split <;> simp [*]
theorem alloc_led (cfg : Cfg) (l : Ledger) (n : Nat) : (l.alloc cfg n).1 = l + allocVec (bufOf cfg n) := by
  unfold alloc bufOf allocVec; by_cases h : n ≤ cfg.bodyInC <;> simp [h] <;> vec
/-- the `if` inside `Proto.acquire` and `Proto.own` -/
theorem countC_eq (l : Ledger) (b : Buf) :
    (if b.inC then { l with allocC := l.allocC + 1, allocS := l.allocS + b.cap } else l) = l + allocVec b := by
  unfold allocVec; cases h : b.inC <;> simp <;> vec
theorem free_eq (l : Ledger) (b : Buf) : l.free b = l + -allocVec b := by
  unfold free allocVec; cases h : b.inC <;> simp <;> vec

theorem setVec_split (b : Buf) : setVec b = allocVec b + setVec (heap b.cap) := by vec
theorem heldVec_split (b : Buf) : heldVec b = allocVec b + heldVec (heap b.cap) := by vec
theorem ownVec_split (b : Buf) : ownVec b = allocVec b + ownVec (heap b.cap) := by vec

theorem acquire_eq (l : Ledger) (b : Buf) : Proto.acquire l b = l + heldVec b := by
  rw [Proto.acquire, countC_eq, getAdd_eq, heldVec_split b, vadd_assoc]
theorem releaseRead_eq (l : Ledger) (b : Buf) : Proto.releaseRead l b = l + -heldVec b := by
  rw [Proto.releaseRead, free_eq, getSub_eq, heldVec_split b, vneg_add]; ac_rfl

theorem foldl_vadd {β} {op : Ledger → β → Ledger} {f : β → Ledger} (h : ∀ l b, op l b = l + f b) (bs : List β) (l : Ledger) :
    bs.foldl op l = l + vsum (bs.map f) := by
  induction bs generalizing l with
  | nil => exact (vadd_nil l).symm
  | cons b bs ih => rw [List.foldl_cons, ih, h, List.map_cons, vsum_cons, vadd_assoc]

theorem vsum_map_neg {β} (f : β → Ledger) (bs : List β) : vsum (bs.map fun b => -f b) = -vsum (bs.map f) := by
  induction bs with
  | nil => show nil = -nil; vec
  | cons b bs ih => rw [List.map_cons, vsum_cons, ih, List.map_cons, vsum_cons, vneg_add]

end LedgerConc
