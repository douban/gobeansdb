/-
  Lazy Merkle tree (C08): the CONTENT side.
  `LeavesInv`: every leaf's (count, hash) is the sum over its items (`TreeLemmas.LeafInv`) and every item sits in
  the leaf its key hash routes to.  Under it, the fold of leaf summaries (`subSum`) IS the specification
  `Tree.nodeSum` of the content (the items of all leaves), and `collectItems` lists exactly the content under a prefix.
  Levels are counted from both ends: a node at level `l` has `below` levels under it, `l + below + 1 = height`.
-/
import GoBeans.Lemmas.HTreeImplBase
namespace HTreeImplLemmas
open Tree TreeLemmas HTreeImpl

theorem topDigits_offsetAt (kh depth k : Nat) (h : depth + k ≤ 16) :
    topDigits kh (depth + k) = topDigits kh depth * 16 ^ k + offsetAt kh depth k := by
  induction k with
  | zero => rw [Nat.pow_zero, Nat.mul_one]; rfl
  | succ k ih =>
    rw [← Nat.add_assoc, topDigits_step kh (depth + k) h, ih (Nat.le_of_succ_le h), offsetAt, ← child_prefix]
    rfl

theorem topDigits_parent {kh n b l o i : Nat} (hn : n < 16) (hi : i < 16)
    (h : topDigits kh (n + 1) = b * 16 ^ (l + 1) + (o * 16 + i)) : topDigits kh n = b * 16 ^ l + o := by
  rw [← topDigits_succ kh n hn, h, ← child_prefix, mul16_add_div _ _ hi]

structure LeavesInv (t : HTree) : Prop where
  leaf : ∀ j, LeafInv (t.leaf j)
  routed : ∀ j, ∀ x ∈ (t.leaf j).items,
    topDigits x.khash (t.depth + t.height - 1) = t.bucketID * 16 ^ (t.height - 1) + j

theorem leafInv_default : LeafInv ({} : Leaf) := leaf_init

theorem leavesInv_congr {s t : HTree} (h : s.leaves = t.leaves) (hp : SameParams t s) (inv : LeavesInv t) : LeavesInv s := by
  refine ⟨fun j => by rw [leaf_congr h]; exact inv.leaf j, ?_⟩
  intro j x hx
  rw [leaf_congr h] at hx
  rw [hp.depth, hp.bid, hp.height]
  exact inv.routed j x hx

theorem leavesInv_setLeaf (t : HTree) (off : Nat) (lf : Leaf) (inv : LeavesInv t) (h1 : LeafInv lf)
    (h2 : ∀ x ∈ lf.items, topDigits x.khash (t.depth + t.height - 1) = t.bucketID * 16 ^ (t.height - 1) + off) :
    LeavesInv (t.setLeaf off lf) := by
  refine ⟨?_, ?_⟩
  · intro j
    rw [leaf_setLeaf]
    split
    · exact h1
    · exact inv.leaf j
  · intro j x hx
    rw [leaf_setLeaf] at hx
    show topDigits x.khash (t.depth + t.height - 1) = t.bucketID * 16 ^ (t.height - 1) + j
    split at hx
    · rename_i hc; rw [← hc.1]; exact h2 x hx
    · exact inv.routed j x hx

/-- the items below the node that is `below` levels above the leaves at offset `o`, in leaf order -/
def sub (t : HTree) (below o : Nat) : Content :=
  ((t.leaves.drop (o * 16 ^ below)).take (16 ^ below)).flatMap (·.items)

theorem sub_congr {s t : HTree} (h : s.leaves = t.leaves) (below o : Nat) : sub s below o = sub t below o := by
  unfold sub; rw [h]

theorem content_congr {s t : HTree} (h : s.leaves = t.leaves) : content s = content t := by
  unfold content; rw [h]

theorem concat_slices (ls : List Leaf) (a m k : Nat) :
    (List.range k).flatMap (fun i => (ls.drop (a + i * m)).take m) = (ls.drop a).take (k * m) := by
  induction k with
  | zero => simp
  | succ k ih =>
    rw [List.range_succ, List.flatMap_append, ih]
    simp only [List.flatMap_cons, List.flatMap_nil, List.append_nil]
    rw [Nat.succ_mul, List.take_add, List.drop_drop]

theorem sub_succ (t : HTree) (below o : Nat) :
    sub t (below + 1) o = (List.range 16).flatMap (fun i => sub t below (o * 16 + i)) := by
  unfold sub
  have := concat_slices t.leaves (o * 16 ^ (below + 1)) (16 ^ below) 16
  rw [show 16 * 16 ^ below = 16 ^ (below + 1) by rw [Nat.pow_succ, Nat.mul_comm]] at this
  rw [← this, List.flatMap_assoc]
  congr 1
  funext i
  rw [Nat.add_mul, Nat.pow_succ, Nat.mul_assoc, Nat.mul_comm 16 (16 ^ below)]

theorem sub_zero (t : HTree) (o : Nat) : sub t 0 o = (t.leaf o).items := by
  unfold sub HTree.leaf
  rw [Nat.pow_zero, Nat.mul_one, List.take_one, List.head?_drop, List.getD_eq_getElem?_getD]
  cases t.leaves[o]? with
  | none => rfl
  | some a => exact List.append_nil _

theorem content_eq_sub (t : HTree) (hs : Shape t) : content t = sub t t.inner.length 0 := by
  unfold content sub
  rw [Nat.zero_mul, List.drop_zero, ← hs.leaves, List.take_length]

theorem sub_routed (t : HTree) (hs : Shape t) (inv : LeavesInv t) : ∀ (below l o : Nat), l + below + 1 = t.height →
    ∀ x ∈ sub t below o, topDigits x.khash (t.depth + l) = t.bucketID * 16 ^ l + o := by
  intro below
  induction below with
  | zero =>
    intro l o hl x hx
    rw [sub_zero] at hx
    have := inv.routed o x hx
    rw [← hl] at this
    exact this
  | succ b ih =>
    intro l o hl x hx
    rw [sub_succ, List.mem_flatMap] at hx
    obtain ⟨i, hi, hx⟩ := hx
    have h1 := ih (l + 1) (o * 16 + i) (by rw [Nat.add_right_comm l 1 b]; exact hl) x hx
    have hb := hs.bound
    exact topDigits_parent (by omega) (List.mem_range.mp hi) h1

theorem flatMap_single {α : Type} (n i : Nat) (hi : i < n) (X : List α) :
    (List.range n).flatMap (fun j => if j = i then X else []) = X := by
  induction n with
  | zero => omega
  | succ n ih =>
    rw [List.range_succ, List.flatMap_append]
    simp only [List.flatMap_cons, List.flatMap_nil, List.append_nil]
    by_cases h : i = n
    · subst h
      have : (List.range i).flatMap (fun j => if j = i then X else []) = [] := by
        rw [List.flatMap_eq_nil_iff]
        intro j hj
        rw [if_neg (Nat.ne_of_lt (List.mem_range.mp hj))]
      rw [this, if_pos rfl]; rfl
    · rw [ih (by omega), if_neg (fun h' => h h'.symm), List.append_nil]

theorem under_sub_child (t : HTree) (hs : Shape t) (inv : LeavesInv t) (below l o i : Nat) (hl : l + 1 + below + 1 = t.height)
    (hi : i < 16) :
    under (sub t (below + 1) o) (t.depth + (l + 1)) (t.bucketID * 16 ^ (l + 1) + (o * 16 + i)) = sub t below (o * 16 + i) := by
  rw [sub_succ]
  unfold under
  rw [List.filter_flatMap]
  have : (fun j => (sub t below (o * 16 + j)).filter (fun e => topDigits e.khash (t.depth + (l + 1)) == t.bucketID * 16 ^ (l + 1) + (o * 16 + i)))
       = (fun j => if j = i then sub t below (o * 16 + i) else []) := by
    funext j
    by_cases hj : j = i
    · subst hj
      rw [if_pos rfl, List.filter_eq_self]
      intro x hx
      rw [sub_routed t hs inv below (l + 1) (o * 16 + j) hl x hx]
      exact beq_self_eq_true _
    · rw [if_neg hj, List.filter_eq_nil_iff]
      intro x hx
      rw [sub_routed t hs inv below (l + 1) (o * 16 + j) hl x hx]
      exact fun h => hj (by have := beq_iff_eq.mp h; omega)
  rw [this, flatMap_single 16 i hi]

theorem under_refine (c : Content) {n m p q : Nat} (h : ∀ x ∈ c, topDigits x.khash m = q → topDigits x.khash n = p) :
    under (under c n p) m q = under c m q := by
  unfold under
  rw [List.filter_filter]
  refine List.filter_congr (fun x hx => ?_)
  by_cases hq : topDigits x.khash m = q
  · rw [beq_iff_eq.mpr hq, beq_iff_eq.mpr (h x hx hq)]; rfl
  · rw [beq_false_of_ne hq]; rfl

theorem under_content (t : HTree) (hs : Shape t) (inv : LeavesInv t) : ∀ (below l o : Nat), l + below + 1 = t.height →
    o < 16 ^ l → under (content t) (t.depth + l) (t.bucketID * 16 ^ l + o) = sub t below o := by
  intro below l
  induction l generalizing below with
  | zero =>
    intro o hl ho
    obtain rfl : o = 0 := Nat.lt_one_iff.mp ho
    obtain rfl : below = t.inner.length := by rw [height_eq] at hl; omega
    rw [content_eq_sub t hs]
    exact List.filter_eq_self.mpr (fun x hx => by rw [sub_routed t hs inv _ 0 0 hl x hx]; exact beq_self_eq_true _)
  | succ l ih =>
    intro o hl ho
    -- the node is child `o % 16` of the node `o / 16` one level up: filter what is below the parent
    have hb := hs.bound
    have ho2 : o % 16 < 16 := Nat.mod_lt _ (by decide)
    have hsub := under_sub_child t hs inv below l (o / 16) (o % 16) hl ho2
    rw [Nat.div_add_mod' o 16] at hsub
    rw [← hsub, ← ih (below + 1) (o / 16) (by rw [← hl]; omega) (by rw [Nat.pow_succ] at ho; omega)]
    exact (under_refine _ (fun x _ h => topDigits_parent (by omega) ho2 (by rw [Nat.div_add_mod' o 16]; exact h))).symm

theorem under_root (t : HTree) (hs : Shape t) (inv : LeavesInv t) : under (content t) t.depth t.bucketID = content t := by
  have := under_content t hs inv t.inner.length 0 0 (by rw [Nat.zero_add]; rfl) Nat.one_pos
  rwa [Nat.pow_zero, Nat.mul_one, Nat.add_zero, Nat.add_zero, ← content_eq_sub t hs] at this

theorem nodeSum_eq_subSum (t : HTree) (hs : Shape t) (inv : LeavesInv t) : ∀ (below l o : Nat), l + below + 1 = t.height →
    o < 16 ^ l → nodeSum (content t) (t.depth + l) (t.bucketID * 16 ^ l + o) below = subSum (lv t) below o := by
  intro below
  induction below with
  | zero =>
    intro l o hl ho
    show leafSum (under (content t) (t.depth + l) (t.bucketID * 16 ^ l + o)) = lv t o
    rw [under_content t hs inv 0 l o hl ho, sub_zero]
    exact (inv.leaf o).summary.symm
  | succ b ih =>
    intro l o hl ho
    rw [nodeSum_succ]
    unfold subSum
    congr 1
    apply List.map_congr_left
    intro i hi
    rw [← ih (l + 1) (o * 16 + i) (by rw [Nat.add_right_comm l 1 b]; exact hl) (child_lt ho (List.mem_range.mp hi)),
      child_prefix]
    rfl

theorem collectItems_eq (t : HTree) (keep : Ent → Bool) : ∀ (below o : Nat),
    collectItems t keep below o = (sub t below o).filter keep := by
  intro below
  induction below with
  | zero => intro o; rw [sub_zero]; rfl
  | succ b ih =>
    intro o
    rw [sub_succ, List.filter_flatMap]
    unfold collectItems
    congr 1
    funext i
    exact ih (o * 16 + i)

theorem leafOffset_lt (t : HTree) (kh : Nat) (hs : Shape t) : leafOffset t kh < t.leaves.length := by
  rw [hs.leaves]
  exact offsetAt_lt _ _ _

theorem leafOffset_of_mem (t : HTree) (hs : Shape t) (inv : LeavesInv t) (j : Nat) (hj : j < t.leaves.length) (x : Ent)
    (hx : x ∈ (t.leaf j).items) : leafOffset t x.khash = j := by
  have h1 : topDigits x.khash (t.depth + t.inner.length) = t.bucketID * 16 ^ t.inner.length + j := inv.routed j x hx
  have hb := hs.bound
  have hlt := offsetAt_lt x.khash t.depth t.inner.length
  rw [hs.leaves] at hj
  rw [height_eq] at hb
  rw [topDigits_offsetAt _ t.depth _ (by omega)] at h1
  have e := congrArg (· % 16 ^ t.inner.length) h1
  simp only [Nat.mul_add_mod_self_right, Nat.mod_eq_of_lt hj, Nat.mod_eq_of_lt hlt] at e
  exact e

/-- `A`, `B`: the items of the leaves before and behind leaf `leafOffset t kh`, also for a `kh` that does not belong to
    the bucket (the digits below the bucket's part decide); `t1` is `t` after `getLeafAndInvalidNodes` -/
theorem content_at_leaf (t t1 : HTree) (kh : Nat) (hs : Shape t) (inv : LeavesInv t) (hl : t1.leaves = t.leaves) :
    ∃ A B, (∀ lf, content (t1.setLeaf (leafOffset t kh) lf) = A ++ (lf.items ++ B)) ∧
      content t = A ++ ((t.leaf (leafOffset t kh)).items ++ B) ∧
      ∀ X : List Ent, (A ++ (X ++ B)).filter (fun x => x.khash != kh) = A ++ (X.filter (fun x => x.khash != kh) ++ B) := by
  have hlt := leafOffset_lt t kh hs
  have hset : ∀ lf, content (t1.setLeaf (leafOffset t kh) lf) = (t.leaves.take (leafOffset t kh)).flatMap (·.items) ++
      (lf.items ++ (t.leaves.drop (leafOffset t kh + 1)).flatMap (·.items)) := by
    intro lf
    unfold content HTree.setLeaf
    simp only [hl, List.set_eq_take_append_cons_drop, hlt, if_true, List.flatMap_append, List.flatMap_cons]
  have key : ∀ j (hj : j < t.leaves.length), j ≠ leafOffset t kh → ∀ x ∈ (t.leaves[j]'hj).items, x.khash ≠ kh := by
    intro j hj hne x hx hkx
    rw [← leaf_getElem t j hj] at hx
    exact hne (hkx ▸ leafOffset_of_mem t hs inv j hj x hx).symm
  have hA : ∀ x ∈ (t.leaves.take (leafOffset t kh)).flatMap (·.items), x.khash ≠ kh := by
    intro x hx
    obtain ⟨lf, hlf, hx⟩ := List.mem_flatMap.mp hx
    obtain ⟨j, hj, rfl⟩ := List.mem_take_iff_getElem.mp hlf
    exact key j (by omega) (by omega) x hx
  have hB : ∀ x ∈ (t.leaves.drop (leafOffset t kh + 1)).flatMap (·.items), x.khash ≠ kh := by
    intro x hx
    obtain ⟨lf, hlf, hx⟩ := List.mem_flatMap.mp hx
    obtain ⟨j, hj, rfl⟩ := List.mem_drop_iff_getElem.mp hlf
    exact key _ (by omega) (by omega) x hx
  refine ⟨_, _, hset, ?_, fun X => ?_⟩
  · have := hset (t1.leaf (leafOffset t kh))
    rwa [setLeaf_self, content_congr hl, leaf_congr hl] at this
  · rw [List.filter_append, List.filter_append, filter_ne_self _ _ hA, filter_ne_self _ _ hB]

end HTreeImplLemmas
