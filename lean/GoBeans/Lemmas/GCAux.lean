/-
  The invariant `PInv` of a pass in progress, on top of the bookkeeping of Lemmas/GCPass.lean: the tree describes the last
  record of every key of the virtual log (`VInv`); what GC has written into files of the range is current (`CurT`) and
  stays so until the pass ends (C18); nothing below the first destination and nothing at or above the file being read is
  touched, the first destination only grows (C17, `Touch`).  What it leaves when writing ends: `gcRun_post`.
-/
import GoBeans.Lemmas.GCPass
import GoBeans.Lemmas.GCRange
namespace StoreLemmas
open Store Spec

/-- the touch set (C17) of a pass from `b0` with first destination `d0` that has read the files below `src`: `c i` is
    what file `i` is, `v i` the records it will hold.  `pfx` only when `d0` lies below the range: a first destination
    inside it is rewritten in place. -/
structure Touch (b0 : Bucket) (d0 begin src : Nat) (c : Nat → Chunk) (v : Nat → List (Nat × Rec)) : Prop where
  low : ∀ i, i < d0 → c i = b0.chunks i
  high : ∀ i, src ≤ i → c i = b0.chunks i
  pfx : d0 < begin → ∃ ext, v d0 = (b0.chunks d0).recs ++ ext

theorem Touch.refl (b0 : Bucket) (d0 begin src : Nat) : Touch b0 d0 begin src b0.chunks (fun i => (b0.chunks i).recs) :=
  ⟨fun _ _ => rfl, fun _ _ => rfl, fun _ => ⟨[], (List.append_nil _).symm⟩⟩

theorem Touch.frame {b0 : Bucket} {d0 begin src src' : Nat} {c c' : Nat → Chunk} {v v' : Nat → List (Nat × Rec)}
    (h : Touch b0 d0 begin src c v) (hs : src ≤ src') (hc : ∀ i, i < d0 ∨ src' ≤ i → c' i = c i)
    (hv : d0 < begin → v' d0 = v d0) : Touch b0 d0 begin src' c' v' :=
  ⟨fun i hi => (hc i (Or.inl hi)).trans (h.low i hi), fun i hi => (hc i (Or.inr hi)).trans (h.high i (Nat.le_trans hs hi)),
   fun hd => hv hd ▸ h.pfx hd⟩

/-- `kept` speaks of the files of the range only: the files below it are in the decided part as they were, superseded
    records and all. -/
structure PInv (hash : Key → Nat) (K : Key → Prop) (P : Key → Int → Nat → Rec → Prop) (N : Key → Prop) (cfg : Store.Cfg)
    (begin : Nat) (b0 : Bucket) (d0 : Nat) (s : GcSt) (src : Nat) (rest : List (Nat × Rec)) : Prop where
  sinv : SInv cfg s src rest
  vinv : VInv hash K P N (vlog s src rest) s.b.tree
  kept : ∀ y ∈ preV s src, begin ≤ y.1.chunk → CurT hash begin s.b.tree y
  bsrc : begin ≤ src
  head : s.b.head = b0.head
  dmono : d0 ≤ s.dst
  touch : Touch b0 d0 begin src s.b.chunks (vrecs s)

def RangeCur (hash : Key → Nat) (begin stop : Nat) (b : Bucket) : Prop :=
  ∀ y ∈ b.log, begin ≤ y.1.chunk → y.1.chunk ≤ stop → CurT hash begin b.tree y

/-- what the pass leaves.  `wf`, `vinv` (with the same `P` and `N` facts: content of the record, version, agreement with
    the reference): C03; `touch`: C17; `cur`: C18 -/
structure GcPost (hash : Key → Nat) (K : Key → Prop) (P : Key → Int → Nat → Rec → Prop) (N : Key → Prop) (cfg : Store.Cfg)
    (begin stop : Nat) (b b' : Bucket) : Prop where
  wf : WF cfg b'
  vinv : VInv hash K P N b'.log b'.tree
  head : b'.head = b.head
  touch : Touch b (gcDst cfg b begin) begin (stop + 1) b'.chunks (fun i => (b'.chunks i).recs)
  cur : RangeCur hash begin stop b'

section Pass
variable {hash : Key → Nat} {K : Key → Prop} {P : Key → Int → Nat → Rec → Prop} {N : Key → Prop} {cfg : Store.Cfg}
  {begin : Nat} {b0 : Bucket} {d0 : Nat}

theorem PInv.same {s s1 : GcSt} {src : Nat} {rest : List (Nat × Rec)} (h : PInv hash K P N cfg begin b0 d0 s src rest)
    (h1 : SInv cfg s1 src rest) (e : SameVlog s s1 src) : PInv hash K P N cfg begin b0 d0 s1 src rest := by
  have hdm := h.dmono
  have hbs := h.bsrc
  refine ⟨h1, ?_, ?_, h.bsrc, e.head.trans h.head, Nat.le_trans h.dmono e.dst,
    h.touch.frame (Nat.le_refl _) (fun i hi => e.frame i (by omega)) (fun hd => e.below d0 (by omega))⟩
  · rw [e.vlog, e.tree]; exact h.vinv
  · intro y hy hc
    rw [e.pre] at hy
    rw [e.tree]; exact h.kept y hy hc

theorem PInv.drop {s : GcSt} {src off : Nat} {r : Rec} {rest : List (Nat × Rec)} (st : GcStats)
    (h : PInv hash K P N cfg begin b0 d0 s src ((off, r) :: rest))
    (hn : ¬ CurT hash begin s.b.tree (({ chunk := src, off := off } : Pos), r)) :
    PInv hash K P N cfg begin b0 d0 { s with stats := st } src rest :=
  ⟨sinv_stats st (sinv_tail h.sinv),
   vinv_drop (vlog_cons s src off r rest ▸ h.vinv) hn
     (fun hb y hy => (show CurT hash 0 s.b.tree y from hb ▸ h.kept y hy (by omega)).known),
   h.kept, h.bsrc, h.head, h.dmono, h.touch⟩

theorem PInv.keep (hInj : InjOn hash K)
    {s : GcSt} {src off : Nat} {r : Rec} {rest : List (Nat × Rec)}
    (h : PInv hash K P N cfg begin b0 d0 s src ((off, r) :: rest)) (hfit : r.size + s.wh ≤ cfg.dataFileMax)
    (hcur : CurT hash begin s.b.tree (({ chunk := src, off := off } : Pos), r)) :
    PInv hash K P N cfg begin b0 d0 (keepRec hash s r) src rest := by
  unfold keepRec
  obtain ⟨k1, k2⟩ := keep_spec (repointed s.b.tree (hash r.key) { chunk := s.dst, off := s.wh }) h.sinv hfit
  have hv := h.vinv
  rw [vlog_cons] at hv
  refine ⟨k1, ?_, ?_, h.bsrc, h.head, h.dmono, h.touch.low, h.touch.high, ?_⟩
  · unfold vlog
    rw [k2, List.append_assoc]
    exact vinv_keep hInj hv hcur _ (wh_fresh h.sinv)
  · intro y hy hc
    rw [k2, List.mem_append] at hy
    rcases hy with hy | hy
    · exact curT_repointed hv.nodup hcur _ (List.mem_append_left _ hy) (h.kept y hy hc)
    · rw [List.mem_singleton] at hy
      subst hy; exact curT_repointed_self hcur _
  · intro hd
    obtain ⟨ext, he⟩ := h.touch.pfx hd
    exact ⟨ext ++ (if d0 = s.dst then [(s.wh, r)] else []), by rw [vrecs_keepSt, he, List.append_assoc]⟩

theorem PInv.record (hInj : InjOn hash K)
    {s : GcSt} {src off : Nat} {r : Rec} {rest : List (Nat × Rec)}
    (h : PInv hash K P N cfg begin b0 d0 s src ((off, r) :: rest)) :
    PInv hash K P N cfg begin b0 d0 (gcRecord hash cfg begin src s off r) src rest := by
  by_cases hcur : CurT hash begin s.b.tree (({ chunk := src, off := off } : Pos), r)
  · rw [gcRecord_keep hcur]
    obtain ⟨f1, f2, f3⟩ := fit_spec (recStats s r true) h.sinv
    exact (h.same f1 f2).keep hInj f3 (by rw [f2.tree]; exact hcur)
  · rw [gcRecord_drop hcur]
    exact h.drop _ hcur

theorem PInv.next {s : GcSt} {src : Nat} (h : PInv hash K P N cfg begin b0 d0 s src []) (hlt : src < s.b.head)
    {b' : Bucket} (c : Cleared s src b') :
    PInv hash K P N cfg begin b0 d0 { s with b := b' } (src + 1) (b'.chunks (src + 1)).recs := by
  obtain ⟨a1, a2, a3⟩ := advance b' h.sinv hlt c.head c.other c.here
  have hdle := h.sinv.dle
  have hdm := h.dmono
  have hbs := h.bsrc
  refine ⟨a1, ?_, ?_, by omega, c.head.trans h.head, h.dmono,
    h.touch.frame (Nat.le_succ _) (fun i hi => c.other i (by omega)) (fun hd => vrecs_congr (c.other d0 (by omega)))⟩
  · rw [a2]
    show VInv hash K P N _ b'.tree
    rw [c.tree]; exact h.vinv
  · intro y hy hc
    rw [a3] at hy
    show CurT hash begin b'.tree y
    rw [c.tree]; exact h.kept y hy hc

theorem PInv.start {b : Bucket} (w : WF cfg b) (hb : begin ≤ b.head) {d : Nat} (hd : d ≤ begin)
    (hbetween : ∀ j, d < j → j < begin → (b.chunks j).size = 0) (hv : VInv hash K P N b.log b.tree) (st : GcStats) :
    PInv hash K P N cfg begin b d (gcBegin b d begin st) begin ((gcBegin b d begin st).b.chunks begin).recs := by
  refine ⟨gcBegin_sinv w st hb hd hbetween ⟨0, by rw [gcBegin_recs]; exact w.ok begin⟩,
    by rw [vlog_gcBegin b d st hb, gcBegin_tree]; exact hv, ?_, Nat.le_refl _, gcBegin_head _ _ _ _,
    by rw [gcBegin_dst]; exact Nat.le_refl _,
    (Touch.refl b d begin begin).frame (Nat.le_refl _) (fun i hi => gcBegin_frame b st hd hi) (vrecs_gcBegin b d begin st)⟩
  intro y hy hc
  rw [preV_gcBegin] at hy
  have := mem_flatMap_range_chunk b begin y hy
  omega

end Pass

theorem records_induct {I : GcSt → List (Nat × Rec) → Prop} {hash : Key → Nat} {cfg : Store.Cfg} {begin src : Nat}
    (hrec : ∀ s off r rest, I s ((off, r) :: rest) → I (gcRecord hash cfg begin src s off r) rest) :
    ∀ rest s, I s rest → I (gcRecs hash cfg begin src s rest) []
  | [], _, h => h
  | (off, r) :: rest, s, h => records_induct hrec rest _ (hrec s off r rest h)

/-- the conclusion speaks of the state as it stands before file `stop + 1`, destination below it: the form in which
    `log_endWriting` turns the virtual log into the log -/
theorem files_induct {I : GcSt → Nat → List (Nat × Rec) → Prop} {hash : Key → Nat} {cfg : Store.Cfg} {begin stop : Nat}
    (hbs : begin ≤ stop) (hsinv : ∀ s src rest, I s src rest → SInv cfg s src rest)
    (hrec : ∀ s src off r rest, src ≤ stop → I s src ((off, r) :: rest) → I (gcRecord hash cfg begin src s off r) src rest)
    (hnext : ∀ s src b', src ≤ stop → I s src [] → Cleared s src b' →
      I { s with b := b' } (src + 1) (b'.chunks (src + 1)).recs)
    {s0 : GcSt} (h0 : I s0 begin (s0.b.chunks begin).recs) :
    I (gcFiles hash cfg begin s0 (stop + 1 - begin)) (stop + 1)
        ((gcFiles hash cfg begin s0 (stop + 1 - begin)).b.chunks (stop + 1)).recs
      ∧ (gcFiles hash cfg begin s0 (stop + 1 - begin)).dst < stop + 1 := by
  have key : ∀ n, begin + n ≤ stop + 1 →
      I (gcFiles hash cfg begin s0 n) (begin + n) ((gcFiles hash cfg begin s0 n).b.chunks (begin + n)).recs
      ∧ (0 < n → (gcFiles hash cfg begin s0 n).dst < begin + n) := by
    intro n
    induction n with
    | zero => exact fun _ => ⟨h0, fun h => by omega⟩
    | succ n ih =>
      intro hn
      have ih := (ih (by omega)).1
      rw [gcFiles_succ]
      generalize gcFiles hash cfg begin s0 n = s at ih
      obtain ⟨b', e, c⟩ := gcFile_shape hash cfg begin s (begin + n) (hsinv _ _ _ ih).wf.posInv.nil_of_size
      have hr := records_induct (I := fun s rest => I s (begin + n) rest)
        (fun s off r rest => hrec s (begin + n) off r rest (by omega)) _ s ih
      rw [e]
      exact ⟨hnext _ (begin + n) b' (by omega) hr c, fun _ => Nat.lt_succ_of_le (hsinv _ _ _ hr).dle⟩
  have := key (stop + 1 - begin) (by omega)
  rw [show begin + (stop + 1 - begin) = stop + 1 by omega] at this
  exact ⟨this.1, this.2 (by omega)⟩

section Post
variable {hash : Key → Nat} {K : Key → Prop} {P : Key → Int → Nat → Rec → Prop} {N : Key → Prop}

theorem gcRun_post (hInj : InjOn hash K) (cfg : Store.Cfg)
    {b : Bucket} (w : WF cfg b) (begin stop : Nat) (hbs : begin ≤ stop) (hs : stop < b.head)
    (hv : VInv hash K P N b.log b.tree) :
    GcPost hash K P N cfg begin stop b (gcRun hash cfg b begin stop).1 := by
  rw [gcRun_eq]
  obtain ⟨h, hdlt⟩ := files_induct (I := PInv hash K P N cfg begin b (gcDst cfg b begin)) hbs
    (fun _ _ _ h => h.sinv) (fun _ _ _ _ _ _ h => h.record hInj)
    (fun _ _ _ hsrc h c => h.next (by rw [h.head]; omega) c)
    (PInv.start w (by omega) (gcDst_spec cfg b begin).1 (gcDst_spec cfg b begin).2 hv {})
  generalize gcFiles hash cfg begin (gcBegin b (gcDst cfg b begin) begin {}) (stop + 1 - begin) = s at h hdlt
  have e2 := log_endWriting h.sinv.hsrc hdlt
  have hdm := h.dmono
  refine ⟨endWriting_wf h.sinv, by rw [e2, endWriting_tree]; exact h.vinv, by rw [endWriting_head]; exact h.head,
    h.touch.frame (Nat.le_refl _) (fun i hi => endWriting_other s i (by omega)) (fun _ => endWriting_vrecs s _), ?_⟩
  intro y hy h1 h2
  rw [e2] at hy
  rw [endWriting_tree]
  rcases List.mem_append.mp hy with hy | hy
  · exact h.kept y hy h1
  · have := le_chunk_of_mem_unread hy; omega

end Post
end StoreLemmas
