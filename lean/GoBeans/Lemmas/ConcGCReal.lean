/-
  The schedules of engine `concgc` (harness/cmd/hx/concgc.go; corpus/C05/schedules-concgc.txt, one `case` per schedule,
  each a second time through the request path as `<case>-api`) evaluated in Model/ConcGC.lean.

  The examples `ConcGC.Ex` (Lemmas/ConcGC.lean) use DataFileMax = 6 blocks and BodyMax = 0.  The real store needs
  BodyMax >= every body (config.IsValidValueSize in DataStreamReader.Next) and GC's "the file before the range is not
  full" test is size < DataFileMax - BodyMax (gc.go:226).  The controlled-schedule runs on the real store therefore use
  DataFileMax = 6 blocks, BodyMax = 3 blocks, and 5-block records (a 768-byte body under a 240-byte key).  This file
  evaluates the model on exactly those schedules (without the `spawn` decisions of the post-rotation flushers, which
  never take a step in them, except thread 6 of the cold-flush schedule, invoked here as in `Ex.ce_coldflush_fatal`):
  the model predicts what the real store did (the Lean driver Driver/ConcGCE.lean compares every observation after every
  decision of the real runs; these theorems state the outcomes).  One schedule of `Ex` is NOT reproducible on the real
  store (`unflushed_exact_model_says`).
-/
import GoBeans.Lemmas.ConcGC

namespace ConcGC
namespace ExReal
open ConcFine
open ConcGC.Ex (gos ggo wr rd fl)

def cfgR : GCfg := { fine := { dataFileMax := 6 }, bodyMax := 3 }

def del (t k : Nat) : List (Nat × Act) := [(t, .call (.delete k 0))] ++ gos t 7

/-- keys 1, 3: short; key 2: 240 bytes (5 blocks with a 768-byte body, 2 blocks with a 4-byte body).
    file 0 = [key1 (2 blocks)], file 1 = [key2 v1 (5), key3 (1)], head file 2 = [key2 v2 (2)]; files 0, 1 flushed -/
def setupN : List (Nat × Act) := wr 1 1 11 1 ++ wr 1 2 12 4 ++ wr 1 3 13 0 ++ wr 1 2 22 1 ++ fl 3 0 1 ++ fl 3 1 2

example : let s := exec cfgR init setupN
    s.base.newHead = 2 ∧ (s.base.chunks 0).fsize = 2 ∧ (s.base.chunks 1).fsize = 6 ∧ pickDst cfgR s.base.chunks 1 = 0 := by
  decide +kernel

/-- case `control`: a write inside the window, nobody parked across the pass -/
theorem control_ok :
    let s := exec cfgR init (setupN ++ [(0, .gcStart 1 1)] ++ ggo 7 ++ wr 4 3 33 0 ++ ggo 10 ++ rd 5 3)
    noHaz s ∧ s.fails = 0 ∧ s.base.fatal = false ∧ s.gc.pc = .done ∧ s.base.tree 3 = some ⟨2, ⟨2, 2⟩⟩ ∧
    (histOf s.base 3).map (·.out) = [.acc 1, .acc 2, .got 33 2] := by
  unfold noHaz; decide +kernel

/-- case `stale-reader` (REPRODUCED: `open 001.data: no such file or directory`) -/
theorem stale_reader_fails :
    let s := exec cfgR init (setupN ++ [(0, .gcStart 1 1)] ++ ggo 7 ++ [(2, .call (.read 3)), (2, .go)] ++ wr 4 3 33 0 ++
                             ggo 10 ++ gos 2 2 ++ rd 5 3)
    noHaz s ∧ s.fails = 1 ∧ s.gc.pc = .done ∧ s.base.tree 3 = some ⟨2, ⟨2, 2⟩⟩ := by
  unfold noHaz; decide +kernel

/-- case `coldflush` (REPRODUCED: Fatalf "wrong data file size, exp 768, got 512") -/
theorem coldflush_fatal :
    let s := exec cfgR init (setupN ++ [(0, .gcStart 1 1)] ++ ggo 7 ++ [(6, .call (.flush (some 0) true false))] ++
                             gos 6 4 ++ ggo 1 ++ gos 6 1)
    s.hazCold = true ∧ s.hazInplace = false ∧ s.hazReuse = false ∧ s.base.fatal = true ∧
    (s.base.chunks 0).size = 3 ∧ (s.base.chunks 0).fsize = 2 := by decide +kernel

/-- `Ex.ce_unflushed_lost` with the sizes of the real runs (case `unflushed`): file 1 has NEVER been flushed.
    The MODEL says: the stream reader sees an empty file, Clear drops the buffer, the get of key 3 fails.
    The REAL store does not do that: 001.data does not exist (GetStreamWriter creates a data file only at its first
    flush), `GetStreamReader` (gc.go:265, datafile.go:186 os.Open) fails, the pass returns with gc.Err before any
    Clear, nothing is lost (trace: `gcdone:err:open_HOME/001.data:_no_such_file_or_directory`, then `got:13,1`).
    LEFT OUT of the model: "the file does not exist".  A statement ABOUT THE MODEL, not about the code. -/
theorem unflushed_exact_model_says :
    let s := exec cfgR init (wr 1 1 11 1 ++ wr 1 2 12 4 ++ wr 1 3 13 0 ++ wr 1 2 22 1 ++ fl 3 0 1 ++
                             [(0, .gcStart 1 1)] ++ ggo 10 ++ rd 5 3)
    s.hazCold = true ∧ s.gc.pc = .done ∧ s.fails = 1 ∧ (s.base.chunks 1).wbuf = [] := by decide +kernel

/-- case `unflushed-partial` (REPRODUCED): file 1 was flushed once while it was the head (key2 v1 on disk),
    key3 is still in its buffer at the rotation, the post-rotation flush has not run; gc(1,1): the reader sees the
    flushed prefix only, Clear drops the buffer with key3 and removes the file: the acknowledged write of key 3 is
    lost (the item points at nothing; real: `open 001.data: no such file`, also after a restart) -/
theorem unflushed_partial_lost :
    let s := exec cfgR init (wr 1 1 11 1 ++ wr 1 2 12 4 ++ fl 3 1 1 ++ wr 1 3 13 0 ++ wr 1 2 22 1 ++ fl 3 0 1 ++
                             [(0, .gcStart 1 1)] ++ ggo 11 ++ rd 5 3)
    s.hazCold = true ∧ s.hazInplace = false ∧ s.hazReuse = false ∧ s.gc.pc = .done ∧
    s.base.tree 3 = some ⟨1, ⟨1, 5⟩⟩ ∧ (s.base.chunks 1).wbuf = [] ∧ (s.base.chunks 1).file = [] ∧ s.fails = 1 := by
  decide +kernel

/-- schedule `unflushed-opened` of notes/REPORT-concgc-engine.md (REPRODUCED there; not among the cases of the corpus file):
    the post-rotation flusher of file 1 (thread 7) has opened = CREATED the file and is parked before its size check: now
    the file exists and is empty, and the real pass does what the model says: Clear drops both buffered records; key 3 is
    lost; the flusher then finds nothing to write -/
theorem unflushed_opened_lost :
    let s := exec cfgR init (wr 1 1 11 1 ++ wr 1 2 12 4 ++ wr 1 3 13 0 ++ wr 1 2 22 1 ++ fl 3 0 1 ++
                             [(7, .call (.flush (some 1) true false))] ++ gos 7 4 ++
                             [(0, .gcStart 1 1)] ++ ggo 10 ++ gos 7 8 ++ rd 5 3 ++ rd 5 2)
    s.hazCold = true ∧ s.gc.pc = .done ∧ s.base.fatal = false ∧ (s.base.chunks 1).wbuf = [] ∧ s.fails = 1 ∧
    (histOf s.base 2).map (·.out) = [.acc 1, .acc 2, .got 22 2] := by decide +kernel

/-- file 0 = [key1 v1 (1 block), key2 (3 blocks at offset 1), key1 v2 (1)], head file 1 = [key5 (2)] -/
def setupI : List (Nat × Act) := wr 1 1 11 0 ++ wr 1 2 12 2 ++ wr 1 1 21 0 ++ wr 1 5 15 1 ++ fl 3 0 3

/-- case `inplace` (REPRODUCED: `bad key size HOME/000.data:256`): a get of key 2 between the file write of its
    copy at offset 0 and the repoint reads the middle of the new copy -/
theorem inplace_get_fails :
    let s := exec cfgR init (setupI ++ [(0, .gcStart 0 0)] ++ ggo 10 ++ rd 2 2)
    s.hazInplace = true ∧ s.hazCold = false ∧ s.hazReuse = false ∧ s.fails = 1 ∧
    s.gc.pc = .gMove ⟨2, 1, 12, 1, 3⟩ 0 ∧ s.base.tree 2 = some ⟨1, ⟨0, 1⟩⟩ := by decide +kernel

/-- ... and after the pass everything is where it belongs (real: got 12 / version 1, got 21 / version 2, also after a restart) -/
theorem inplace_after :
    let s := exec cfgR init (setupI ++ [(0, .gcStart 0 0)] ++ ggo 10 ++ rd 2 2 ++ ggo 12 ++ rd 5 2 ++ rd 5 1)
    s.gc.pc = .done ∧ s.fails = 1 ∧ (s.base.chunks 0).file = [⟨2, 1, 12, 0, 3⟩, ⟨1, 2, 21, 3, 1⟩] ∧
    (histOf s.base 2).map (·.out) = [.acc 1, .got 12 1] ∧ (histOf s.base 1).map (·.out) = [.acc 1, .acc 2, .got 21 2] := by
  decide +kernel

/-- key 7: 240 bytes (5 blocks with a 768-byte body).  file 0 = [key9 (2 blocks)] is "not full" for GC (2 + 3 < 6) but
    cannot take key 7; file 1 = [key7 v1 (5), key8 v1 (1)], file 2 = [key7 v2 (5), key8 v2 (1)], head 3 = [key6];
    reader 2 holds key 7's item (version 1, position 1:0) and has not read yet -/
def setupR : List (Nat × Act) :=
  wr 1 9 19 1 ++ wr 1 7 17 4 ++ wr 1 8 18 0 ++ [(2, .call (.read 7)), (2, .go)] ++ wr 1 7 27 4 ++ wr 1 8 28 0 ++
  wr 1 6 16 0 ++ fl 3 0 1 ++ fl 3 1 2 ++ fl 3 2 2

def sR : State := exec cfgR init (setupR ++ [(0, .gcStart 1 2)] ++ ggo 22 ++ gos 2 2)

/-- case `reuse`: a file the pass has emptied becomes its destination, ABA on positions (REPRODUCED: reader 2 replies value
    27 under version 1) -/
theorem reuse_wrong_pair :
    sR.hazReuse = true ∧ sR.hazInplace = false ∧ sR.hazCold = false ∧ sR.fails = 0 ∧ sR.base.clock ≤ 1000 ∧
    (histAt sR.base 7 1000).map (·.out) = [.acc 1, .got 27 1, .acc 2] ∧
    Conc.checkA (histAt sR.base 7 1000) = false := by decide +kernel

/-- case `reuse-delete` (no counterpart in `Ex`): the same ABA through the IN-PLACE path with a DELETE marker (REPRODUCED:
    reader 2 gets a payload with version +1 and an EMPTY body: StorageClient.Get hands the client an item).
    file 0 = [key9 (4 blocks)] is full for GC (4 + 3 >= 6): gc(1,2) rewrites file 1 = [key7 v1 (3), key8 v1 (3)] in
    place, keeps nothing of it, truncates it to 0 (dropStaleTail), and the first kept record of file 2 = [key7 delete
    marker (1), key8 v2 (3)] lands at 1:0, the position reader 2 took before the delete.  The reader checks the key
    only (bucket.go:451) and overwrites the record's version with the item's (bucket.go:453): a live reply (version 1)
    with the delete marker's empty body, a value no write ever stored -/
def setupD : List (Nat × Act) :=
  wr 1 9 19 3 ++ wr 1 7 17 2 ++ wr 1 8 18 2 ++ [(2, .call (.read 7)), (2, .go)] ++ del 1 7 ++ wr 1 8 28 2 ++
  wr 1 6 16 2 ++ fl 3 0 1 ++ fl 3 1 2 ++ fl 3 2 2

def schedD : List (Nat × Act) := setupD ++ [(0, .gcStart 1 2)] ++ ggo 18 ++ gos 2 2
def sD : State := exec cfgR init schedD

theorem reuse_delete_unwritten_value :
    sD.hazInplace = true ∧ sD.hazReuse = false ∧ sD.hazCold = false ∧ sD.fails = 0 ∧ sD.base.clock ≤ 1000 ∧
    sD.base.tree 7 = some ⟨-2, ⟨1, 0⟩⟩ ∧ (sD.base.chunks 1).file = [⟨7, -2, 0, 0, 1⟩] ∧
    (histAt sD.base 7 1000).map (·.out) = [.acc 1, .got 0 1, .acc 2] ∧
    Conc.checkA (histAt sD.base 7 1000) = false := by decide +kernel

theorem C05_inplace_statement_false : ¬ C05_inplace_statement := by
  intro h
  have hb : cfgR.blind = false := rfl
  have hx := reuse_delete_unwritten_value
  unfold sD at hx
  have h1 := (h cfgR schedD 7 1000 hb hx.2.2.1 hx.2.1 hx.2.2.2.2.1).1
  rw [hx.2.2.2.2.2.2.2.2] at h1
  exact Bool.noConfusion h1

end ExReal
end ConcGC
