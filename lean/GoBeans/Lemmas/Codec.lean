/-
  C09, the record codec: `header r` is six little-endian fields in a row (`hdr`) and a record with `ValidSizes` fills
  whole 256-byte blocks; wherever a file goes on with `encode r`, `readRecordAt` returns `r` (`decodeAt_encode`), and
  a scan that stands before a run of records yields them and goes on behind them (`scanFrom_records`); one `Next()`
  gets over damaged blocks (`Junk`) to the record behind them (`next_seg`) or finds none (`next_junk`).
-/
import GoBeans.Model.Codec
import GoBeans.Lemmas.GoBytes
open Codec
open Go (drop_next)

namespace CodecLemmas

abbrev le4 (v : Nat) : Bytes := Go.leBytes 4 v
abbrev z4 : Bytes := [0, 0, 0, 0]

theorem le4_length (v : Nat) : (le4 v).length = 4 := Go.leBytes_length 4 v

def hdr (crc : Bytes) (r : Rec) : Bytes :=
  crc ++ le4 r.ts.toNat ++ le4 r.flag.toNat ++ le4 r.ver.toUInt32.toNat ++ le4 r.ksz.toNat ++ le4 r.vsz.toNat

theorem len4 (l : Bytes) (h : l.length = 4) : ∃ a b c d, l = [a, b, c, d] := by
  match l, h with
  | [a, b, c, d], _ => exact ⟨a, b, c, d, rfl⟩

/-- the five field writes of `encodeHeader`; with the bytes named, `simp` evaluates the splices from the inside out -/
theorem put_chain (t f v k s : Bytes) (ht : t.length = 4) (hf : f.length = 4)
    (hv : v.length = 4) (hk : k.length = 4) (hs : s.length = 4) :
    (Go.splice (Go.splice (Go.splice (Go.splice (Go.splice zeroHeader 4 t) 8 f) 12 v) 16 k) 20 s)
      = z4 ++ t ++ f ++ v ++ k ++ s := by
  obtain ⟨t0, t1, t2, t3, rfl⟩ := len4 t ht
  obtain ⟨f0, f1, f2, f3, rfl⟩ := len4 f hf
  obtain ⟨v0, v1, v2, v3, rfl⟩ := len4 v hv
  obtain ⟨k0, k1, k2, k3, rfl⟩ := len4 k hk
  obtain ⟨s0, s1, s2, s3, rfl⟩ := len4 s hs
  simp [Go.splice, zeroHeader, Gen.recHeaderSize, List.replicate]

theorem put_crc (c rest : Bytes) (hc : c.length = 4) : Go.splice (z4 ++ rest) 0 c = c ++ rest := by
  obtain ⟨c0, c1, c2, c3, rfl⟩ := len4 c hc
  simp [Go.splice]

theorem header_eq (r : Rec) :
    header r = hdr (le4 (Gen.getCRC (hdr z4 r) r.key r.body).toNat) r := by
  unfold header Gen.encodeHeader hdr
  simp only [Id.run, pure, Go.putU32]
  rw [put_chain _ _ _ _ _ (le4_length _) (le4_length _) (le4_length _) (le4_length _) (le4_length _)]
  simpa [List.append_assoc] using put_crc _ _ (le4_length _)

theorem header_length (r : Rec) : (header r).length = 24 := by
  rw [header_eq]; simp [hdr, le4_length]

def recLen (r : Rec) : Nat := 24 + r.key.length + r.body.length

/-- `klen` and `blen` keep `uint32(len(key))` and `uint32(len(body))` (`Rec.ksz`, `Rec.vsz`) and the padded size from
    wrapping; `kok` and `vok`, the checks of the code, are made on the converted sizes, with an arbitrary `cfg`, and do
    not imply them. -/
structure ValidSizes (cfg : Cfg) (r : Rec) : Prop where
  klen : r.key.length < 2^16
  blen : r.body.length < 2^31
  kok : Gen.IsValidKeySize cfg.maxKeyLen r.ksz = true
  vok : Gen.IsValidValueSize cfg.bodyMax r.vsz = true

theorem len_cast (n : Nat) : (Int64.ofNat n).toInt32.toUInt32.toNat = n % 2^32 := by
  simp [UInt32.toNat_ofNat']

theorem sizes_toNat (r : Rec) (h : recLen r + 255 < 2^32) :
    r.sizes.1.toNat = recLen r ∧ r.sizes.2.toNat = (recLen r + 255) / 256 * 256 := by
  unfold Rec.sizes Gen.Sizes recLen at *
  simp only [Id.run, pure]
  have e : (24 : Int64) + Int64.ofNat r.key.length + Int64.ofNat r.body.length = Int64.ofNat (24 + r.key.length + r.body.length) := by
    simp [Int64.ofNat_add]
  rw [e]
  have h1 : (Int64.ofNat (24 + r.key.length + r.body.length)).toInt32.toUInt32.toNat = 24 + r.key.length + r.body.length := by
    rw [len_cast, Nat.mod_eq_of_lt (by omega)]
  refine ⟨h1, ?_⟩
  simp only [Go.shl32, Go.shr32, show (8:Nat) < 32 by decide, if_true]
  rw [UInt32.toNat_shiftLeft, UInt32.toNat_shiftRight, UInt32.toNat_add, h1]
  have e8 : (Nat.toUInt32 8).toNat % 32 = 8 := by decide
  rw [e8, Nat.shiftRight_eq_div_pow, Nat.shiftLeft_eq]
  have : (24 + r.key.length + r.body.length + UInt32.toNat 255) % 2^32 = 24 + r.key.length + r.body.length + 255 :=
    Nat.mod_eq_of_lt h
  rw [this]
  exact Nat.mod_eq_of_lt (Nat.lt_of_le_of_lt (Nat.div_mul_le_self _ 256) h)

theorem dec_chain (c t f v k s : Bytes) (hc : c.length = 4) (ht : t.length = 4) (hf : f.length = 4)
    (hv : v.length = 4) (hk : k.length = 4) (hs : s.length = 4) :
    Gen.decodeHeader (c ++ t ++ f ++ v ++ k ++ s)
      = (Go.getU32 c, Go.getU32 t, Go.getU32 f, (Go.getU32 v).toInt32, Go.getU32 k, Go.getU32 s) := by
  obtain ⟨c0, c1, c2, c3, rfl⟩ := len4 c hc
  obtain ⟨t0, t1, t2, t3, rfl⟩ := len4 t ht
  obtain ⟨f0, f1, f2, f3, rfl⟩ := len4 f hf
  obtain ⟨v0, v1, v2, v3, rfl⟩ := len4 v hv
  obtain ⟨k0, k1, k2, k3, rfl⟩ := len4 k hk
  obtain ⟨s0, s1, s2, s3, rfl⟩ := len4 s hs
  simp [Gen.decodeHeader, Id.run, Go.slice]
  rfl

theorem getU32_le4 (u : UInt32) : Go.getU32 (le4 u.toNat) = u := by
  unfold Go.getU32 le4
  have := Go.getLE_leBytes_of_lt (n := 4) (show u.toNat < 256^4 from u.toNat_lt) []
  rw [List.append_nil] at this
  rw [this]
  exact UInt32.ofNat_toNat

theorem decode_hdr (crc : UInt32) (r : Rec) :
    Gen.decodeHeader (hdr (le4 crc.toNat) r) = (crc, r.ts, r.flag, r.ver, r.ksz, r.vsz) := by
  unfold hdr
  rw [dec_chain _ _ _ _ _ _ (le4_length _) (le4_length _) (le4_length _) (le4_length _) (le4_length _) (le4_length _)]
  simp [getU32_le4]

variable {cfg : Cfg} {r : Rec} {f : Bytes} {off : Nat}

theorem valid_bound (hv : ValidSizes cfg r) : recLen r + 255 < 2^32 := by
  have := hv.klen; have := hv.blen; unfold recLen; omega

theorem ksz_toNat (hv : ValidSizes cfg r) : r.ksz.toNat = r.key.length := by
  unfold Rec.ksz; rw [len_cast, Nat.mod_eq_of_lt (by have := hv.klen; omega)]

theorem vsz_toNat (hv : ValidSizes cfg r) : r.vsz.toNat = r.body.length := by
  unfold Rec.vsz; rw [len_cast, Nat.mod_eq_of_lt (by have := hv.blen; omega)]

theorem padded_facts (hv : ValidSizes cfg r) :
    r.padded = (recLen r + 255) / 256 * 256 ∧ r.padded % 256 = 0 ∧ recLen r ≤ r.padded ∧ r.padded < recLen r + 256 := by
  have := (sizes_toNat r (valid_bound hv)).2
  unfold Rec.padded
  rw [this]
  omega

theorem recLen_le_padded (hv : ValidSizes cfg r) : recLen r ≤ r.padded := (padded_facts hv).2.2.1

theorem padded_ge (hv : ValidSizes cfg r) : 256 ≤ r.padded := by
  have := padded_facts hv
  unfold recLen at *
  omega

theorem encode_eq (hv : ValidSizes cfg r) :
    encode r = header r ++ r.key ++ r.body ++ List.replicate (r.padded - recLen r) 0 := by
  unfold encode
  have hs := sizes_toNat r (valid_bound hv)
  have : (r.sizes.2 - r.sizes.1).toNat = r.padded - recLen r := by
    rw [UInt32.toNat_sub_of_le]
    · rw [hs.1]; rfl
    · rw [UInt32.le_iff_toNat_le, hs.1]; exact recLen_le_padded hv
  simp only [this]

theorem encode_length (hv : ValidSizes cfg r) : (encode r).length = r.padded := by
  rw [encode_eq hv]
  have := recLen_le_padded hv
  simp only [List.length_append, header_length, List.length_replicate]
  unfold recLen at this ⊢
  omega

theorem getCRC_congr (h1 h2 k b : Bytes) (e : h1.drop 4 = h2.drop 4) : Gen.getCRC h1 k b = Gen.getCRC h2 k b := by
  unfold Gen.getCRC
  simp only [Id.run, pure, e]

theorem header_crc (r : Rec) : Gen.getCRC (header r) r.key r.body = Gen.getCRC (hdr z4 r) r.key r.body := by
  apply getCRC_congr
  rw [header_eq]
  simp [hdr, List.append_assoc, le4_length]

theorem decodeAt_encode {post : Bytes} (hv : ValidSizes cfg r) (h : f.drop off = encode r ++ post) :
    decodeAt cfg f off = .ok (r, r.padded) := by
  have hk := ksz_toNat hv
  have hvz := vsz_toNat hv
  have hlen := header_length r
  rw [encode_eq hv] at h
  simp only [List.append_assoc] at h
  have e1 : (f.drop off).take 24 = header r := by rw [h, List.take_left' hlen]
  have e2 : (f.drop (off + 24)).take (r.ksz.toNat + r.vsz.toNat) = r.key ++ r.body := by
    rw [drop_next h hlen, hk, hvz, ← List.append_assoc, List.take_left' (by simp)]
  unfold decodeAt
  simp only [e1]
  rw [header_eq, decode_hdr, ← header_eq]
  simp only [hv.kok, hv.vok, e2, Bool.not_true, Bool.false_eq_true, if_false]
  simp [hk, hvz, header_crc, hlen]

theorem roundtrip_at (cfg : Cfg) (pre post : Bytes) (r : Rec) (hv : ValidSizes cfg r) :
    decodeAt cfg (pre ++ encode r ++ post) pre.length = .ok (r, r.padded) :=
  decodeAt_encode hv (post := post) (by rw [List.append_assoc, List.drop_left' rfl])

theorem ite_error_eq_ok {ε α : Type} {c : Prop} [Decidable c] {e : ε} {x : Except ε α} {v : α} :
    (if c then Except.error e else x) = .ok v ↔ ¬ c ∧ x = .ok v := by
  by_cases h : c <;> simp [h]

/-- `Gen.decodeHeader hd` is (crc, ts, flag, ver, ksz, vsz): `d.2.2.2.2.1` is `ksz`, `d.2.2.2.2.2` is `vsz`.
    `ValidSizes cfg r` does not follow: `cfg` being arbitrary, the size checks do not keep the key below 2^16 bytes. -/
theorem decode_sound (cfg : Cfg) (f : Bytes) (off : Nat) (r : Rec) (n : Nat)
    (h : decodeAt cfg f off = .ok (r, n)) :
    let hd := (f.drop off).take 24
    let d := Gen.decodeHeader hd
    hd.length = 24
    ∧ Gen.IsValidKeySize cfg.maxKeyLen d.2.2.2.2.1 = true ∧ Gen.IsValidValueSize cfg.bodyMax d.2.2.2.2.2 = true
    ∧ r.key ++ r.body = (f.drop (off + 24)).take (d.2.2.2.2.1.toNat + d.2.2.2.2.2.toNat)
    ∧ r.key.length = d.2.2.2.2.1.toNat
    ∧ (r.flag, r.ver, r.ts) = (d.2.2.1, d.2.2.2.1, d.2.1)
    ∧ d.1 = Gen.getCRC hd r.key r.body
    ∧ n = r.padded := by
  intro hd d
  unfold decodeAt at h
  simp only [ite_error_eq_ok, Except.ok.injEq, Prod.mk.injEq] at h
  obtain ⟨hlen, hk, hvv, hkv, hcrc, rfl, hn⟩ := h
  refine ⟨Nat.le_antisymm (List.length_take_le _ _) (Nat.le_of_not_lt hlen), by simpa using hk, by simpa using hvv,
    List.take_append_drop _ _, ?_, rfl, by simpa using hcrc, hn.symm⟩
  show (List.take d.2.2.2.2.1.toNat ((f.drop (off + 24)).take (d.2.2.2.2.1.toNat + d.2.2.2.2.2.toNat))).length = _
  rw [List.length_take]
  exact Nat.min_eq_left (Nat.le_trans (Nat.le_add_right _ _) (Nat.le_of_not_lt hkv))

theorem nextValid_of_ok {fuel : Nat} {sz : Nat} (hl : off < f.length)
    (h : decodeAt cfg f off = .ok (r, sz)) : nextValid cfg f (fuel + 1) off = some (off, r, sz) := by
  simp only [nextValid, hl, if_true, h]

theorem nextValid_of_error {fuel : Nat} {e : RErr} (hl : off < f.length)
    (h : decodeAt cfg f off = .error e) : nextValid cfg f (fuel + 1) off = nextValid cfg f fuel (off + 256) := by
  simp only [nextValid, hl, if_true, h]

theorem next_eof (h : f.drop off = []) : next cfg f off = none := by
  simp [next, h]

/-- the header was read in full, so neither end-of-file guard of `next` fires -/
theorem next_of_ok {sz : Nat} (h : decodeAt cfg f off = .ok (r, sz)) :
    next cfg f off = some (.ok (off, r, off + sz)) := by
  have hl := (decode_sound cfg f off r sz h).1
  rw [List.length_take] at hl
  unfold next
  rw [if_neg (by omega), if_neg (by omega), h]

theorem next_of_error {e : RErr} (hl : 24 ≤ (f.drop off).length) (h : decodeAt cfg f off = .error e) :
    next cfg f off = match nextValid cfg f (f.length / 256 + 2) (off / 256 * 256) with
      | some (o, r, sz) => some (.ok (o, r, o + sz))
      | none => if e = .shortBody then some (.error ()) else none := by
  unfold next
  rw [if_neg (by omega), if_neg (by omega), h]
  cases e <;> cases nextValid cfg f (f.length / 256 + 2) (off / 256 * 256) <;> rfl

theorem scanFrom_ok {fuel o nxt : Nat} (h : next cfg f off = some (.ok (o, r, nxt))) :
    scanFrom cfg f (fuel + 1) off = ((o, r) :: (scanFrom cfg f fuel nxt).1, (scanFrom cfg f fuel nxt).2) := by
  rw [scanFrom, h]

theorem scanFrom_none {fuel : Nat} (h : next cfg f off = none) : scanFrom cfg f (fuel + 1) off = ([], .eof) := by
  rw [scanFrom, h]

theorem scanFrom_error {fuel : Nat} {u : Unit} (h : next cfg f off = some (.error u)) :
    scanFrom cfg f (fuel + 1) off = ([], .error) := by
  rw [scanFrom, h]

theorem scanFrom_eof (fuel : Nat) (h : f.drop off = []) : scanFrom cfg f fuel off = ([], .eof) := by
  cases fuel with
  | zero => rfl
  | succ n => exact scanFrom_none (next_eof h)

def withOffsets : Nat → List Rec → List (Nat × Rec)
  | _, [] => []
  | off, r :: rs => (off, r) :: withOffsets (off + r.padded) rs

theorem encodeAll_cons (r : Rec) (rs : List Rec) : encodeAll (r :: rs) = encode r ++ encodeAll rs := rfl

theorem scanFrom_records {rs : List Rec} {post : Bytes} {fuel : Nat} (hv : ∀ r ∈ rs, ValidSizes cfg r)
    (h : f.drop off = encodeAll rs ++ post) (hf : rs.length ≤ fuel) :
    scanFrom cfg f fuel off =
      (withOffsets off rs ++ (scanFrom cfg f (fuel - rs.length) (off + (encodeAll rs).length)).1,
        (scanFrom cfg f (fuel - rs.length) (off + (encodeAll rs).length)).2) := by
  induction rs generalizing off fuel with
  | nil => rfl
  | cons r rs ih =>
    obtain ⟨n, rfl⟩ : ∃ n, fuel = n + 1 := ⟨fuel - 1, by simp at hf; omega⟩
    have hr := hv r (List.mem_cons_self ..)
    have hl := encode_length hr
    rw [encodeAll_cons, List.append_assoc] at h
    rw [scanFrom_ok (next_of_ok (decodeAt_encode hr h)),
      ih (fun x hx => hv x (List.mem_cons_of_mem _ hx)) (drop_next h hl) (Nat.le_of_succ_le_succ hf),
      encodeAll_cons, List.length_append, hl, Nat.add_assoc, List.length_cons, Nat.succ_sub_succ]
    rfl

theorem encodeAll_length {rs : List Rec} (hv : ∀ r ∈ rs, ValidSizes cfg r) :
    256 * rs.length ≤ (encodeAll rs).length := by
  induction rs with
  | nil => simp [encodeAll]
  | cons r rs ih =>
    have hr := hv r (by simp)
    have := ih (fun x hx => hv x (by simp [hx]))
    have := padded_ge hr
    rw [encodeAll_cons, List.length_append, encode_length hr]
    simp; omega

/-- every record fills at least one block; so the fuel of `scan`, `length / 256 + 2`, covers the records of a file
    and the step that meets the end, with one to spare -/
theorem scan_fuel (pre : Bytes) {rs : List Rec} (hv : ∀ r ∈ rs, ValidSizes cfg r) :
    rs.length ≤ (pre ++ encodeAll rs).length / 256 :=
  (Nat.le_div_iff_mul_le (by decide)).mpr (by
    rw [Nat.mul_comm, List.length_append]
    exact Nat.le_trans (encodeAll_length hv) (Nat.le_add_left _ _))

theorem nextValid_skips {sz k a fuel : Nat} (hf : k < fuel) (hlen : a + 256 * k < f.length)
    (bad : ∀ j, j < k → ∃ e, decodeAt cfg f (a + 256 * j) = .error e)
    (good : decodeAt cfg f (a + 256 * k) = .ok (r, sz)) : nextValid cfg f fuel a = some (a + 256 * k, r, sz) := by
  induction k generalizing a fuel with
  | zero =>
    obtain ⟨n, rfl⟩ : ∃ n, fuel = n + 1 := ⟨fuel - 1, by omega⟩
    exact nextValid_of_ok hlen good
  | succ k ih =>
    obtain ⟨n, rfl⟩ : ∃ n, fuel = n + 1 := ⟨fuel - 1, by omega⟩
    obtain ⟨e, (he : decodeAt cfg f a = .error e)⟩ := bad 0 (Nat.succ_pos k)
    have blk : ∀ j, a + 256 * (j + 1) = a + 256 + 256 * j := fun j => by omega
    rw [nextValid_of_error (by omega) he, blk]
    exact ih (by omega) (blk k ▸ hlen) (fun j hj => blk j ▸ bad (j + 1) (by omega)) (blk k ▸ good)

/-- damage: no 256-aligned offset in [a, b) decodes -/
def Junk (cfg : Cfg) (f : Bytes) (a b : Nat) : Prop :=
  ∀ off, a ≤ off → off < b → off % 256 = 0 → ∃ e, decodeAt cfg f off = .error e

/-- `Junk` from the start of the file -/
def NoFalseSync (cfg : Cfg) (f : Bytes) (upto : Nat) : Prop :=
  ∀ off, off < upto → off % 256 = 0 → ∃ e, decodeAt cfg f off = .error e

theorem NoFalseSync.junk {upto : Nat} (h : NoFalseSync cfg f upto) : Junk cfg f 0 upto :=
  fun off _ => h off

theorem Junk.blocks {a k : Nat} (h : Junk cfg f a (a + 256 * k)) (ha : a % 256 = 0) :
    ∀ j, j < k → ∃ e, decodeAt cfg f (a + 256 * j) = .error e :=
  fun j hj => h _ (Nat.le_add_right _ _) (by omega) (by rw [Nat.add_mul_mod_self_left]; exact ha)

theorem nextValid_none {a : Nat} (fuel : Nat) (ha : a % 256 = 0) (hJ : Junk cfg f a f.length) :
    nextValid cfg f fuel a = none := by
  induction fuel generalizing a with
  | zero => rfl
  | succ n ih =>
    by_cases hl : a < f.length
    · obtain ⟨e, he⟩ := hJ a (Nat.le_refl _) hl ha
      rw [nextValid_of_error hl he]
      exact ih (by omega) fun off h => hJ off (by omega)
    · simp [nextValid, hl]

theorem next_seg {j post : Bytes} (hv : ValidSizes cfg r) (hoff : off % 256 = 0) (hj : j.length % 256 = 0)
    (h : f.drop off = j ++ encode r ++ post) (hJ : Junk cfg f off (off + j.length)) :
    next cfg f off = some (.ok (off + j.length, r, off + j.length + r.padded)) := by
  have hdec : decodeAt cfg f (off + j.length) = .ok (r, r.padded) :=
    decodeAt_encode hv (post := post) (drop_next (by rw [h, List.append_assoc]) rfl)
  by_cases h0 : j.length = 0
  · rw [h0] at hdec ⊢; exact next_of_ok hdec
  · have hge := padded_ge hv
    have hflen := congrArg List.length h
    simp only [List.length_drop, List.length_append, encode_length hv] at hflen
    obtain ⟨k, hk⟩ : ∃ k, j.length = 256 * k := ⟨j.length / 256, by omega⟩
    obtain ⟨e, he⟩ := hJ off (Nat.le_refl _) (by omega) hoff
    rw [next_of_error (by rw [List.length_drop]; omega) he, Nat.div_mul_cancel (Nat.dvd_of_mod_eq_zero hoff)]
    -- the remaining arithmetic is linear: keep the congruence away from `omega`
    rw [hk] at hJ hdec hflen ⊢
    clear hj hk
    rw [nextValid_skips (by omega) (by omega) (hJ.blocks hoff) hdec]

theorem next_junk (hoff : off % 256 = 0) (hl : f.length % 256 = 0) (h0 : off < f.length) (hJ : Junk cfg f off f.length) :
    next cfg f off = none ∨ next cfg f off = some (.error ()) := by
  obtain ⟨e, he⟩ := hJ off (Nat.le_refl _) h0 hoff
  rw [next_of_error (by rw [List.length_drop]; omega) he, Nat.div_mul_cancel (Nat.dvd_of_mod_eq_zero hoff),
    nextValid_none _ hoff hJ]
  by_cases hs : e = .shortBody <;> simp [hs]

theorem scanFrom_junk (fuel : Nat) (hoff : off % 256 = 0) (hl : f.length % 256 = 0) (hJ : Junk cfg f off f.length) :
    (scanFrom cfg f fuel off).1 = [] := by
  cases fuel with
  | zero => rfl
  | succ n =>
    by_cases h0 : f.length ≤ off
    · rw [scanFrom_eof _ (List.drop_eq_nil_of_le h0)]
    · rcases next_junk hoff hl (by omega) hJ with h | h
      · rw [scanFrom_none h]
      · rw [scanFrom_error h]

/-- behind damage WITHOUT a record the scan may end in an error (`next_junk`): hence the premise of the second part -/
theorem scan_junk_records {pre : Bytes} {rs : List Rec} (hpre : pre.length % 256 = 0)
    (hv : ∀ r ∈ rs, ValidSizes cfg r) (hJ : Junk cfg (pre ++ encodeAll rs) 0 pre.length) :
    (scan cfg (pre ++ encodeAll rs) 0).1 = withOffsets pre.length rs ∧
    (pre = [] ∨ rs ≠ [] → (scan cfg (pre ++ encodeAll rs) 0).2 = .eof) := by
  cases rs with
  | nil =>
    simp only [encodeAll, List.foldr_nil, List.append_nil, withOffsets] at *
    refine ⟨scanFrom_junk _ rfl hpre hJ, fun h => ?_⟩
    obtain rfl := h.resolve_right (fun h => h rfl)
    rfl
  | cons r rs =>
    have hr := hv r (List.mem_cons_self ..)
    have hv' := fun x hx => hv x (List.mem_cons_of_mem _ hx)
    -- damaged blocks `pre`, the record behind them, then a run of records to the end of the file
    have h : (pre ++ encodeAll (r :: rs)).drop 0 = pre ++ encode r ++ (encodeAll rs ++ []) := by
      simp [encodeAll_cons]
    have h' : (pre ++ encodeAll (r :: rs)).drop (0 + pre.length + r.padded) = encodeAll rs ++ [] := by
      rw [Nat.add_assoc]; exact drop_next h (by rw [List.length_append, encode_length hr])
    have e : scan cfg (pre ++ encodeAll (r :: rs)) 0 = (withOffsets pre.length (r :: rs), .eof) := by
      rw [scan, scanFrom_ok (next_seg hr rfl hpre h (by rwa [Nat.zero_add])),
        scanFrom_records hv' h' (Nat.le_trans (Nat.le_of_succ_le (scan_fuel pre hv)) (Nat.le_succ _)),
        scanFrom_eof _ (drop_next h' rfl)]
      simp [withOffsets]
    rw [e]
    exact ⟨rfl, fun _ => rfl⟩

theorem roundtrip_scan (cfg : Cfg) (rs : List Rec) (hv : ∀ r ∈ rs, ValidSizes cfg r) :
    scan cfg (encodeAll rs) 0 = (withOffsets 0 rs, .eof) :=
  have ⟨h1, h2⟩ := scan_junk_records (pre := []) rfl hv (fun _ _ h => absurd h (Nat.not_lt_zero _))
  Prod.ext h1 (h2 (.inl rfl))

end CodecLemmas
