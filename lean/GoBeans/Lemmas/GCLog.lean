/-
  GC on the log view: replacing the records of the collected range by the kept ones, relocated, changes what no key
  reads (`gc_preserves_live`).  `lastOf_dup_suffix` is for Props/C07: what a kill during a pass leaves still holds a
  suffix of the records already processed, behind the kept ones.
  That the concrete `gcRun` produces exactly before ++ kept ++ after (`gcAbstract`, Model/LogView.lean) is checked per
  run by the driver (engine seq, kind=model "gc-abstraction"), not proved: the concrete pass is shown to preserve reads
  on its own virtual log (Lemmas/GCStep.lean … GCHistory.lean), whose keep decision `CurT` looks at the tree where
  `gcKeep` looks at the log; no lemma relates the two.
-/
import GoBeans.Lemmas.Log
namespace StoreLemmas
open Store Spec

theorem lastOf_relocate (f : Pos → Pos) (k : Key) (l : List (Pos × Rec)) :
    lastOf k (relocate f l) = (lastOf k l).map (fun x => (f x.1, x.2)) := by
  unfold lastOf relocate
  rw [List.filter_map, List.getLast?_map]
  rfl

theorem itemOfLast_lastOf (k : Key) (l : List (Pos × Rec)) :
    (itemOfLast (lastOf k l)).map (fun it => (it.ver, it.vhash)) = (liveRec k l).map (fun r => (r.ver, vhashOf r.body)) := by
  unfold liveRec
  cases lastOf k l with
  | none => rfl
  | some x =>
    obtain ⟨p, r⟩ := x
    by_cases hv : r.ver > 0 <;> simp [itemOfLast, hv]

theorem replay_eq_of_liveRec (hash : Key → Nat) (K : Key → Prop) (hInj : InjOn hash K) {l l' : List (Pos × Rec)}
    (hl : ∀ x ∈ l, K x.2.key) (hl' : ∀ x ∈ l', K x.2.key) (k : Key) (hk : K k) (h : liveRec k l = liveRec k l') :
    (AMap.get (replayTree hash l) (hash k)).map (fun it => (it.ver, it.vhash))
      = (AMap.get (replayTree hash l') (hash k)).map (fun it => (it.ver, it.vhash)) := by
  rw [replay_get hash K hInj l hl k hk, replay_get hash K hInj l' hl' k hk, itemOfLast_lastOf, itemOfLast_lastOf, h]

theorem keys_relocate_filter {K : Key → Prop} {f : Pos → Pos} {q : Pos × Rec → Bool} {l : List (Pos × Rec)}
    (h : ∀ x ∈ l, K x.2.key) : ∀ x ∈ relocate f (l.filter q), K x.2.key := by
  intro x hx
  unfold relocate at hx
  rw [List.mem_map] at hx
  obtain ⟨y, hy, rfl⟩ := hx
  exact h y (List.mem_filter.mp hy).1

theorem lastOf_filter_of_last {q : Pos × Rec → Bool} {k : Key} {l : List (Pos × Rec)} {r : Pos × Rec}
    (h : lastOf k l = some r) (hq : q r = true) : lastOf k (l.filter q) = some r := by
  unfold lastOf at h ⊢
  rw [List.filter_filter, List.filter_congr (fun x _ => Bool.and_comm _ _), ← List.filter_filter]
  exact getLast?_filter_of_getLast? q h hq

theorem lastOf_filter_none (P : Pos × Rec → Bool) (k : Key) (mid : List (Pos × Rec)) (h : lastOf k mid = none) :
    lastOf k (mid.filter P) = none := by
  rw [lastOf_none_iff] at h ⊢
  intro x hx; exact h x (List.mem_filter.mp hx).1

theorem liveRec_congr {k : Key} {l l' : List (Pos × Rec)} (h : lastOf k l = lastOf k l') : liveRec k l = liveRec k l' := by
  unfold liveRec; rw [h]

theorem liveRec_dead {k : Key} {l : List (Pos × Rec)} {y : Pos × Rec} (h : lastOf k l = some y) (hn : ¬ y.2.ver > 0) :
    liveRec k l = none := by
  unfold liveRec; rw [h]; simp [hn]

theorem liveRec_append (k : Key) (a b : List (Pos × Rec)) :
    liveRec k (a ++ b) = if (lastOf k b).isSome then liveRec k b else liveRec k a := by
  unfold liveRec
  rw [lastOf_append]
  cases lastOf k b <;> simp

theorem liveRec_relocate (f : Pos → Pos) (k : Key) (l : List (Pos × Rec)) : liveRec k (relocate f l) = liveRec k l := by
  unfold liveRec
  rw [lastOf_relocate]
  cases lastOf k l <;> rfl

theorem lastOf_dup_suffix (k : Key) (l tail c : List (Pos × Rec)) :
    lastOf k (l ++ tail ++ (tail ++ c)) = lastOf k (l ++ tail ++ c) := by
  rw [lastOf_append, lastOf_append (a := l ++ tail), lastOf_append (a := tail), lastOf_append (a := l)]
  cases lastOf k c <;> cases lastOf k tail <;> simp

theorem gcKeep_known {hasEntry : Key → Bool} {bp : Bool} {full : List (Pos × Rec)} {x : Pos × Rec}
    (he : hasEntry x.2.key = true) : gcKeep hasEntry bp full x = true ↔ lastOf x.2.key full = some x := by
  simp [gcKeep, he]

theorem gcKeep_unknown {hasEntry : Key → Bool} {bp : Bool} {full : List (Pos × Rec)} {x : Pos × Rec}
    (he : hasEntry x.2.key = false) : gcKeep hasEntry bp full x = true ↔ bp = true ∧ x.2.ver < 0 := by
  simp [gcKeep, he]

/-- `hEntry`: the tree describes last records (a key without tree entry has no live last record: `LastRec`); `hpre`: a
    pass that may drop delete markers (`bp = false`) starts at the first file. -/
theorem gc_preserves_live (hasEntry : Key → Bool) (bp : Bool) (f : Pos → Pos) (before mid after : List (Pos × Rec))
    (hpre : bp = false → before = [])
    (hEntry : ∀ k, hasEntry k = false → ∀ x, lastOf k (before ++ mid ++ after) = some x → x.2.ver < 0)
    (k : Key) :
    liveRec k (before ++ relocate f (mid.filter (gcKeep hasEntry bp (before ++ mid ++ after))) ++ after)
      = liveRec k (before ++ mid ++ after) := by
  rw [liveRec_append _ _ after, liveRec_append _ _ after]
  split
  · rfl
  · rename_i ha
    have ha : lastOf k after = none := by simpa using ha
    rw [liveRec_append, liveRec_append, liveRec_relocate, lastOf_relocate, Option.isSome_map]
    cases hm : lastOf k mid with
    | none => rw [lastOf_filter_none _ k mid hm]; rfl
    | some r =>
      obtain ⟨hrm, hrk⟩ := lastOf_mem hm
      subst hrk
      have hfull : lastOf r.2.key (before ++ mid ++ after) = some r := by
        rw [lastOf_append, lastOf_append, ha, hm]; simp
      cases he : hasEntry r.2.key with
      | true =>
        -- the tree points at `r`: it is kept, and it still shadows whatever `before` holds
        have hk := lastOf_filter_of_last hm ((gcKeep_known (bp := bp) he).2 hfull)
        rw [hk]
        simp only [Option.isSome_some, ↓reduceIte]
        exact liveRec_congr (hk.trans hm.symm)
      | false =>
        -- the tree does not know the key: its last record `r` is not live, nor is anything kept of the key
        have hlt : r.2.ver < 0 := hEntry _ he r hfull
        rw [liveRec_dead hm (by omega)]
        cases hf : lastOf r.2.key (mid.filter (gcKeep hasEntry bp (before ++ mid ++ after))) with
        | some y =>
          obtain ⟨hy, hyk⟩ := lastOf_mem hf
          have := ((gcKeep_unknown (hyk ▸ he)).1 (List.mem_filter.mp hy).2).2
          simp only [Option.isSome_some, ↓reduceIte]
          exact liveRec_dead hf (by omega)
        | none =>
          -- nothing of the key is kept, although `r` is a delete marker: the pass starts at file 0, `before` is empty
          cases hb : bp with
          | true =>
            exact absurd rfl ((lastOf_none_iff _ _).1 hf r
              (List.mem_filter.mpr ⟨hrm, (gcKeep_unknown he).2 ⟨hb, hlt⟩⟩))
          | false => rw [hpre hb]; rfl

end StoreLemmas
