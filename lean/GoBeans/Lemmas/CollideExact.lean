/-
  Restarts, the hint chunk of one data file: it describes EXACTLY the records of the file, in order —
  `CkI`: some cut of the record sequence into consecutive runs, one run per closed split (a written file, or a buffer
  not yet written: its "virtual" file `vfile`), the rest in the newest buffer.  It is `HintLoadLemmas.ChunkInv` with the
  closed splits seen as files: `DiskFull` / `EntOK` are `HintLoadLemmas.DiskInv` / `FileOK` (`diskFull_inv`) without their
  tolerance for missing files (a split without file describes NO record), the newest buffer is `SplitInv` as there.
-/
import GoBeans.Lemmas.CollideHints
import GoBeans.Lemmas.CollideLog
namespace CollideLemmas
open Store Spec HintIndex Collide HintBufferLemmas HintLoadLemmas HintIndexLemmas StoreLemmas

section
variable (hash : Key → Nat)

def vfile (sp : HSplit) : Option SplitFile :=
  match sp.file with
  | some f => some f
  | none => match sp.buf with | some b => fileOfBuf b | none => none

/-- one split (file `f`, or none) against its run `s` of the records `all`; `after` = every record behind the run -/
def EntOK (all s : FileRecs) (f : Option SplitFile) (after : FileRecs) : Prop :=
  match f with
  | none => s = []
  | some f => SplitFileOf hash s f.items ∧ s ≠ [] ∧ (∀ p ∈ s, p.1 + p.2.size ≤ f.datasize) ∧
      (∀ q ∈ after, f.datasize ≤ q.1) ∧ (f.datasize = 0 ∨ ∃ p ∈ all, f.datasize ≤ p.1 + p.2.size)

def DiskFull (all : FileRecs) : List FileRecs → List (Option SplitFile) → FileRecs → Prop
  | [], [], _ => True
  | s :: ss, f :: fs, tail => EntOK hash all s f (ss.flatten ++ tail) ∧ DiskFull all ss fs tail
  | _, _, _ => False

theorem diskFull_iff {all tail : FileRecs} : ∀ {segs : List FileRecs} {fs : List (Option SplitFile)},
    DiskFull hash all segs fs tail ↔ CutInv (fun s after f => EntOK hash all s f after) segs fs tail
  | [], [] => Iff.rfl
  | _ :: _, _ :: _ => and_congr Iff.rfl diskFull_iff
  | [], _ :: _ => Iff.rfl
  | _ :: _, [] => Iff.rfl

theorem diskFull_ind {all tail : FileRecs} {motive : List FileRecs → List (Option SplitFile) → Prop} (nil : motive [] [])
    (cons : ∀ s ss f fs, EntOK hash all s f (ss.flatten ++ tail) → DiskFull hash all ss fs tail → motive ss fs → motive (s :: ss) (f :: fs))
    (segs : List FileRecs) (fs : List (Option SplitFile)) (h : DiskFull hash all segs fs tail) : motive segs fs :=
  cutInv_induction (motive := fun segs fs _ => motive segs fs) nil
    (fun s ss f fs he h' ih => cons s ss f fs he ((diskFull_iff hash).mpr h') ih) segs fs ((diskFull_iff hash).mp h)

theorem diskFull_inv (all : FileRecs) : ∀ (segs : List FileRecs) (fs : List (Option SplitFile)) (tail : FileRecs),
    DiskFull hash all segs fs tail → DiskInv hash all segs fs tail :=
  fun segs fs tail => diskFull_ind hash (motive := fun segs fs => DiskInv hash all segs fs tail) trivial
    (fun s ss f fs he _ ih => ⟨by cases f with | none => trivial | some f => exact he, ih⟩) segs fs

theorem diskFull_length (all : FileRecs) : ∀ (segs : List FileRecs) (fs : List (Option SplitFile)) (tail : FileRecs),
    DiskFull hash all segs fs tail → segs.length = fs.length :=
  fun segs fs tail => diskFull_ind hash (motive := fun segs fs => segs.length = fs.length) rfl
    (fun s ss f fs _ _ ih => by simp [ih]) segs fs

theorem diskFull_mem (all : FileRecs) : ∀ (segs : List FileRecs) (fs : List (Option SplitFile)) (tail : FileRecs),
    DiskFull hash all segs fs tail → ∀ f, f ∈ fs → ∃ s after, EntOK hash all s f after := by
  intro segs fs tail
  refine diskFull_ind hash (motive := fun _ fs => ∀ f, f ∈ fs → ∃ s after, EntOK hash all s f after)
    (fun f hf => by cases hf) ?_ segs fs
  intro s ss f0 fs he _ ih f hf
  rcases List.mem_cons.mp hf with rfl | hf
  · exact ⟨s, _, he⟩
  · exact ih f hf

theorem diskFull_imp {all all' tail tail' : FileRecs}
    (h : ∀ s f after, EntOK hash all s f (after ++ tail) → EntOK hash all' s f (after ++ tail')) :
    ∀ (segs : List FileRecs) (fs : List (Option SplitFile)), DiskFull hash all segs fs tail → DiskFull hash all' segs fs tail' :=
  diskFull_ind hash (motive := fun segs fs => DiskFull hash all' segs fs tail') (by simp [DiskFull])
    (fun s ss f fs he _ ih => by simp only [DiskFull]; exact ⟨h s f _ he, ih⟩)

/- the last clause of `EntOK` (and `SplitInv.bound`): a `datasize` is 0 or reached by the end of a record of the file, so a
   record appended behind all of `all` lies behind every split (`bound_after`) -/
theorem bound_le {all : FileRecs} {d B : Nat} (hB : ∀ x ∈ all, x.1 + x.2.size ≤ B)
    (hb : d = 0 ∨ ∃ p ∈ all, d ≤ p.1 + p.2.size) : d ≤ B := by
  rcases hb with a | ⟨p, hp, hle⟩
  · omega
  · have := hB p hp; omega

theorem bound_after {all after : FileRecs} {d : Nat} {p : Nat × Rec} (hp : ∀ x ∈ all, x.1 + x.2.size ≤ p.1)
    (hb : d = 0 ∨ ∃ p ∈ all, d ≤ p.1 + p.2.size) (ha : ∀ q ∈ after, d ≤ q.1) : ∀ q ∈ after ++ [p], d ≤ q.1 := by
  intro q hq
  rcases List.mem_append.mp hq with hq | hq
  · exact ha q hq
  · rw [List.mem_singleton.mp hq]; exact bound_le hp hb

theorem bound_mono {all all' : FileRecs} {d : Nat} (hsub : ∀ p ∈ all, p ∈ all')
    (hb : d = 0 ∨ ∃ p ∈ all, d ≤ p.1 + p.2.size) : d = 0 ∨ ∃ p ∈ all', d ≤ p.1 + p.2.size :=
  hb.imp id fun ⟨p, hp, hle⟩ => ⟨p, hsub p hp, hle⟩

theorem entOK_mono {all all' s : FileRecs} {f : Option SplitFile} {after : FileRecs} (hsub : ∀ p ∈ all, p ∈ all')
    (h : EntOK hash all s f after) : EntOK hash all' s f after := by
  cases f with
  | none => exact h
  | some f =>
    obtain ⟨a1, a2, a3, a4, a5⟩ := h
    exact ⟨a1, a2, a3, a4, bound_mono hsub a5⟩

theorem diskFull_mono {all all' : FileRecs} (hsub : ∀ p ∈ all, p ∈ all') :
    ∀ (segs : List FileRecs) (fs : List (Option SplitFile)) (tail : FileRecs),
      DiskFull hash all segs fs tail → DiskFull hash all' segs fs tail :=
  fun segs fs _ => diskFull_imp hash (fun _ _ _ => entOK_mono hash hsub) segs fs

theorem entOK_after {all s : FileRecs} {f : Option SplitFile} {after : FileRecs} (p : Nat × Rec)
    (hp : ∀ x ∈ all, x.1 + x.2.size ≤ p.1) (h : EntOK hash all s f after) : EntOK hash all s f (after ++ [p]) := by
  cases f with
  | none => exact h
  | some f =>
    obtain ⟨a1, a2, a3, a4, a5⟩ := h
    exact ⟨a1, a2, a3, bound_after hp a5 a4, a5⟩

theorem diskFull_after {all : FileRecs} (p : Nat × Rec) (hp : ∀ x ∈ all, x.1 + x.2.size ≤ p.1) :
    ∀ (segs : List FileRecs) (fs : List (Option SplitFile)) (tail : FileRecs),
      DiskFull hash all segs fs tail → DiskFull hash all segs fs (tail ++ [p]) :=
  fun segs fs tail => diskFull_imp hash
    (fun s f after h => by rw [← List.append_assoc]; exact entOK_after hash p hp h) segs fs

theorem diskFull_snoc (all : FileRecs) (s : FileRecs) (f : Option SplitFile) (tail : FileRecs)
    (segs : List FileRecs) (fs : List (Option SplitFile)) (h : DiskFull hash all segs fs (s ++ tail))
    (he : EntOK hash all s f tail) : DiskFull hash all (segs ++ [s]) (fs ++ [f]) tail :=
  (diskFull_iff hash).mpr (cutInv_snoc ((diskFull_iff hash).mp h) he)

theorem splitInv_items_of_nil {scan : Bool} {all rest : FileRecs} {b : Buf} (h : SplitInv hash scan all [] rest b) : b.items = [] := by
  simpa [dedupLast] using h.perm

theorem entOK_of_splitInv {scan : Bool} {all s after : FileRecs} {b : Buf} (h : SplitInv hash scan all s after b) :
    EntOK hash all s (fileOfBuf b) after := by
  have hf := splitInv_fileOK hash h
  unfold fileOfBuf at hf ⊢
  by_cases he : b.items.isEmpty = true
  · rw [if_pos he]; exact splitInv_nil hash h he
  · rw [if_neg he] at hf ⊢; exact hf

/-- the hint chunk `ck` describes the records `pre` of the data file `all = pre ++ rest` (the records `rest` are still to
    come); `scan`: the newest buffer is fed by a data scan (`buildHintFromData`) / by the write path -/
def CkI (scan : Bool) (all pre rest : FileRecs) (ck : HCk) : Prop :=
  ∃ (segs : List FileRecs) (segLast : FileRecs), segs.flatten ++ segLast = pre ∧
    DiskFull hash all segs (ck.old.map vfile) (segLast ++ rest) ∧ SplitInv hash scan all segLast rest ck.last

theorem ckI_empty (scan : Bool) (all : FileRecs) : CkI hash scan all [] all {} :=
  ⟨[], [], rfl, by simp [DiskFull], splitInv_empty hash scan all all⟩

theorem splitInv_mono {scan : Bool} {all all' s after : FileRecs} {b : Buf} (hsub : ∀ p ∈ all, p ∈ all')
    (h : SplitInv hash scan all s after b) : SplitInv hash scan all' s after b :=
  ⟨h.binv, h.perm, h.lower, h.upper, bound_mono hsub h.bound⟩

theorem ckI_mono {scan : Bool} {all all' pre rest : FileRecs} {ck : HCk} (hsub : ∀ p ∈ all, p ∈ all')
    (h : CkI hash scan all pre rest ck) : CkI hash scan all' pre rest ck := by
  obtain ⟨segs, segLast, h1, h2, h3⟩ := h
  exact ⟨segs, segLast, h1, diskFull_mono hash hsub _ _ _ h2, splitInv_mono hash hsub h3⟩

theorem ckI_grow {scan : Bool} {all pre rest : FileRecs} {ck : HCk} (p : Nat × Rec) (hp : ∀ x ∈ all, x.1 + x.2.size ≤ p.1)
    (h : CkI hash scan all pre rest ck) : CkI hash scan (all ++ [p]) pre (rest ++ [p]) ck := by
  obtain ⟨segs, segLast, h1, h2, h3⟩ := h
  refine ckI_mono hash (fun x hx => List.mem_append_left _ hx)
    ⟨segs, segLast, h1, ?_, h3.binv, h3.perm, h3.lower, bound_after hp h3.bound h3.upper, h3.bound⟩
  rw [← List.append_assoc]; exact diskFull_after hash p hp segs _ _ h2

theorem ckI_file {scan : Bool} {all pre rest : FileRecs} {ck : HCk} (h : CkI hash scan all pre rest ck) {sp : HSplit} (hsp : sp ∈ ck.old)
    {f : SplitFile} (hf : sp.file = some f) : ∃ s after, EntOK hash all s (some f) after := by
  obtain ⟨segs, segLast, _, h2, _⟩ := h
  exact diskFull_mem hash all segs _ _ h2 (some f) (List.mem_map.mpr ⟨sp, hsp, by unfold vfile; rw [hf]⟩)

theorem vfile_bufsplit (b : Buf) : vfile ({ buf := some b, file := none } : HSplit) = fileOfBuf b := rfl
theorem vfile_filesplit (f : SplitFile) : vfile (mkSplit f) = some f := rfl

theorem ckI_setItem {scan : Bool} {all pre rest : FileRecs} {ck : HCk} (cap : Nat) (hcap : 1 ≤ cap) (p : Nat × Rec)
    (hpa : p ∈ all) (hps : 0 < p.2.size) (hnext : ∀ q ∈ rest, p.1 + p.2.size ≤ q.1)
    (h : CkI hash scan all pre (p :: rest) ck) :
    CkI hash scan all (pre ++ [p]) rest (ck.setItem cap (mkItem hash scan p) p.2.size).1 := by
  obtain ⟨segs, segLast, h1, h2, h3⟩ := h
  unfold HCk.setItem
  rcases splitInv_setItem hash scan cap hcap p hpa hps hnext h3 with ⟨ha, e⟩ | ⟨ha, e1, e2⟩
  · simp only [ha, if_true]
    exact ⟨segs, segLast ++ [p], by simp [← h1], by simpa using h2, e⟩
  · simp only [ha, Bool.false_eq_true, if_false]
    refine ⟨segs ++ [segLast], [p], by simp [← h1], ?_, e2⟩
    simp only [List.map_append, List.map_cons, List.map_nil, vfile_bufsplit]
    exact diskFull_snoc hash all segLast _ ([p] ++ rest) segs _ h2 (entOK_of_splitInv hash e1)

theorem vfile_dumpIf (sp : HSplit) : vfile (dumpIf sp) = vfile sp := by
  unfold dumpIf
  split
  · next hn =>
    obtain ⟨buf, file⟩ := sp
    cases file <;> cases buf <;> simp [HSplit.needDump] at hn
    simp [HSplit.dumped, vfile, fileOfBuf, hn]
  · rfl

theorem ckI_dumpOld {scan : Bool} {all pre rest : FileRecs} {ck : HCk} (h : CkI hash scan all pre rest ck) :
    CkI hash scan all pre rest { ck with old := ck.old.map dumpIf } := by
  obtain ⟨segs, segLast, h1, h2, h3⟩ := h
  refine ⟨segs, segLast, h1, ?_, h3⟩
  show DiskFull hash all segs ((ck.old.map dumpIf).map vfile) (segLast ++ rest)
  simpa only [List.map_map, Function.comp_def, vfile_dumpIf] using h2

/-- `sp`: the newest buffer closed, either written (`trydump`) or kept as a buffer (`rotate`) -/
theorem ckI_close {scan : Bool} (scan' : Bool) {all pre rest : FileRecs} {ck : HCk} (sp : HSplit) (hsp : vfile sp = fileOfBuf ck.last)
    (h : CkI hash scan all pre rest ck) : CkI hash scan' all pre rest { old := ck.old ++ [sp], last := {} } := by
  obtain ⟨segs, segLast, h1, h2, h3⟩ := h
  refine ⟨segs ++ [segLast], [], by rw [← h1]; simp, ?_, splitInv_empty hash scan' all rest⟩
  simp only [List.map_append, List.map_cons, List.map_nil, hsp, List.nil_append]
  exact diskFull_snoc hash all segLast _ rest segs _ h2 (entOK_of_splitInv hash h3)

theorem ckI_reflag {scan : Bool} (scan' : Bool) {all pre rest : FileRecs} {ck : HCk} (he : ck.last.items = [])
    (h : CkI hash scan all pre rest ck) : CkI hash scan' all pre rest ck := by
  obtain ⟨segs, segLast, h1, h2, h3⟩ := h
  have hs := splitInv_nil hash h3 (List.isEmpty_iff.mpr he)
  subst hs
  refine ⟨segs, [], h1, h2, ⟨h3.binv, by rw [he]; simp [dedupLast], by simp, h3.upper, h3.bound⟩⟩

theorem ckI_splits_of_recs {scan : Bool} {all pre : FileRecs} {ck : HCk} (h : CkI hash scan all pre [] ck) (hne : pre ≠ []) :
    ck.last.items ≠ [] ∨ ck.old ≠ [] := by
  obtain ⟨segs, segLast, h1, h2, h3⟩ := h
  by_cases hl : ck.last.items = []
  · right
    intro ho
    have hs := splitInv_nil hash h3 (List.isEmpty_iff.mpr hl)
    have hlen := diskFull_length hash _ _ _ _ h2
    rw [ho] at hlen
    simp only [List.map_nil, List.length_nil, List.length_eq_zero_iff] at hlen
    subst hlen; subst hs
    simp at h1
    exact hne h1
  · exact Or.inl hl

theorem ckI_recs_of_last {scan : Bool} {all pre rest : FileRecs} {ck : HCk} (h : CkI hash scan all pre rest ck)
    (hne : ck.last.items ≠ []) : pre ≠ [] := by
  obtain ⟨segs, segLast, h1, _, h3⟩ := h
  intro hp
  subst hp
  rw [(List.append_eq_nil_iff.mp h1).2] at h3
  exact hne (splitInv_items_of_nil hash h3)

theorem ckI_ds_le {scan : Bool} {all pre rest : FileRecs} {ck : HCk} (h : CkI hash scan all pre rest ck) (B : Nat)
    (hB : ∀ x ∈ all, x.1 + x.2.size ≤ B) :
    (∀ sp ∈ ck.old, ∀ f, sp.file = some f → f.datasize ≤ B) ∧ ck.last.maxoffset ≤ B := by
  constructor
  · intro sp hsp f hf
    obtain ⟨s, after, he⟩ := ckI_file hash h hsp hf
    exact bound_le hB he.2.2.2.2
  · obtain ⟨_, _, _, _, h3⟩ := h
    exact bound_le hB h3.bound

/-- every closed split is a written file -/
def OldF (ck : HCk) : Prop := ∀ sp ∈ ck.old, sp.buf = none ∧ ∃ f, sp.file = some f

theorem dedupLast_nodupKey : ∀ l : List Item, NodupKey (dedupLast l) := by
  intro l
  induction l with
  | nil => simp [dedupLast, NodupKey]
  | cons x l ih =>
    unfold dedupLast
    by_cases hx : l.any (sameKey x) = true
    · rw [if_pos hx]; exact ih
    · rw [if_neg hx]
      unfold NodupKey
      rw [List.pairwise_cons]
      refine ⟨?_, ih⟩
      intro y hy
      have hyl := dedupLast_subset hy
      cases hs : sameKey x y with
      | false => rfl
      | true =>
        exfalso
        apply hx
        rw [List.any_eq_true]
        exact ⟨y, hyl, hs⟩

theorem splitFileOf_nodup {s : FileRecs} {items : List Item} (h : SplitFileOf hash s items) : NodupKey items := by
  obtain ⟨scan, hp⟩ := h
  exact nodupKey_perm hp.symm (dedupLast_nodupKey _)

theorem ckGood_of {scan : Bool} {all pre rest : FileRecs} {ck : HCk} (h : CkI hash scan all pre rest ck) (ho : OldF ck) : CkGood ck := by
  refine ⟨?_, fun sp hsp => ?_⟩
  · obtain ⟨_, _, _, _, h3⟩ := h
    exact h3.binv
  · obtain ⟨hb, f, hf⟩ := ho sp hsp
    obtain ⟨s, after, he⟩ := ckI_file hash h hsp hf
    exact ⟨hb, f, hf, splitFileOf_nodup hash he.1⟩

theorem lk_dedupLast_map (scan : Bool) (k : Key) : ∀ s : FileRecs,
    lk (dedupLast (s.map (mkItem hash scan))) (hash k) k = (lastIn k s).map (mkItem hash scan) := by
  refine snoc_ind rfl ?_
  intro s p ih
  rw [List.map_append, List.map_cons, List.map_nil, dedupLast_append_single, lk_filter_snoc, lastIn_append_single, ih,
    mkItem_khash, mkItem_key]
  by_cases hk : p.2.key = k
  · rw [if_pos ⟨by rw [hk], hk⟩, if_pos hk]; rfl
  · rw [if_neg (fun c => hk c.2), if_neg hk]

theorem lk_splitFileOf {s : FileRecs} {items : List Item} (h : SplitFileOf hash s items) (k : Key) :
    HintAt hash k (lk items (hash k) k) (lastIn k s) := by
  obtain ⟨scan, hp⟩ := h
  rw [lk_congr (dedupLast_nodupKey _) (fun _ _ _ => hp.mem_iff), lk_dedupLast_map]
  cases hl : lastIn k s with
  | none => exact True.intro
  | some p =>
    have := hintAt_mk hash scan p
    rw [(lastIn_mem hl).2] at this
    exact this

theorem firstLk_segs {segs : List FileRecs} {Ls : List (List Item)} (h : Forall2 (SplitFileOf hash) segs Ls) (k : Key) :
    HintAt hash k (firstLk Ls.reverse (hash k) k) (lastIn k segs.flatten) := by
  induction h with
  | nil => exact True.intro
  | @cons s L segs' Ls' hs _ ih =>
    rw [List.reverse_cons, List.flatten_cons, lastIn_append]
    unfold firstLk at ih ⊢
    rw [List.findSome?_append]
    simp only [List.findSome?_cons, List.findSome?_nil]
    have hL := lk_splitFileOf hash hs k
    cases hlk : lk L (hash k) k <;> rw [hlk] at hL <;> exact hintAt_or hash ih hL

theorem diskFull_spItems (all : FileRecs) (old : List HSplit) (ho : ∀ sp ∈ old, sp.buf = none ∧ ∃ f, sp.file = some f) (tail : FileRecs) :
    ∀ (segs : List FileRecs), DiskFull hash all segs (old.map vfile) tail → Forall2 (SplitFileOf hash) segs (old.map spItems) := by
  induction old with
  | nil =>
    intro segs h
    cases segs with
    | nil => exact Forall2.nil
    | cons _ _ => exact h.elim
  | cons sp rest ih =>
    intro segs h
    cases segs with
    | nil => exact h.elim
    | cons s ss =>
      obtain ⟨_, f, hf⟩ := ho sp (by simp)
      have hv : vfile sp = some f := by unfold vfile; rw [hf]
      simp only [List.map_cons, DiskFull, hv] at h
      rw [List.map_cons, spItems_file hf]
      exact Forall2.cons h.1.1 (ih (fun s hs => ho s (by simp [hs])) ss h.2)

/-- any key hash: the lookup compares keys, and a split holds one item per key -/
theorem ckI_get {scan : Bool} {all pre rest : FileRecs} {ck : HCk} (h : CkI hash scan all pre rest ck) (ho : OldF ck) (k : Key) :
    HintAt hash k (ck.get (hash k) k) (lastIn k pre) := by
  have g := ckGood_of hash h ho
  obtain ⟨segs, segLast, h1, h2, h3⟩ := h
  rw [ckGet_eq ck g, ← h1, lastIn_append]
  unfold ckLists
  rw [firstLk_cons, List.map_reverse]
  exact hintAt_or hash (lk_splitFileOf hash ⟨scan, h3.perm⟩ k) (firstLk_segs hash (diskFull_spItems hash all ck.old ho _ segs h2) k)

theorem splitFileOf_mem {s : FileRecs} {items : List Item} (h : SplitFileOf hash s items) {y : Item} (hy : y ∈ items) :
    ∃ p ∈ s, ∃ sc, y = mkItem hash sc p := by
  obtain ⟨sc, hp⟩ := h
  obtain ⟨p, hps, e⟩ := List.mem_map.mp (dedupLast_subset (hp.subset hy))
  exact ⟨p, hps, sc, e.symm⟩

theorem ckI_mem {scan : Bool} {all pre rest : FileRecs} {ck : HCk} (h : CkI hash scan all pre rest ck) (ho : OldF ck) {y : Item}
    (hy : InCk ck y) : ∃ p ∈ pre, ∃ sc, y = mkItem hash sc p := by
  obtain ⟨segs, segLast, h1, h2, h3⟩ := h
  rcases hy with hy | ⟨sp, hsp, hy⟩
  · obtain ⟨p, hp, r⟩ := splitFileOf_mem hash ⟨scan, h3.perm⟩ hy
    exact ⟨p, by rw [← h1]; simp [hp], r⟩
  · obtain ⟨s, hs, hr⟩ := forall2_mem_right (diskFull_spItems hash all ck.old ho _ segs h2) (List.mem_map_of_mem hsp)
    obtain ⟨p, hp, r⟩ := splitFileOf_mem hash hr hy
    exact ⟨p, by rw [← h1, List.mem_append, List.mem_flatten]; exact Or.inl ⟨s, hs, hp⟩, r⟩

end
end CollideLemmas
