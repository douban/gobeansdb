/-
  Reply round trip (C11), reading: `readResp` on the wire forms of the replies, written out here by hand (`lineWire`,
  `valueWire`, `numWire`, `statLines`; that `Resp.write` yields them is ProtoRespWire).
  A VALUE block comes back with its body byte for byte, whatever it contains, and reading stops exactly behind "END\r\n".
-/
import GoBeans.Lemmas.ProtoTok

namespace Proto

def statLineB (n v : Bytes) : Bytes := ascii "STAT " ++ n ++ sp ++ v ++ crlf

def statLines (nvs : List (Bytes × Bytes)) : Bytes := (nvs.map fun nv => statLineB nv.1 nv.2).flatten

/-- the body of `readResp` once the line is split (verbatim copy; `readResp_succ` is `rfl`) -/
def respBody (cfg : Cfg) (fuel : Nat) (parts : List Bytes) (rest : Bytes) (items : List PItem) : Option (PResp × Bytes) :=
  match parts with
  | [] => none
  | status :: args =>
    if status == ascii "VALUE" then
      if parts.length < 4 then none else
      match atoi (args.getD 1 []), atoi (args.getD 2 []) with
      | some flag, some len =>
        if !(0 ≤ len && len ≤ (cfg.bodyMax : Int)) then none else
        let cas? : Option Int := if parts.length == 5 then atoi (args.getD 3 []) else some 0
        match cas? with
        | none => none
        | some cas =>
          let L := len.toNat
          if rest.length < L then none else
          readResp cfg fuel (rest.drop (L + 2)) (putItem items { key := args.getD 0 [], flag := flag, cas := cas, body := rest.take L })
      | _, _ => none
    else if status == ascii "STAT" then
      if parts.length ≠ 3 then none
      else readResp cfg fuel rest (putItem items { key := args.getD 0 [], flag := 0, body := args.getD 1 [] })
    else if endStatuses.contains status then some ({ status := status, items := items }, rest)
    else if msgStatuses.contains status then some ({ status := status, msg := joinSp args, items := items }, rest)
    else match atoi status with
      | some _ => some ({ status := ascii "INCR", msg := status, items := items }, rest)
      | none => none

theorem readResp_succ (cfg : Cfg) (fuel : Nat) (inp : Bytes) (items : List PItem) :
    readResp cfg (fuel + 1) inp items =
      match readLine inp with
      | none => none
      | some line =>
        if line.length < 2 then none else
        respBody cfg fuel (fields (line.take (line.length - 2))) (inp.drop line.length) items := rfl

theorem readResp_toks (cfg : Cfg) (toks : List Bytes) (ht : ∀ t ∈ toks, Tok t) (rest : Bytes) (fuel : Nat) (hf : 1 ≤ fuel)
    (items : List PItem) :
    readResp cfg fuel (joinSp toks ++ crlf ++ rest) items = respBody cfg (fuel - 1) toks rest items := by
  obtain ⟨f, rfl⟩ : ∃ f, fuel = f + 1 := ⟨fuel - 1, by omega⟩
  rw [readResp_succ, readLine_toks _ _ ht]
  simp only []
  rw [if_neg (by simp [crlf]), fields_line_toks _ ht, List.drop_left]
  rfl

/-- a status line as `Response.Write` prints it (default branch) -/
def lineWire (status msg : Bytes) : Bytes := status ++ (if msg = [] then [] else sp ++ msg) ++ crlf

theorem lineWire_toks (status : Bytes) (toks : List Bytes) (ht : ∀ t ∈ toks, Tok t) :
    lineWire status (joinSp toks) = joinSp (status :: toks) ++ crlf := by
  cases toks with
  | nil => simp [lineWire, joinSp]
  | cons t ts =>
    have := joinSp_ne_nil t ts (ht t (by simp)).1
    simp [lineWire, this, joinSp]

theorem word_tok (w : Bytes) (h : w ∈ endStatuses ++ msgStatuses) : Tok w :=
  toks_of_all _ (by decide +kernel) w h

theorem respBody_endStatus (cfg : Cfg) (fuel : Nat) (status : Bytes) (args : List Bytes) (rest : Bytes) (acc : List PItem)
    (hs : status ∈ endStatuses) :
    respBody cfg fuel (status :: args) rest acc = some ({ status := status, items := acc }, rest) := by
  have hall : ∀ s ∈ endStatuses, (s == ascii "VALUE") = false ∧ (s == ascii "STAT") = false := by decide +kernel
  simp [respBody, hall _ hs, hs]

theorem respBody_msgStatus (cfg : Cfg) (fuel : Nat) (status : Bytes) (args : List Bytes) (rest : Bytes) (acc : List PItem)
    (hs : status ∈ msgStatuses) :
    respBody cfg fuel (status :: args) rest acc = some ({ status := status, msg := joinSp args, items := acc }, rest) := by
  have hall : ∀ s ∈ msgStatuses, (s == ascii "VALUE") = false ∧ (s == ascii "STAT") = false ∧ s ∉ endStatuses := by
    decide +kernel
  simp [respBody, hall _ hs, hs]

theorem readResp_line_end (cfg : Cfg) (status : Bytes) (hs : status ∈ endStatuses) (rest : Bytes) (fuel : Nat) (hf : 1 ≤ fuel)
    (acc : List PItem) :
    readResp cfg fuel (lineWire status [] ++ rest) acc = some ({ status := status, items := acc }, rest) := by
  rw [show lineWire status [] = joinSp [status] ++ crlf from lineWire_toks status [] nofun,
    readResp_toks cfg [status] (by simpa using word_tok _ (by simp [hs])) rest fuel hf acc]
  exact respBody_endStatus cfg _ status [] rest acc hs

theorem readResp_line_msg (cfg : Cfg) (status : Bytes) (toks : List Bytes) (hs : status ∈ msgStatuses)
    (ht : ∀ t ∈ toks, Tok t) (rest : Bytes) (fuel : Nat) (hf : 1 ≤ fuel) (acc : List PItem) :
    readResp cfg fuel (lineWire status (joinSp toks) ++ rest) acc
      = some ({ status := status, msg := joinSp toks, items := acc }, rest) := by
  rw [lineWire_toks status toks ht, readResp_toks cfg (status :: toks)
    (by intro t h; rcases List.mem_cons.mp h with rfl | h; exact word_tok _ (by simp [hs]); exact ht t h) rest fuel hf acc]
  exact respBody_msgStatus cfg _ status toks rest acc hs

/-- a message `Response.Read` gives back unchanged -/
def Words (msg : Bytes) : Prop := ∃ toks : List Bytes, (∀ t ∈ toks, Tok t) ∧ msg = joinSp toks

def wordsb (msg : Bytes) : Bool := (fields msg).all tokb && joinSp (fields msg) == msg

theorem words_of_wordsb {msg : Bytes} (h : wordsb msg = true) : Words msg := by
  rw [wordsb, Bool.and_eq_true] at h
  exact ⟨fields msg, toks_of_all _ h.1, (eq_of_beq h.2).symm⟩

/-- what `readResp` stores for an item that was sent without / with its cas field -/
def PItem.norm (cas : Bool) (p : PItem) : PItem := if cas then p else { p with cas := 0 }

def valueHead (cas : Bool) (key : Bytes) (flag : Int) (len : Nat) (casv : Int) : List Bytes :=
  [ascii "VALUE", key, itoa flag, itoa len] ++ (if cas then [itoa casv] else [])

def valueBlock (cas : Bool) (p : PItem) : Bytes :=
  joinSp (valueHead cas p.key p.flag p.body.length p.cas) ++ crlf ++ p.body ++ crlf

theorem valueBlock_eq (cas : Bool) (p : PItem) : valueBlock cas p
    = (ascii "VALUE " ++ p.key ++ sp ++ itoa p.flag ++ sp ++ itoa p.body.length ++ (if cas then sp ++ itoa p.cas else []) ++ crlf)
      ++ p.body ++ crlf := by
  have hv : ascii "VALUE " = ascii "VALUE" ++ sp := by decide
  rw [valueBlock, valueHead, hv]
  cases cas <;> simp [joinSp, List.append_assoc]

def endLine : Bytes := ascii "END" ++ crlf

def valueWire (cas : Bool) (ps : List PItem) : Bytes := (ps.map (valueBlock cas)).flatten ++ endLine

/-- what the VALUE loop needs of an item to give it back unchanged (of a reply item, before it is rendered: `RItem.OK`) -/
def ItemOK (cfg : Cfg) (p : PItem) : Prop := Tok p.key ∧ I64 p.flag ∧ I64 p.cas ∧ p.body.length ≤ cfg.bodyMax

theorem valueHead_tok (cas : Bool) (key : Bytes) (flag : Int) (len : Nat) (casv : Int) (hk : Tok key) :
    ∀ t ∈ valueHead cas key flag len casv, Tok t := by
  have hv : Tok (ascii "VALUE") := tok_of_tokb (by decide)
  cases cas <;> simp [valueHead, hv, hk, itoa_tok]

theorem drop_body (body rest : Bytes) : (body ++ (crlf ++ rest)).drop (body.length + 2) = rest := by
  have : body ++ (crlf ++ rest) = (body ++ crlf) ++ rest := by simp
  have hl : (body ++ crlf).length = body.length + 2 := by simp [crlf]
  rw [this, ← hl]; simp

theorem take_body (body rest : Bytes) : (body ++ (crlf ++ rest)).take body.length = body := by
  simp

/-- `hmax`: the length in the header is read back by `atoi`, which is int64 (`atoi_itoa`) -/
theorem respBody_value (cfg : Cfg) (hmax : cfg.bodyMax < 9223372036854775808) (fuel : Nat) (cas : Bool) (p : PItem)
    (rest : Bytes) (items : List PItem) (hp : ItemOK cfg p) :
    respBody cfg fuel (valueHead cas p.key p.flag p.body.length p.cas) (p.body ++ crlf ++ rest) items
      = readResp cfg fuel rest (putItem items (p.norm cas)) := by
  obtain ⟨_, hf, hc, hl⟩ := hp
  have a1 := atoi_itoa p.flag hf
  have a2 : atoi (itoa (p.body.length : Int)) = some (p.body.length : Int) := atoi_itoa _ (by constructor <;> omega)
  have a3 := atoi_itoa p.cas hc
  unfold respBody valueHead
  cases cas
  · simp [a1, a2, Int.toNat_natCast, PItem.norm]
    rw [if_neg (by omega), if_neg (by omega)]; rfl
  · simp [a1, a2, a3, Int.toNat_natCast, PItem.norm]
    rw [if_neg (by omega), if_neg (by omega)]; rfl

/-- the loop VALUE and STAT replies share.  Fuel: one unit per block and one for the END line. -/
theorem readResp_blocks {α : Type} (cfg : Cfg) (blk : α → Bytes) (item : α → PItem) (xs : List α)
    (step : ∀ x ∈ xs, ∀ (rest : Bytes) (fuel : Nat), 1 ≤ fuel → ∀ acc : List PItem,
      readResp cfg fuel (blk x ++ rest) acc = readResp cfg (fuel - 1) rest (putItem acc (item x)))
    (rest : Bytes) (fuel : Nat) (hf : xs.length + 1 ≤ fuel) (acc : List PItem) :
    readResp cfg fuel ((xs.map blk).flatten ++ endLine ++ rest) acc
      = some ({ status := ascii "END", items := (xs.map item).foldl putItem acc }, rest) := by
  induction xs generalizing fuel acc with
  | nil => simpa [lineWire, endLine] using readResp_line_end cfg (ascii "END") (by decide) rest fuel hf acc
  | cons x xs ih =>
    simp only [List.map_cons, List.flatten_cons, List.append_assoc, List.foldl_cons]
    rw [step x (by simp) _ fuel (by omega)]
    simpa [List.append_assoc] using ih (fun y hy => step y (by simp [hy])) (fuel - 1) (by simp at hf ⊢; omega) _

theorem readResp_values (cfg : Cfg) (hmax : cfg.bodyMax < 9223372036854775808) (cas : Bool) (ps : List PItem)
    (hps : ∀ p ∈ ps, ItemOK cfg p) (rest : Bytes) (fuel : Nat) (hf : ps.length + 1 ≤ fuel) (acc : List PItem) :
    readResp cfg fuel (valueWire cas ps ++ rest) acc
      = some ({ status := ascii "END", items := (ps.map (PItem.norm cas)).foldl putItem acc }, rest) := by
  refine readResp_blocks cfg (valueBlock cas) (PItem.norm cas) ps (fun p hp rest f hf acc => ?_) rest fuel hf acc
  have hp := hps p hp
  rw [valueBlock, List.append_assoc, List.append_assoc,
    readResp_toks cfg _ (valueHead_tok cas _ _ _ _ hp.1) _ f hf acc, ← List.append_assoc,
    respBody_value cfg hmax _ cas p _ acc hp]

/-- empty, or starting with a byte from 'A' upwards: no decimal number does (`itoa_ne_word`) -/
def alphaHead (w : Bytes) : Bool := match w with
  | c :: _ => decide (65 ≤ c.toNat)
  | [] => true

theorem itoa_ne_word (v : Int) (w : Bytes) (hw : alphaHead w = true) : itoa v ≠ w := by
  obtain ⟨hne, hall⟩ := itoa_bytes v
  intro e
  rw [e] at hne hall
  cases w with
  | nil => exact hne rfl
  | cons c tl =>
    have := (hall c (by simp)).2
    simp [alphaHead] at hw
    omega

theorem respBody_num (cfg : Cfg) (fuel : Nat) (v : Int) (hv : I64 v) (rest : Bytes) (acc : List PItem) :
    respBody cfg fuel [itoa v] rest acc = some ({ status := ascii "INCR", msg := itoa v, items := acc }, rest) := by
  -- every word `readResp` looks for starts with a letter, a number does not
  have hall : ∀ w ∈ ascii "VALUE" :: ascii "STAT" :: (endStatuses ++ msgStatuses), alphaHead w = true := by
    decide +kernel
  have hne (w : Bytes) (hw : w ∈ ascii "VALUE" :: ascii "STAT" :: (endStatuses ++ msgStatuses)) : itoa v ≠ w :=
    itoa_ne_word v w (hall w hw)
  have h1 : (itoa v == ascii "VALUE") = false := by simpa using hne _ (by simp)
  have h2 : (itoa v == ascii "STAT") = false := by simpa using hne _ (by simp)
  have h3 : itoa v ∉ endStatuses := fun h => hne _ (by simp [h]) rfl
  have h4 : itoa v ∉ msgStatuses := fun h => hne _ (by simp [h]) rfl
  simp [respBody, h1, h2, h3, h4, atoi_itoa v hv]

def numWire (msg : Bytes) : Bytes := msg ++ crlf

theorem readResp_num (cfg : Cfg) (v : Int) (hv : I64 v) (rest : Bytes) (fuel : Nat) (hf : 1 ≤ fuel) (acc : List PItem) :
    readResp cfg fuel (numWire (itoa v) ++ rest) acc
      = some ({ status := ascii "INCR", msg := itoa v, items := acc }, rest) := by
  rw [show numWire (itoa v) = joinSp [itoa v] ++ crlf from rfl,
    readResp_toks cfg [itoa v] (by simpa using itoa_tok v) rest fuel hf acc]
  exact respBody_num cfg _ v hv rest acc

def statItem (nv : Bytes × Bytes) : PItem := { key := nv.1, flag := 0, body := nv.2 }

theorem statLineB_toks (n v : Bytes) : statLineB n v = joinSp [ascii "STAT", n, v] ++ crlf := by
  have : ascii "STAT " = ascii "STAT" ++ sp := by decide
  simp [statLineB, joinSp, this]

theorem respBody_stat (cfg : Cfg) (fuel : Nat) (n v rest : Bytes) (acc : List PItem) :
    respBody cfg fuel [ascii "STAT", n, v] rest acc = readResp cfg fuel rest (putItem acc (statItem (n, v))) := by
  have h1 : (ascii "STAT" == ascii "VALUE") = false := by decide
  simp [respBody, h1, statItem]

theorem readResp_stats (cfg : Cfg) (nvs : List (Bytes × Bytes)) (hnv : ∀ nv ∈ nvs, Tok nv.1 ∧ Tok nv.2)
    (rest : Bytes) (fuel : Nat) (hf : nvs.length + 1 ≤ fuel) (acc : List PItem) :
    readResp cfg fuel (statLines nvs ++ endLine ++ rest) acc
      = some ({ status := ascii "END", items := (nvs.map statItem).foldl putItem acc }, rest) := by
  unfold statLines
  refine readResp_blocks cfg _ statItem nvs (fun nv hm rest f hf acc => ?_) rest fuel hf acc
  have ht : ∀ t ∈ [ascii "STAT", nv.1, nv.2], Tok t :=
    List.forall_mem_cons.mpr ⟨tok_of_tokb (by decide), List.forall_mem_cons.mpr ⟨(hnv nv hm).1, by simpa using (hnv nv hm).2⟩⟩
  rw [statLineB_toks, readResp_toks cfg _ ht _ f hf acc, respBody_stat]

/-- the reply of `optimize_stat` ("none\r\n") is not a reply `Response.Read` knows -/
theorem readResp_none_refused (cfg : Cfg) (rest : Bytes) (fuel : Nat) (acc : List PItem) :
    readResp cfg fuel (lineWire (ascii "none") [] ++ rest) acc = none := by
  cases fuel with
  | zero => rfl
  | succ f =>
    rw [show lineWire (ascii "none") [] = joinSp [ascii "none"] ++ crlf from lineWire_toks _ [] nofun,
      readResp_toks cfg [ascii "none"] (by simpa using tok_of_tokb (by decide)) rest _ (Nat.succ_pos f) acc]
    have h : (ascii "none" == ascii "VALUE") = false ∧ (ascii "none" == ascii "STAT") = false
        ∧ ascii "none" ∉ endStatuses ∧ ascii "none" ∉ msgStatuses ∧ atoi (ascii "none") = none := by decide +kernel
    simp [respBody, h]

/-- a STAT line whose value is empty (the full `stats` listing ends with "STAT version <config.Version>": an empty or
    spaced version string) makes the whole reply unreadable -/
theorem readResp_stat_empty_value_refused (cfg : Cfg) (rest : Bytes) (fuel : Nat) (acc : List PItem) :
    readResp cfg fuel (statLines [(ascii "version", [])] ++ endLine ++ rest) acc = none := by
  cases fuel with
  | zero => rfl
  | succ f =>
    -- the line as it travels, and what `readResp` makes of it: two fields where three are wanted
    have h : (10 : UInt8) ∉ ascii "STAT version \r"
        ∧ statLines [(ascii "version", [])] = ascii "STAT version \r" ++ [10]
        ∧ fields ((ascii "STAT version \r" ++ [10]).take ((ascii "STAT version \r" ++ [10]).length - 2))
            = [ascii "STAT", ascii "version"]
        ∧ ¬ (ascii "STAT version \r" ++ [10]).length < 2 ∧ (ascii "STAT" == ascii "VALUE") = false := by
      decide +kernel
    have hw : statLines [(ascii "version", [])] ++ endLine ++ rest
        = ascii "STAT version \r" ++ 10 :: (endLine ++ rest) := by
      rw [h.2.1]; simp
    rw [hw, readResp_succ, readLine_append _ _ h.1]
    simp only [if_neg h.2.2.2.1, h.2.2.1]
    simp [respBody, h.2.2.2.2]

end Proto
