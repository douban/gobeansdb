/-
  One dataChunk of Model/ConcFine.lean.  `ConcGC.Readable` (the reader's code path finds every stored record) is all the
  readers need and also holds of a chunk a GC pass owns (on its namespace: the header of Lemmas/ConcFineInv.lean);
  `ChunkOK`, the layout of chunk and data file with a flush in progress, implies it and is kept by the three ways a
  chunk is rewritten.
-/
import GoBeans.Model.ConcFine

namespace ConcFine

/-- the records lie one after the other from offset `a` to offset `b`, none of them empty -/
def Contig : Nat → List Rec → Nat → Prop
  | a, [], b => a = b
  | a, r :: l, b => r.off = a ∧ 0 < r.size ∧ Contig (a + r.size) l b

theorem contig_append (l1 l2 : List Rec) (a b : Nat) :
    Contig a (l1 ++ l2) b ↔ ∃ m, Contig a l1 m ∧ Contig m l2 b := by
  induction l1 generalizing a with
  | nil => simp [Contig]
  | cons r l ih =>
    simp only [List.cons_append, Contig, ih]
    constructor
    · rintro ⟨h1, h2, m, h3, h4⟩; exact ⟨m, ⟨h1, h2, h3⟩, h4⟩
    · rintro ⟨m, ⟨h1, h2, h3⟩, h4⟩; exact ⟨h1, h2, m, h3, h4⟩

theorem contig_end_unique (l : List Rec) (a b b' : Nat) (h : Contig a l b) (h' : Contig a l b') : b = b' := by
  induction l generalizing a with
  | nil => simp only [Contig] at h h'; omega
  | cons r l ih => exact ih _ h.2.2 h'.2.2

theorem contig_le (l : List Rec) (a b : Nat) (h : Contig a l b) : a ≤ b := by
  induction l generalizing a with
  | nil => simp only [Contig] at h; omega
  | cons r l ih => have := ih _ h.2.2; omega

theorem contig_zero (l : List Rec) (a : Nat) (h : Contig a l a) : l = [] := by
  cases l with
  | nil => rfl
  | cons r l => have := contig_le _ _ _ h.2.2; have := h.2.1; omega

theorem contig_mem (l : List Rec) (a b : Nat) (h : Contig a l b) (r : Rec) (hr : r ∈ l) :
    a ≤ r.off ∧ r.off + r.size ≤ b ∧ 0 < r.size := by
  induction l generalizing a with
  | nil => simp at hr
  | cons x l ih =>
    rcases List.mem_cons.mp hr with rfl | hr
    · have := contig_le _ _ _ h.2.2
      have := h.1; have := h.2.1
      omega
    · have := ih _ h.2.2 hr
      have := h.2.1
      omega

theorem contig_split (l1 l2 : List Rec) (r : Rec) (a b : Nat) (h : Contig a (l1 ++ r :: l2) b) :
    (∀ x ∈ l1, x.off < r.off) ∧ (∀ x ∈ l2, r.off < x.off) ∧ a ≤ r.off ∧ r.off + r.size ≤ b := by
  obtain ⟨m, h1, h2⟩ := (contig_append _ _ _ _).mp h
  have hm : r.off = m := h2.1
  refine ⟨?_, ?_, ?_, ?_⟩
  · intro x hx; have := contig_mem _ _ _ h1 x hx; omega
  · intro x hx; have := contig_mem _ _ _ h2.2.2 x hx; have := h2.2.1; omega
  · have := contig_le _ _ _ h1; omega
  · have := contig_le _ _ _ h2.2.2; omega

theorem contig_find (l : List Rec) (a b : Nat) (h : Contig a l b) (r : Rec) (hr : r ∈ l) :
    l.find? (fun x => decide (x.off = r.off)) = some r := by
  obtain ⟨l1, l2, rfl⟩ := List.append_of_mem hr
  obtain ⟨h1, _, _, _⟩ := contig_split _ _ _ _ _ h
  rw [List.find?_append]
  have : l1.find? (fun x => decide (x.off = r.off)) = none := by
    rw [List.find?_eq_none]
    intro x hx
    have := h1 x hx
    simp only [decide_eq_true_eq]; omega
  rw [this]
  simp

theorem contig_inj (l : List Rec) (a b : Nat) (h : Contig a l b) (r r' : Rec) (hr : r ∈ l) (hr' : r' ∈ l)
    (ho : r.off = r'.off) : r = r' :=
  Option.some.inj ((contig_find l a b h r hr).symm.trans (ho ▸ contig_find l a b h r' hr'))

theorem searchAux_spec (f : Nat → Bool) (k N : Nat) (hlo : ∀ x, x < k → f x = false)
    (hhi : ∀ x, k ≤ x → x < N → f x = true) :
    ∀ (fuel i j : Nat), i ≤ k → k ≤ j → j ≤ N → j - i ≤ fuel → searchAux f fuel i j = k := by
  intro fuel
  induction fuel with
  | zero => intro i j h1 h2 _ h4; simp only [searchAux]; omega
  | succ fuel ih =>
    intro i j h1 h2 h3 h4
    simp only [searchAux]
    by_cases hij : i < j
    · simp only [hij, if_true]
      by_cases hh : (i + j) / 2 < k
      · rw [hlo _ hh]
        simp only [Bool.not_false, if_true]
        exact ih _ _ (by omega) h2 h3 (by omega)
      · rw [hhi _ (by omega) (by omega)]
        simp only [Bool.not_true, Bool.false_eq_true, if_false]
        exact ih _ _ h1 (by omega) (by omega) (by omega)
    · simp only [hij, if_false]; omega

theorem sortSearch_spec (f : Nat → Bool) (k n : Nat) (hk : k ≤ n) (hlo : ∀ x, x < k → f x = false)
    (hhi : ∀ x, k ≤ x → x < n → f x = true) : sortSearch n f = k :=
  searchAux_spec f k n hlo hhi n 0 n (Nat.zero_le _) hk (Nat.le_refl _) (by omega)

theorem bufLookup_mem (ch : Chunk) (a : Nat) (h : Contig a ch.wbuf ch.writingHead) (r : Rec) (hr : r ∈ ch.wbuf) :
    bufLookup ch r.off = .found r := by
  obtain ⟨l1, l2, hl⟩ := List.append_of_mem hr
  rw [hl] at h
  obtain ⟨h1, h2, h3, h4⟩ := contig_split _ _ _ _ _ h
  have hsz := (contig_mem _ _ _ h r (by simp)).2.2
  unfold bufLookup
  cases hw : ch.wbuf with
  | nil => rw [hw] at hr; simp at hr
  | cons r0 rest =>
    have hr0 : r0.off ≤ r.off := by
      have : r0.off = a := by rw [hl] at hw; rw [hw] at h; exact h.1
      omega
    have hcond : ¬ (r.off < r0.off ∨ r.off ≥ ch.writingHead) := by omega
    simp only [hcond, if_false]
    rw [← hw]
    -- the offsets before `r` are smaller, those from `r` on are not: the search ends at `r`
    have hidx : sortSearch ch.wbuf.length (fun i => decide (offAt ch.wbuf i ≥ r.off)) = l1.length := by
      apply sortSearch_spec
      · rw [hl]; simp
      · intro x hx
        have := h1 _ (List.getElem_mem hx)
        simp only [offAt, hl, List.getElem?_append_left hx, List.getElem?_eq_getElem hx, decide_eq_false_iff_not]
        omega
      · intro x hx1 hx2
        rw [hl, List.length_append] at hx2
        have hlt : x - l1.length < (r :: l2).length := by omega
        simp only [offAt, hl, List.getElem?_append_right hx1, List.getElem?_eq_getElem hlt, decide_eq_true_eq]
        rcases List.mem_cons.mp (List.getElem_mem hlt) with he | hm
        · rw [he]; exact Nat.le_refl _
        · exact Nat.le_of_lt (h2 _ hm)
    rw [hidx]
    have hlen : ¬ l1.length ≥ ch.wbuf.length := by rw [hl]; simp
    simp only [hlen, if_false]
    have hget : ch.wbuf[l1.length]? = some r := by rw [hl]; simp
    rw [hget]
    simp

theorem bufLookup_below (ch : Chunk) (m off : Nat) (h : Contig m ch.wbuf ch.writingHead) (ho : off < m) :
    bufLookup ch off = .miss := by
  unfold bufLookup
  cases hw : ch.wbuf with
  | nil => rfl
  | cons r0 rest =>
    rw [hw] at h
    have : off < r0.off := by have := h.1; omega
    simp [this]

theorem bufLookup_nobuf (ch : Chunk) (off : Nat) (h : ch.wbuf = []) : bufLookup ch off = .miss := by
  unfold bufLookup; rw [h]

theorem lookup_nobuf (ch : Chunk) (off : Nat) (h : ch.wbuf = []) : lookup ch off = fileLookup ch off := by
  unfold lookup; rw [bufLookup_nobuf ch off h]

def Stored (ch : Chunk) (r : Rec) : Prop := r ∈ ch.file ∨ r ∈ ch.wbuf

end ConcFine

namespace ConcGC
open ConcFine

/-- what the reader's code path (buffer test under the chunk lock, else the file) finds for every stored record -/
def Readable (ch : Chunk) : Prop :=
  ∀ r, Stored ch r → bufLookup ch r.off = .found r ∨ (bufLookup ch r.off = .miss ∧ r ∈ ch.file ∧ fileLookup ch r.off = some r)

theorem Readable.lookup {ch : Chunk} (h : Readable ch) (r : Rec) (hr : Stored ch r) : lookup ch r.off = some r := by
  unfold ConcFine.lookup
  rcases h r hr with h1 | ⟨h1, _, h3⟩
  · rw [h1]
  · rw [h1]; exact h3

theorem Readable.inj {ch : Chunk} (h : Readable ch) (r r' : Rec) (hr : Stored ch r) (hr' : Stored ch r')
    (ho : r.off = r'.off) : r = r' :=
  Option.some.inj ((h.lookup r hr).symm.trans (ho ▸ h.lookup r' hr'))

end ConcGC

namespace ConcFine

/-- `w`: how many of the buffered records the running flush has written to the file -/
structure ChunkOK (ch : Chunk) (w : Nat) : Prop where
  base : ∃ b, ch.file = b ++ ch.wbuf.take w
  cfile : Contig 0 ch.file ch.fsize
  cbuf : Contig ch.fsize (ch.wbuf.drop w) ch.writingHead
  wle : w ≤ ch.wbuf.length
  size : ch.size = ch.writingHead

theorem ChunkOK.all {ch : Chunk} {w : Nat} (h : ChunkOK ch w) :
    ∃ b m, Contig 0 b m ∧ Contig m ch.wbuf ch.writingHead ∧ ∀ r, Stored ch r → r ∈ b ∨ r ∈ ch.wbuf := by
  obtain ⟨b, hb⟩ := h.base
  have h1 := h.cfile
  rw [hb] at h1
  obtain ⟨m, h2, h3⟩ := (contig_append _ _ _ _).mp h1
  refine ⟨b, m, h2, ?_, ?_⟩
  · rw [← List.take_append_drop w ch.wbuf]
    exact (contig_append _ _ _ _).mpr ⟨_, h3, h.cbuf⟩
  · rintro r (hr | hr)
    · rw [hb] at hr
      exact (List.mem_append.mp hr).imp id List.mem_of_mem_take
    · exact .inr hr

theorem ChunkOK.contig_all {ch : Chunk} {w : Nat} (h : ChunkOK ch w) :
    ∃ b, Contig 0 (b ++ ch.wbuf) ch.writingHead ∧ (∀ r, Stored ch r → r ∈ b ++ ch.wbuf) := by
  obtain ⟨b, m, h1, h2, hmem⟩ := h.all
  exact ⟨b, (contig_append _ _ _ _).mpr ⟨m, h1, h2⟩, fun r hr => List.mem_append.mpr (hmem r hr)⟩

theorem ChunkOK.fileLookup {ch : Chunk} {w : Nat} (h : ChunkOK ch w) (r : Rec) (hr : r ∈ ch.file) :
    fileLookup ch r.off = some r := contig_find _ _ _ h.cfile r hr

theorem readable_of_ok {ch : Chunk} {w : Nat} (h : ChunkOK ch w) : ConcGC.Readable ch := by
  intro r hr
  obtain ⟨b, m, h1, h2, hmem⟩ := h.all
  by_cases hw : r ∈ ch.wbuf
  · exact .inl (bufLookup_mem ch m h2 r hw)
  · have hf : r ∈ ch.file := hr.resolve_right hw
    have := contig_mem _ _ _ h1 r ((hmem r hr).resolve_right hw)
    exact .inr ⟨bufLookup_below ch m r.off h2 (by omega), hf, h.fileLookup r hf⟩

theorem ChunkOK.lookup {ch : Chunk} {w : Nat} (h : ChunkOK ch w) (r : Rec) (hr : Stored ch r) :
    lookup ch r.off = some r := (readable_of_ok h).lookup r hr

theorem ChunkOK.inj {ch : Chunk} {w : Nat} (h : ChunkOK ch w) (r r' : Rec) (hr : Stored ch r) (hr' : Stored ch r')
    (ho : r.off = r'.off) : r = r' := (readable_of_ok h).inj r r' hr hr' ho

theorem ChunkOK.disk {ch : Chunk} (h : ChunkOK ch 0) : diskFileSize ch = ch.fsize := by
  have h2 := h.cbuf
  simp only [List.drop_zero] at h2
  unfold diskFileSize
  cases hw : ch.wbuf with
  | nil => rw [hw] at h2; simp only [Contig] at h2; simp only [h.size]; omega
  | cons r0 rest => rw [hw] at h2; exact h2.1

theorem chunkOK_empty : ChunkOK {} 0 :=
  ⟨⟨[], rfl⟩, rfl, rfl, Nat.le_refl _, rfl⟩

/-- `dataChunk.AppendRecord` -/
def Chunk.append (ch : Chunk) (r : Rec) : Chunk :=
  { ch with wbuf := ch.wbuf ++ [r], writingHead := ch.writingHead + r.size, size := ch.writingHead + r.size }

/-- the flusher's file write of a buffered record, at the offset `woff` of its stream writer -/
def Chunk.write (ch : Chunk) (woff : Nat) (r : Rec) : Chunk :=
  { ch with file := ch.file ++ [{ r with off := woff }], fsize := woff + r.size }

/-- `dataChunk.flush`: `dc.wbuf = dc.wbuf[n:]` -/
def Chunk.detach (ch : Chunk) (n : Nat) : Chunk := { ch with wbuf := ch.wbuf.drop n }

theorem stored_append {ch : Chunk} {r x : Rec} : Stored (ch.append r) x ↔ Stored ch x ∨ x = r := by
  simp only [Stored, Chunk.append, List.mem_append, List.mem_singleton, or_assoc]

theorem stored_write {ch : Chunk} {woff : Nat} {r x : Rec} :
    Stored (ch.write woff r) x ↔ Stored ch x ∨ x = { r with off := woff } := by
  simp only [Stored, Chunk.write, List.mem_append, List.mem_singleton]
  exact ⟨fun h => h.elim (fun h => h.elim (.inl ∘ .inl) .inr) (.inl ∘ .inr),
    fun h => h.elim (fun h => h.elim (.inl ∘ .inl) .inr) (.inl ∘ .inr)⟩

theorem stored_detach {ch : Chunk} {n : Nat} {x : Rec} (h : Stored (ch.detach n) x) : Stored ch x :=
  h.imp id List.mem_of_mem_drop

theorem ChunkOK.append {ch : Chunk} {w : Nat} (h : ChunkOK ch w) (r : Rec) (ho : r.off = ch.writingHead)
    (hs : 0 < r.size) :
    ChunkOK { ch with wbuf := ch.wbuf ++ [r], writingHead := ch.writingHead + r.size,
                      size := ch.writingHead + r.size } w := by
  obtain ⟨b, hb⟩ := h.base
  have hw := h.wle
  refine ⟨⟨b, ?_⟩, h.cfile, ?_, ?_, rfl⟩
  · simp only [List.take_append_of_le_length hw]; exact hb
  · simp only [List.drop_append_of_le_length hw]
    exact (contig_append _ _ _ _).mpr ⟨_, h.cbuf, ho, hs, rfl⟩
  · simp only [List.length_append]; omega

theorem ChunkOK.write {ch : Chunk} {w : Nat} (h : ChunkOK ch w) (r : Rec) (hr : ch.wbuf[w]? = some r) :
    ChunkOK (ch.write ch.fsize r) (w + 1) := by
  obtain ⟨hlt, hget⟩ := List.getElem?_eq_some_iff.mp hr
  have hdrop : ch.wbuf.drop w = r :: ch.wbuf.drop (w + 1) := by
    rw [← hget]; exact List.drop_eq_getElem_cons hlt
  have hc := h.cbuf
  rw [hdrop] at hc
  have hoff : r.off = ch.fsize := hc.1
  have hrr : { r with off := ch.fsize } = r := by rw [← hoff]
  unfold Chunk.write
  rw [hrr]
  obtain ⟨b, hb⟩ := h.base
  refine ⟨⟨b, ?_⟩, ?_, hc.2.2, hlt, h.size⟩
  · simp only [hb, List.append_assoc]
    congr 1
    rw [List.take_add_one, hr]; rfl
  · exact (contig_append _ _ _ _).mpr ⟨_, h.cfile, hoff, hc.2.1, rfl⟩

theorem ChunkOK.detach {ch : Chunk} {w : Nat} (h : ChunkOK ch w) : ChunkOK { ch with wbuf := ch.wbuf.drop w } 0 :=
  ⟨⟨ch.file, by simp⟩, h.cfile, by simpa using h.cbuf, Nat.zero_le _, h.size⟩

theorem ChunkOK.detach_stored {ch : Chunk} {w : Nat} (h : ChunkOK ch w) (r : Rec) (hr : Stored ch r) :
    Stored (ch.detach w) r := by
  rcases hr with hr | hr
  · exact Or.inl hr
  · rw [← List.take_append_drop w ch.wbuf] at hr
    rcases List.mem_append.mp hr with hr | hr
    · obtain ⟨b, hb⟩ := h.base
      left; show r ∈ ch.file; rw [hb]; exact List.mem_append_right _ hr
    · exact Or.inr hr

end ConcFine
