/-
  The bucket machine against the reference map (C01): it refines the map command by command (`Inv`, `step_refines`,
  `run_refines`).  An append leaves what is written where it is (`append_spec`); `set` and `delete` are `checkAndSet`,
  compared once with its counterpart on the reference map (`specCas`, `cas_refines`).
-/
import GoBeans.Model.Store
import GoBeans.Lemmas.Hash
import GoBeans.Lemmas.Version
namespace StoreLemmas
open Store Spec

/-- what appends and reads need of the layout of the data files (`Lay`, Layout.lean: `Lay.posInv`) -/
structure PosInv (b : Bucket) : Prop where
  below : ∀ i o r, (o, r) ∈ (b.chunks i).recs → o < (b.chunks i).size
  fresh : ∀ i, b.head < i → (b.chunks i).recs = [] ∧ (b.chunks i).size = 0

theorem PosInv.nil_of_size {b : Bucket} (hp : PosInv b) {i : Nat} (h : (b.chunks i).size = 0) : (b.chunks i).recs = [] := by
  cases hr : (b.chunks i).recs with
  | nil => rfl
  | cons x xs => have := hp.below i x.1 x.2 (by rw [hr]; simp); omega

theorem PosInv.le_head {b : Bucket} (hp : PosInv b) {c : Nat} (h : (b.chunks c).recs ≠ []) : c ≤ b.head :=
  Decidable.byContradiction fun hc => h (hp.fresh c (by omega)).1

theorem PosInv.tree {b : Bucket} (hp : PosInv b) (t : List (Nat × TItem)) : PosInv { b with tree := t } :=
  ⟨hp.below, hp.fresh⟩

theorem readAt_setChunk (b : Bucket) (i : Nat) (c : Chunk) (q : Pos) :
    (b.setChunk i c).readAt q = if q.chunk = i then c.find q.off else b.readAt q := by
  unfold Bucket.readAt Bucket.setChunk Bucket.chunk
  by_cases h : q.chunk = i <;> simp [h]

theorem chunks_setChunk (b : Bucket) (i : Nat) (c : Chunk) (j : Nat) :
    (b.setChunk i c).chunks j = if j = i then c else b.chunks j := rfl

theorem readAt_congr {b b' : Bucket} (h : ∀ i, (b'.chunks i).recs = (b.chunks i).recs) (q : Pos) :
    b'.readAt q = b.readAt q := by
  simp only [Bucket.readAt, Bucket.chunk, Chunk.find, h]

theorem PosInv.congr {b b' : Bucket} (hp : PosInv b)
    (h : ∀ i, (b'.chunks i).recs = (b.chunks i).recs ∧ (b'.chunks i).size = (b.chunks i).size) (hh : b'.head = b.head) :
    PosInv b' := by
  refine ⟨fun i o r hm => ?_, fun i hi => ?_⟩
  · rw [(h i).1] at hm; rw [(h i).2]; exact hp.below i o r hm
  · rw [(h i).1, (h i).2]; exact hp.fresh i (hh ▸ hi)

theorem setChunk_same (b : Bucket) (i : Nat) (c : Chunk) (hr : c.recs = (b.chunks i).recs) (hs : c.size = (b.chunks i).size)
    (j : Nat) : ((b.setChunk i c).chunks j).recs = (b.chunks j).recs ∧ ((b.setChunk i c).chunks j).size = (b.chunks j).size := by
  rw [chunks_setChunk]
  by_cases h : j = i
  · subst h; simp [hr, hs]
  · simp [h]

theorem sealHead_recs (b : Bucket) (j : Nat) :
    (b.sealHead.chunks j).recs = (b.chunks j).recs ∧ (b.sealHead.chunks j).size = (b.chunks j).size :=
  by apply setChunk_same <;> rfl

theorem flush_files (hash : Key → Nat) (cfg : Store.Cfg) (b : Bucket) (j : Nat) :
    ((Store.step hash cfg b .flush).1.chunks j).recs = (b.chunks j).recs
    ∧ ((Store.step hash cfg b .flush).1.chunks j).size = (b.chunks j).size :=
  by apply setChunk_same <;> rfl

theorem chunks_pushRec (b : Bucket) (ck off : Nat) (r : Rec) (i : Nat) :
    (b.pushRec ck off r).chunks i =
      if i = ck then { b.chunks ck with recs := (b.chunks ck).recs ++ [(off, r)], size := off + r.size } else b.chunks i := rfl

theorem readAt_pushRec (b : Bucket) (ck off : Nat) (r : Rec) (q : Pos) :
    (b.pushRec ck off r).readAt q =
      if q.chunk = ck then (b.readAt q).or (if off = q.off then some r else none) else b.readAt q := by
  refine (readAt_setChunk b ck _ q).trans ?_
  by_cases h : q.chunk = ck
  · rw [if_pos h, if_pos h]
    simp only [Chunk.find, Bucket.readAt, Bucket.chunk, h, List.find?_append]
    cases (b.chunks ck).recs.find? (fun p => p.1 = q.off) with
    | some x => rfl
    | none => by_cases e : off = q.off <;> simp [e]
  · rw [if_neg h, if_neg h]

theorem pushRec_spec (b : Bucket) (ck off : Nat) (r : Rec) (hp : PosInv b) (hs : 0 < r.size)
    (hoff : off = (b.chunks ck).size) (hck : b.head ≤ ck) :
    (b.pushRec ck off r).readAt ⟨ck, off⟩ = some r
    ∧ (∀ q r0, b.readAt q = some r0 → (b.pushRec ck off r).readAt q = some r0)
    ∧ PosInv (b.pushRec ck off r)
    ∧ (b.pushRec ck off r).tree = b.tree := by
  refine ⟨?_, ?_, ⟨?_, ?_⟩, rfl⟩
  · have hnone : b.readAt ⟨ck, off⟩ = none := by
      simp only [Bucket.readAt, Bucket.chunk, Chunk.find, Option.map_eq_none_iff, List.find?_eq_none]
      intro p hm
      have := hp.below ck p.1 p.2 hm
      simp; omega
    rw [readAt_pushRec, if_pos rfl, if_pos rfl, hnone]; rfl
  · intro q r0 hq
    rw [readAt_pushRec, hq]
    split <;> rfl
  · intro i o r' hm
    rw [chunks_pushRec] at hm ⊢
    by_cases h : i = ck
    · subst h
      simp at hm ⊢
      rcases hm with hm | hm
      · have := hp.below _ _ _ hm; omega
      · obtain ⟨rfl, _⟩ := hm; omega
    · simp [h] at hm ⊢; exact hp.below _ _ _ hm
  · intro i hi
    have hi : ck < i := hi
    rw [chunks_pushRec, if_neg (by omega)]
    exact hp.fresh i (by omega)

/-- `b'` holds the same records at the same places as `b` (the head sealed, a flush, a restart); `flushed`, `created`,
    the head, the tree and `nextGC` may differ.  Since the head may (a restart moves it), "nothing above the head"
    does not pass from `b` to `b'` by `files`: `pos` carries it. -/
structure Quiet (b b' : Bucket) : Prop where
  files : ∀ i, (b'.chunks i).recs = (b.chunks i).recs ∧ (b'.chunks i).size = (b.chunks i).size
  log : b'.log = b.log
  pos : PosInv b'

theorem Quiet.readAt {b b' : Bucket} (q : Quiet b b') (p : Pos) : b'.readAt p = b.readAt p :=
  readAt_congr (fun i => (q.files i).1) p

theorem log_congr {b b' : Bucket} (h : ∀ i, (b'.chunks i).recs = (b.chunks i).recs) (hh : b'.head = b.head) :
    b'.log = b.log := by
  simp only [Bucket.log, h, hh]

theorem Quiet.of_files {b b' : Bucket} (hp : PosInv b)
    (h : ∀ i, (b'.chunks i).recs = (b.chunks i).recs ∧ (b'.chunks i).size = (b.chunks i).size) (hh : b'.head = b.head) :
    Quiet b b' :=
  ⟨h, log_congr (fun i => (h i).1) hh, hp.congr h hh⟩

theorem flush_quiet (hash : Key → Nat) (cfg : Store.Cfg) {b : Bucket} (hp : PosInv b) :
    Quiet b (Store.step hash cfg b .flush).1 :=
  .of_files hp (flush_files hash cfg b) rfl

theorem Quiet.tree {b : Bucket} (hp : PosInv b) (t : List (Nat × TItem)) : Quiet b { b with tree := t } :=
  .of_files hp (fun _ => ⟨rfl, rfl⟩) rfl

/-- `b.append cfg r` is a `pushRec` at the end of file `ck` of `b0`, where `b0` is `b`, or `b` with the head sealed and
    `ck` the next file.  `fits`: the file stays within the limit unless it was empty (a record larger than the limit
    still goes into a file of its own).  `created`: for the stores that ask which files exist. -/
structure AppendShape (cfg : Store.Cfg) (b : Bucket) (r : Rec) (b0 : Bucket) (ck : Nat) : Prop where
  quiet : Quiet b b0
  head : b0.head = b.head
  tree : b0.tree = b.tree
  file : ck = b.head ∨ ck = b.head + 1
  eq : b.append cfg r = (b0.pushRec ck (b0.chunks ck).size r, ⟨ck, (b0.chunks ck).size⟩)
  fits : (b0.chunks ck).size + r.size ≤ cfg.dataFileMax ∨ (b0.chunks ck).size = 0
  created : ∀ i, (b.chunks i).created = true → (b0.chunks i).created = true

theorem append_shape (cfg : Store.Cfg) (b : Bucket) (r : Rec) (hp : PosInv b) : ∃ b0 ck, AppendShape cfg b r b0 ck := by
  by_cases hrot : (b.chunks b.head).size + r.size > cfg.dataFileMax
  · have q : Quiet b b.sealHead := .of_files hp (sealHead_recs b) rfl
    have hf := (q.pos.fresh (b.head + 1) (by show b.head < b.head + 1; omega)).2
    refine ⟨b.sealHead, b.head + 1, q, rfl, rfl, Or.inr rfl, ?_, Or.inr hf, fun i hc => ?_⟩
    · simp only [Bucket.append, Bucket.slot, hrot, ↓reduceIte, hf]
    · rw [Bucket.sealHead, chunks_setChunk]; split
      · rfl
      · exact hc
  · refine ⟨b, b.head, .of_files hp (fun _ => ⟨rfl, rfl⟩) rfl, rfl, rfl, Or.inl rfl, ?_, Or.inl (by omega), fun _ => id⟩
    simp only [Bucket.append, Bucket.slot, hrot, ↓reduceIte, Bool.false_eq_true]

theorem append_spec (cfg : Store.Cfg) (b : Bucket) (r : Rec) (hp : PosInv b) (hs : 0 < r.size) :
    (b.append cfg r).1.readAt (b.append cfg r).2 = some r
    ∧ (∀ q r0, b.readAt q = some r0 → (b.append cfg r).1.readAt q = some r0)
    ∧ PosInv (b.append cfg r).1
    ∧ (b.append cfg r).1.tree = b.tree := by
  obtain ⟨b0, ck, s⟩ := append_shape cfg b r hp
  obtain ⟨h1, h2, h3, h4⟩ := pushRec_spec b0 ck _ r s.quiet.pos hs rfl (by have := s.head; have := s.file; omega)
  rw [s.eq]
  exact ⟨h1, fun p r0 h => h2 p r0 (by rw [s.quiet.readAt]; exact h), h3, h4.trans s.tree⟩

theorem put_fst (hash : Key → Nat) (cfg : Store.Cfg) (b : Bucket) (r : Rec) :
    (b.put hash cfg r).1 =
      { (b.append cfg r).1 with
        tree := AMap.set (b.append cfg r).1.tree (hash r.key)
          { pos := (b.append cfg r).2, ver := r.ver, vhash := if r.ver > 0 then vhashOf r.body else 0 } } := rfl

section
variable (hash : Key → Nat) (K : Key → Prop)

def InjOn : Prop := ∀ k1 k2, K k1 → K k2 → hash k1 = hash k2 → k1 = k2

/-- what the tree slot and the record of key `k` say is the reference entry of `k`.  `n` bounds the version: a command
    raises it by one at most (`nextVersion_natAbs`), so while `n` stays below 2^31 - 1 = 2147483647 the Int32 kernel
    `nextVer` does not wrap and is the documented rule (`nextVer_eq`).  The body is shorter than 2^63 because the
    kernel `Getvhash` compares its length as an int64 (`vhashOf_eq`). -/
def Agree (n : Nat) (b : Bucket) (m : KV) (k : Key) : Prop :=
  (AMap.get b.tree (hash k) = none ∧ AMap.get m k = none) ∨
  (∃ it e r, AMap.get b.tree (hash k) = some it ∧ AMap.get m k = some e ∧ b.readAt it.pos = some r ∧ r.key = k
      ∧ e.ver = it.ver ∧ e.flag = r.flag ∧ e.body = r.body ∧ e.ts = r.ts
      ∧ it.vhash = (if it.ver > 0 then vhashOf r.body else 0) ∧ r.body.length < 2^63 ∧ it.ver.natAbs ≤ n)

/-- `K`: the keys of the history, on which `hash` is injective (`InjOn`; colliding keys are C13's) -/
structure Inv (n : Nat) (b : Bucket) (m : KV) : Prop where
  pos : PosInv b
  agree : ∀ k, K k → Agree hash n b m k

/-- the second case of `Agree`, its clauses by name -/
structure Hit (n : Nat) (b : Bucket) (m : KV) (k : Key) (it : TItem) (e : Entry) (r : Rec) : Prop where
  tree : AMap.get b.tree (hash k) = some it
  ref : AMap.get m k = some e
  read : b.readAt it.pos = some r
  key : r.key = k
  ver : e.ver = it.ver
  flag : e.flag = r.flag
  body : e.body = r.body
  ts : e.ts = r.ts
  vhash : it.vhash = (if it.ver > 0 then vhashOf r.body else 0)
  len : r.body.length < 2^63
  bound : it.ver.natAbs ≤ n
end

section
variable {hash : Key → Nat} {K : Key → Prop} {n : Nat} {b : Bucket} {m : KV} {k : Key}

theorem Hit.agree {it : TItem} {e : Entry} {r : Rec} (h : Hit hash n b m k it e r) : Agree hash n b m k :=
  Or.inr ⟨it, e, r, h.tree, h.ref, h.read, h.key, h.ver, h.flag, h.body, h.ts, h.vhash, h.len, h.bound⟩

theorem Agree.hit (a : Agree hash n b m k) :
    (AMap.get b.tree (hash k) = none ∧ AMap.get m k = none) ∨ ∃ it e r, Hit hash n b m k it e r :=
  a.imp id fun ⟨it, e, r, h1, h2, h3, h4, h5, h6, h7, h8, h9, h10, h11⟩ => ⟨it, e, r, h1, h2, h3, h4, h5, h6, h7, h8, h9, h10, h11⟩

theorem Agree.mono {n' : Nat} (hn : n ≤ n') (a : Agree hash n b m k) : Agree hash n' b m k := by
  rcases a.hit with a | ⟨it, e, r, h⟩
  · exact Or.inl a
  · exact Hit.agree { h with bound := Nat.le_trans h.bound hn }

theorem Agree.frame (hInj : InjOn hash K) {b' : Bucket} {k' : Key} {it' : TItem} {e' : Entry}
    (hk : K k) (hk' : K k') (hkk : k ≠ k') (ht : b'.tree = AMap.set b.tree (hash k) it')
    (hr : ∀ q r0, b.readAt q = some r0 → b'.readAt q = some r0) (a : Agree hash n b m k') :
    Agree hash n b' (AMap.set m k e') k' := by
  have hne : hash k ≠ hash k' := fun e => hkk (hInj _ _ hk hk' e)
  rcases a.hit with ⟨a1, a2⟩ | ⟨it0, e0, r0, h⟩
  · exact Or.inl ⟨by rw [ht, AMap.get_set_ne _ _ _ _ hne, a1], by rw [AMap.get_set_ne _ _ _ _ hkk, a2]⟩
  · exact Hit.agree { h with tree := by rw [ht, AMap.get_set_ne _ _ _ _ hne, h.tree]
                             ref := by rw [AMap.get_set_ne _ _ _ _ hkk, h.ref]
                             read := hr _ _ h.read }

theorem Inv.quiet {b' : Bucket} (inv : Inv hash K n b m) (q : Quiet b b') (ht : b'.tree = b.tree) : Inv hash K n b' m := by
  refine ⟨q.pos, fun k hk => ?_⟩
  rcases (inv.agree k hk).hit with a | ⟨it, e, r, h⟩
  · exact Or.inl (ht ▸ a)
  · exact Hit.agree { h with tree := ht ▸ h.tree, read := (q.readAt _).trans h.read }

theorem lookup_of_agree (a : Agree hash n b m k) :
    (AMap.get m k = none ∧ b.lookup hash k = .miss) ∨
    (∃ it e r, Hit hash n b m k it e r ∧ b.lookup hash k = .found r it) := by
  rcases a.hit with ⟨a1, a2⟩ | ⟨it, e, r, h⟩
  · left; exact ⟨a2, by simp [Bucket.lookup, a1]⟩
  · right; exact ⟨it, e, r, h, by simp [Bucket.lookup, h.tree, h.read, h.key]⟩
end

section Refine
variable (hash : Key → Nat) (K : Key → Prop)

theorem inv_mono {n n' : Nat} (hn : n ≤ n') {b : Bucket} {m : KV} (inv : Inv hash K n b m) : Inv hash K n' b m :=
  ⟨inv.pos, fun k hk => (inv.agree k hk).mono hn⟩

theorem vhashOf_eq (body : Bytes) (h : body.length < 2^63) : vhashOf body = Ref.vhash body :=
  HashLemmas.L_vhash body h

theorem put_inv (cfg : Store.Cfg) (hInj : InjOn hash K) {n n' : Nat} (hn : n ≤ n') {b : Bucket} {m : KV}
    (inv : Inv hash K n b m) (r : Rec) (hk : K r.key) (hs : 0 < r.size) (hb : r.body.length < 2^63)
    (hv : r.ver.natAbs ≤ n') :
    Inv hash K n' (b.put hash cfg r).1 (AMap.set m r.key { ver := r.ver, flag := r.flag, body := r.body, ts := r.ts }) := by
  obtain ⟨h1, h2, h3, h4⟩ := append_spec cfg b r inv.pos hs
  rw [put_fst]
  refine ⟨h3.tree _, fun k hkK => ?_⟩
  by_cases hkk : r.key = k
  · subst hkk
    exact Hit.agree ⟨AMap.get_set_self _ _ _, AMap.get_set_self _ _ _, h1, rfl, rfl, rfl, rfl, rfl, rfl, hb, hv⟩
  · exact ((inv.agree k hkK).mono hn).frame hInj hk hkK hkk (by rw [← h4]) h2

theorem get_refines (cfg : Store.Cfg) {n : Nat} {b : Bucket} {m : KV} (inv : Inv hash K n b m) (k : Key) (hk : K k) :
    (Store.step hash cfg b (.get k)).2.1 = (Spec.step { checkVHash := cfg.checkVHash } m (.get k)).2
    ∧ (Store.step hash cfg b (.get k)).1 = b ∧ (Spec.step { checkVHash := cfg.checkVHash } m (.get k)).1 = m := by
  rcases lookup_of_agree (inv.agree k hk) with ⟨h1, h2⟩ | ⟨it, e, r, h, hl⟩
  · simp [Store.step, Spec.step, h1, h2]
  · simp only [Store.step, Spec.step, h.ref, hl, h.ver, h.flag, h.body]
    by_cases hv : it.ver > 0 <;> simp [hv]

theorem info_refines (cfg : Store.Cfg) {n : Nat} {b : Bucket} {m : KV} (inv : Inv hash K n b m) (k : Key) (hk : K k) :
    (Store.step hash cfg b (.info k)).2.1 = (Spec.step { checkVHash := cfg.checkVHash } m (.info k)).2
    ∧ (Store.step hash cfg b (.info k)).1 = b ∧ (Spec.step { checkVHash := cfg.checkVHash } m (.info k)).1 = m := by
  rcases lookup_of_agree (inv.agree k hk) with ⟨h1, h2⟩ | ⟨it, e, r, h, hl⟩
  · simp [Store.step, Spec.step, h1, h2]
  · simp only [Store.step, Spec.step, h.ref, hl, h.ver, h.flag, h.body, h.ts, vhashOf_eq r.body h.len]
    simp

/-- `vh` is the value hash `checkAndSet` puts into the slot: the request's, which under the same-value test is the
    slot's own for `rev > 0`, and 0 for `rev < 0` (a delete request carries 0) -/
theorem treeonly_inv (hInj : InjOn hash K) {n n' : Nat} (hn : n ≤ n') {b : Bucket} {m : KV}
    (inv : Inv hash K n b m) (k : Key) (hk : K k) {it : TItem} {e : Entry} {r : Rec} (h : Hit hash n b m k it e r) (rev : Int)
    (hpos : 0 < it.ver) (vh : Nat) (hvh : vh = if rev > 0 then it.vhash else 0) (hb : rev.natAbs ≤ n') :
    Inv hash K n' { b with tree := AMap.set b.tree (hash k) { it with ver := rev, vhash := vh } }
      (AMap.set m k { e with ver := rev }) := by
  refine ⟨inv.pos.tree _, fun k' hk' => ?_⟩
  by_cases hkk : k = k'
  · subst hkk
    have hv := h.vhash
    rw [if_pos hpos] at hv
    exact Hit.agree { h with tree := AMap.get_set_self _ _ _, ref := AMap.get_set_self _ _ _, ver := rfl, bound := hb
                             vhash := by show vh = _; rw [hvh, hv] }
  · exact ((inv.agree k' hk').mono hn).frame hInj hk hk' hkk rfl (fun _ _ h => h)

/-! `checkAndSet` in two forms.  By the tree slot, as the model has it (`cas_none`, `cas_some`): for `cas_refines`,
    which walks its tests beside those of the reference.  As a decision on the old meta alone (`casPlan`, `scas_eq`):
    for whoever asks only what kind of effect there was (`cas_eff`), and for the store with the collision table, which
    takes the same decision on another old meta (what `memMeta` finds). -/

theorem cas_none (cfg : Store.Cfg) (b : Bucket) (k : Key) (body : Bytes) (flag : Nat) (rev : Int) (ts : Option Nat) (size wts : Nat)
    (h1 : AMap.get b.tree (hash k) = none) :
    checkAndSet hash cfg b k body flag rev ts size wts =
      (if (nextVer 0 rev).2 = false then (b, .done none)
       else if (nextVer 0 rev).1 < 0 then (b, .notFound)
       else ((b.put hash cfg { key := k, ver := (nextVer 0 rev).1, flag := flag, ts := ts, body := body, size := size, wts := wts }).1,
             .done (some (b.put hash cfg { key := k, ver := (nextVer 0 rev).1, flag := flag, ts := ts, body := body, size := size, wts := wts }).2))) := by
  unfold checkAndSet
  simp only [h1]

theorem cas_some (cfg : Store.Cfg) (b : Bucket) (k : Key) (body : Bytes) (flag : Nat) (rev : Int) (ts : Option Nat) (size wts : Nat)
    (it : TItem) (h1 : AMap.get b.tree (hash k) = some it) :
    checkAndSet hash cfg b k body flag rev ts size wts =
      (if (it.ver > 0 ∧ (if rev ≥ 0 then vhashOf body else 0) = it.vhash) ∧ cfg.checkVHash = true then
         ((if rev ≠ 0 then { b with tree := AMap.set b.tree (hash k) { it with ver := rev, vhash := (if rev ≥ 0 then vhashOf body else 0) } } else b), .done none)
       else if (nextVer it.ver rev).2 = false then (b, .done none)
       else if (nextVer it.ver rev).1 < 0 ∧ it.ver < 0 then (b, .notFound)
       else ((b.put hash cfg { key := k, ver := (nextVer it.ver rev).1, flag := flag, ts := ts, body := body, size := size, wts := wts }).1,
             .done (some (b.put hash cfg { key := k, ver := (nextVer it.ver rev).1, flag := flag, ts := ts, body := body, size := size, wts := wts }).2))) := by
  unfold checkAndSet
  simp only [h1]

def oldVerOf (old : Option TItem) : Int := match old with | some it => it.ver | none => 0

def oldVer (b : Bucket) (h : Nat) : Int := match AMap.get b.tree h with | some it => it.ver | none => 0

theorem oldVer_eq (b : Bucket) (h : Nat) : oldVer b h = oldVerOf (AMap.get b.tree h) := rfl

theorem Inv.oldVer_le {hash : Key → Nat} {K : Key → Prop} {n : Nat} {b : Bucket} {m : KV} {k : Key} (inv : Inv hash K n b m)
    (hk : K k) : (oldVer b (hash k)).natAbs ≤ n := by
  unfold oldVer
  rcases (inv.agree k hk).hit with ⟨a, _⟩ | ⟨it, e, r, h⟩
  · rw [a]; exact Nat.zero_le n
  · rw [h.tree]; exact h.bound

/-- what `checkAndSet` decides from the old meta it sees -/
inductive CasPlan
  | keep (res : CasResult)      -- nothing is written
  | retree (it : TItem)         -- same value under check_vhash with an explicit revision: the tree item alone
  | write (ver : Int)

def casPlan (cvh : Bool) (old : Option TItem) (body : Bytes) (rev : Int) : CasPlan :=
  match old with
  | none =>
    if (nextVer 0 rev).2 = false then .keep (.done none)
    else if (nextVer 0 rev).1 < 0 then .keep .notFound
    else .write (nextVer 0 rev).1
  | some it =>
    if (it.ver > 0 ∧ (if rev ≥ 0 then vhashOf body else 0) = it.vhash) ∧ cvh = true then
      (if rev ≠ 0 then .retree { it with ver := rev, vhash := if rev ≥ 0 then vhashOf body else 0 } else .keep (.done none))
    else if (nextVer it.ver rev).2 = false then .keep (.done none)
    else if (nextVer it.ver rev).1 < 0 ∧ it.ver < 0 then .keep .notFound
    else .write (nextVer it.ver rev).1

theorem scas_eq (cfg : Store.Cfg) (b : Bucket) (k : Key) (body : Bytes) (flag : Nat) (rev : Int) (ts : Option Nat) (size wts : Nat) :
    Store.checkAndSet hash cfg b k body flag rev ts size wts =
      match casPlan cfg.checkVHash (AMap.get b.tree (hash k)) body rev with
      | .keep res => (b, res)
      | .retree it => ({ b with tree := AMap.set b.tree (hash k) it }, .done none)
      | .write v =>
        ((b.put hash cfg { key := k, ver := v, flag := flag, ts := ts, body := body, size := size, wts := wts }).1,
         .done (some (b.put hash cfg { key := k, ver := v, flag := flag, ts := ts, body := body, size := size, wts := wts }).2)) := by
  unfold Store.checkAndSet casPlan
  cases AMap.get b.tree (hash k) with
  | none =>
    simp only
    by_cases c1 : (nextVer 0 rev).2 = false
    · rw [if_pos c1, if_pos c1]
    · rw [if_neg c1, if_neg c1]
      by_cases c2 : (nextVer 0 rev).1 < 0
      · rw [if_pos c2, if_pos c2]
      · rw [if_neg c2, if_neg c2]
  | some it =>
    simp only
    by_cases c0 : (it.ver > 0 ∧ (if rev ≥ 0 then vhashOf body else 0) = it.vhash) ∧ cfg.checkVHash = true
    · rw [if_pos c0, if_pos c0]
      by_cases c00 : rev ≠ 0
      · rw [if_pos c00, if_pos c00]
      · rw [if_neg c00, if_neg c00]
    · rw [if_neg c0, if_neg c0]
      by_cases c1 : (nextVer it.ver rev).2 = false
      · rw [if_pos c1, if_pos c1]
      · rw [if_neg c1, if_neg c1]
        by_cases c2 : (nextVer it.ver rev).1 < 0 ∧ it.ver < 0
        · rw [if_pos c2, if_pos c2]
        · rw [if_neg c2, if_neg c2]

theorem casPlan_cases (cvh : Bool) (old : Option TItem) (body : Bytes) (rev : Int) :
    (∃ res, casPlan cvh old body rev = .keep res)
    ∨ (cvh = true ∧ ∃ it, casPlan cvh old body rev = .retree it)
    ∨ ((nextVer (oldVerOf old) rev).2 = true ∧ casPlan cvh old body rev = .write (nextVer (oldVerOf old) rev).1) := by
  unfold casPlan oldVerOf
  cases old with
  | none =>
    simp only
    split
    · exact Or.inl ⟨_, rfl⟩
    · rename_i h2
      split
      · exact Or.inl ⟨_, rfl⟩
      · exact Or.inr (Or.inr ⟨by simpa using h2, rfl⟩)
  | some it =>
    simp only
    by_cases c1 : (it.ver > 0 ∧ (if rev ≥ 0 then vhashOf body else 0) = it.vhash) ∧ cvh = true
    · rw [if_pos c1]
      by_cases c2 : rev ≠ 0
      · rw [if_pos c2]; exact Or.inr (Or.inl ⟨c1.2, _, rfl⟩)
      · rw [if_neg c2]; exact Or.inl ⟨_, rfl⟩
    · rw [if_neg c1]
      by_cases c3 : (nextVer it.ver rev).2 = false
      · rw [if_pos c3]; exact Or.inl ⟨_, rfl⟩
      · rw [if_neg c3]
        by_cases c4 : (nextVer it.ver rev).1 < 0 ∧ it.ver < 0
        · rw [if_pos c4]; exact Or.inl ⟨_, rfl⟩
        · rw [if_neg c4]; exact Or.inr (Or.inr ⟨by simpa using c3, rfl⟩)

theorem step_set (cfg : Store.Cfg) (b : Bucket) (k : Key) (body : Bytes) (flag : Nat) (rev : Int) (ts size : Nat) :
    Store.step hash cfg b (.set k body flag rev ts size) =
      (match checkAndSet hash cfg b k body flag rev (some ts) size ts with
       | (b', .done pos) => (b', .stored, pos)
       | (b', .notFound) => (b', .error, none)) := rfl

theorem step_delete (cfg : Store.Cfg) (b : Bucket) (k : Key) (size wts : Nat) :
    Store.step hash cfg b (.delete k size wts) =
      (match checkAndSet hash cfg b k [] 0 (-1) none size wts with
       | (b', .done pos) => (b', .deleted, pos)
       | (b', .notFound) => (b', .notFound, none)) := rfl

def casDone : CasResult → Bool
  | .done _ => true
  | .notFound => false

theorem cas_reply {x : Bucket × CasResult} {r1 r2 : Reply} {y : Bucket × Reply × Option Pos}
    (hy : y = match x with | (b', .done pos) => (b', r1, pos) | (b', .notFound) => (b', r2, none)) :
    y.1 = x.1 ∧ y.2.1 = if casDone x.2 = true then r1 else r2 := by
  subst hy
  obtain ⟨b', c⟩ := x
  cases c <;> exact ⟨rfl, rfl⟩

theorem step_set_fst (cfg : Store.Cfg) (b : Bucket) (k : Key) (body : Bytes) (flag : Nat) (rev : Int) (ts size : Nat) :
    (Store.step hash cfg b (.set k body flag rev ts size)).1 = (checkAndSet hash cfg b k body flag rev (some ts) size ts).1 :=
  (cas_reply (step_set hash cfg b k body flag rev ts size)).1

theorem step_delete_fst (cfg : Store.Cfg) (b : Bucket) (k : Key) (size wts : Nat) :
    (Store.step hash cfg b (.delete k size wts)).1 = (checkAndSet hash cfg b k [] 0 (-1) none size wts).1 :=
  (cas_reply (step_delete hash cfg b k size wts)).1

/-- `checkAndSet` on the reference map: `Spec.step` for `set` is the case `rev ≥ 0`, for `delete` the case
    `rev = -1` with empty body and value hash 0.  The flag tells `done` from `notFound`. -/
def specCas (c : Spec.Cfg) (m : KV) (k : Key) (body : Bytes) (flag : Nat) (rev : Int) (ts : Option Nat) (vh : Nat) : KV × Bool :=
  match AMap.get m k with
  | none =>
    if (Spec.nextVersion 0 rev).2 = false then (m, true)
    else if (Spec.nextVersion 0 rev).1 < 0 then (m, false)
    else (AMap.set m k { ver := (Spec.nextVersion 0 rev).1, flag := flag, body := body, ts := ts }, true)
  | some e =>
    if c.checkVHash = true ∧ e.ver > 0 ∧ Ref.vhash e.body = vh then
      (if rev ≠ 0 then AMap.set m k { e with ver := rev } else m, true)
    else if (Spec.nextVersion e.ver rev).2 = false then (m, true)
    else if (Spec.nextVersion e.ver rev).1 < 0 ∧ e.ver < 0 then (m, false)
    else (AMap.set m k { ver := (Spec.nextVersion e.ver rev).1, flag := flag, body := body, ts := ts }, true)

theorem cas_refines (cfg : Store.Cfg) (hInj : InjOn hash K) {n : Nat} (hn : n + 1 < 2147483647) {b : Bucket} {m : KV}
    (inv : Inv hash K n b m) (k : Key) (body : Bytes) (flag : Nat) (rev : Int) (ts : Option Nat) (size wts : Nat)
    (hk : K k) (hs : 0 < size) (hb : body.length < 2^63) (hrn : rev.natAbs ≤ n + 1) :
    casDone (checkAndSet hash cfg b k body flag rev ts size wts).2
        = (specCas { checkVHash := cfg.checkVHash } m k body flag rev ts (if rev ≥ 0 then Ref.vhash body else 0)).2
    ∧ Inv hash K (n + 1) (checkAndSet hash cfg b k body flag rev ts size wts).1
        (specCas { checkVHash := cfg.checkVHash } m k body flag rev ts (if rev ≥ 0 then Ref.vhash body else 0)).1 := by
  have mono := inv_mono hash K (Nat.le_succ n) inv
  have hnv : ∀ oldv : Int, oldv.natAbs ≤ n → nextVer oldv rev = Spec.nextVersion oldv rev :=
    fun oldv ho => nextVer_eq oldv rev (by omega) (by omega) (by omega)
  have hput : ∀ oldv : Int, oldv.natAbs ≤ n →
      Inv hash K (n + 1)
        (b.put hash cfg { key := k, ver := (Spec.nextVersion oldv rev).1, flag := flag, ts := ts, body := body, size := size, wts := wts }).1
        (AMap.set m k { ver := (Spec.nextVersion oldv rev).1, flag := flag, body := body, ts := ts }) := by
    intro oldv ho
    refine put_inv hash K cfg hInj (Nat.le_succ n) inv _ hk hs hb ?_
    rcases nextVersion_natAbs oldv rev with h | h
    · exact Nat.le_trans h (Nat.succ_le_succ ho)
    · rw [h]; exact hrn
  rcases (inv.agree k hk).hit with ⟨a1, a2⟩ | ⟨it, e, r, h⟩
  · rw [cas_none hash cfg b k body flag rev ts size wts a1, hnv 0 (Nat.zero_le n)]
    simp only [specCas, a2]
    by_cases hok : (Spec.nextVersion 0 rev).2 = false
    · rw [if_pos hok, if_pos hok]; exact ⟨rfl, mono⟩
    · rw [if_neg hok, if_neg hok]
      by_cases hlt : (Spec.nextVersion 0 rev).1 < 0
      · rw [if_pos hlt, if_pos hlt]; exact ⟨rfl, mono⟩
      · rw [if_neg hlt, if_neg hlt]; exact ⟨rfl, hput 0 (Nat.zero_le n)⟩
  · rw [cas_some hash cfg b k body flag rev ts size wts it h.tree, hnv it.ver h.bound]
    simp only [specCas, h.ref, h.ver]
    -- a live slot holds the value hash of its record's body, which is the reference body: the same-value
    -- shortcut fires on both sides together
    have hsame : ((it.ver > 0 ∧ (if rev ≥ 0 then vhashOf body else 0) = it.vhash) ∧ cfg.checkVHash = true) ↔
        (cfg.checkVHash = true ∧ it.ver > 0 ∧ Ref.vhash e.body = (if rev ≥ 0 then Ref.vhash body else 0)) := by
      rw [← vhashOf_eq body hb, h.body, ← vhashOf_eq r.body h.len]
      constructor
      · rintro ⟨⟨hp, hv⟩, hc⟩; rw [h.vhash, if_pos hp] at hv; exact ⟨hc, hp, hv.symm⟩
      · rintro ⟨hc, hp, hv⟩; rw [h.vhash, if_pos hp]; exact ⟨⟨hp, hv.symm⟩, hc⟩
    by_cases hc : (it.ver > 0 ∧ (if rev ≥ 0 then vhashOf body else 0) = it.vhash) ∧ cfg.checkVHash = true
    · rw [if_pos hc, if_pos (hsame.1 hc)]
      by_cases h0 : rev = 0
      · simp only [h0, ne_eq, not_true, if_false]; exact ⟨rfl, mono⟩
      · simp only [ne_eq, h0, not_false_eq_true, if_true]
        refine ⟨rfl, treeonly_inv hash K hInj (Nat.le_succ n) inv k hk h rev hc.1.1 _ ?_ hrn⟩
        by_cases hr : rev ≥ 0
        · rw [if_pos hr, if_pos (by omega), ← hc.1.2, if_pos hr]
        · rw [if_neg hr, if_neg (by omega)]
    · rw [if_neg hc, if_neg (fun h => hc (hsame.2 h))]
      by_cases hok : (Spec.nextVersion it.ver rev).2 = false
      · rw [if_pos hok, if_pos hok]; exact ⟨rfl, mono⟩
      · rw [if_neg hok, if_neg hok]
        by_cases hlt : (Spec.nextVersion it.ver rev).1 < 0 ∧ it.ver < 0
        · rw [if_pos hlt, if_pos hlt]; exact ⟨rfl, mono⟩
        · rw [if_neg hlt, if_neg hlt]; exact ⟨rfl, hput it.ver h.bound⟩

theorem spec_set_eq (c : Spec.Cfg) (m : KV) (k : Key) (body : Bytes) (flag : Nat) (rev : Int) (ts : Nat) (hr0 : 0 ≤ rev) :
    Spec.step c m (.set k body flag rev ts) = ((specCas c m k body flag rev (some ts) (Ref.vhash body)).1, .stored)
    ∧ (specCas c m k body flag rev (some ts) (Ref.vhash body)).2 = true := by
  have hpos := fun oldv => nextVersion_pos oldv rev hr0
  cases hg : AMap.get m k with
  | none =>
    simp only [Spec.step, specCas, hg]
    cases hok : (Spec.nextVersion 0 rev).2 with
    | false => simp
    | true => have := hpos 0 hok; simp [Int.not_lt.2 (Int.le_of_lt this)]
  | some e =>
    simp only [Spec.step, specCas, hg]
    split
    · simp
    · cases hok : (Spec.nextVersion e.ver rev).2 with
      | false => simp
      | true => have := hpos e.ver hok; simp [show ¬ ((Spec.nextVersion e.ver rev).1 < 0 ∧ e.ver < 0) by omega]

theorem set_refines (cfg : Store.Cfg) (hInj : InjOn hash K) {n : Nat} (hn : n + 1 < 2147483647) {b : Bucket} {m : KV}
    (inv : Inv hash K n b m) (k : Key) (body : Bytes) (flag : Nat) (rev : Int) (ts size : Nat)
    (hk : K k) (hs : 0 < size) (hb : body.length < 2^63) (hr0 : 0 ≤ rev) (hrn : rev.natAbs ≤ n) :
    (Store.step hash cfg b (.set k body flag rev ts size)).2.1
        = (Spec.step { checkVHash := cfg.checkVHash } m (.set k body flag rev ts)).2
    ∧ Inv hash K (n + 1) (Store.step hash cfg b (.set k body flag rev ts size)).1
        (Spec.step { checkVHash := cfg.checkVHash } m (.set k body flag rev ts)).1 := by
  obtain ⟨h1, h2⟩ := cas_refines hash K cfg hInj hn inv k body flag rev (some ts) size ts hk hs hb (by omega)
  obtain ⟨e1, e2⟩ := spec_set_eq { checkVHash := cfg.checkVHash } m k body flag rev ts hr0
  rw [if_pos (ge_iff_le.2 hr0)] at h1 h2
  rw [e2] at h1
  rw [e1, step_set_fst]
  exact ⟨(cas_reply (step_set hash cfg b k body flag rev ts size)).2.trans (if_pos h1), h2⟩

theorem spec_delete_eq (c : Spec.Cfg) (m : KV) (k : Key) :
    Spec.step c m (.delete k) =
      ((specCas c m k [] 0 (-1) none 0).1, if (specCas c m k [] 0 (-1) none 0).2 = true then .deleted else .notFound) := by
  cases hg : AMap.get m k with
  | none => simp [Spec.step, specCas, hg, nextVersion_neg1]
  | some e =>
    simp only [Spec.step, specCas, hg, nextVersion_neg1]
    by_cases hneg : e.ver < 0
    · have : ¬ e.ver > 0 := by omega
      have hv : -(e.ver.natAbs : Int) - 1 < 0 := by omega
      simp [hneg, this, hv]
    · simp only [hneg, if_false, and_false]
      split <;> simp

theorem delete_refines (cfg : Store.Cfg) (hInj : InjOn hash K) {n : Nat} (hn : n + 1 < 2147483647) {b : Bucket} {m : KV}
    (inv : Inv hash K n b m) (k : Key) (size wts : Nat) (hk : K k) (hs : 0 < size) :
    (Store.step hash cfg b (.delete k size wts)).2.1 = (Spec.step { checkVHash := cfg.checkVHash } m (.delete k)).2
    ∧ Inv hash K (n + 1) (Store.step hash cfg b (.delete k size wts)).1 (Spec.step { checkVHash := cfg.checkVHash } m (.delete k)).1 := by
  obtain ⟨h1, h2⟩ := cas_refines hash K cfg hInj hn inv k [] 0 (-1) none size wts hk hs (by simp) (by simp)
  rw [if_neg (by decide)] at h1 h2
  rw [spec_delete_eq, ← h1, step_delete_fst]
  exact ⟨(cas_reply (step_delete hash cfg b k size wts)).2, h2⟩

theorem spec_step_nodup (c : Spec.Cfg) (m : KV) (cmd : Spec.Cmd) (h : AMap.NodupKeys m) : AMap.NodupKeys (Spec.step c m cmd).1 := by
  cases cmd with
  | set k body flag rev ts =>
    simp only [Spec.step]
    split
    · split
      · exact AMap.nodup_set _ _ h
      · exact h
    · split
      · split
        · exact AMap.nodup_set _ _ h
        · exact h
      · split
        · exact AMap.nodup_set _ _ h
        · exact h
  | delete k =>
    simp only [Spec.step]
    split
    · exact h
    · split
      · exact h
      · split
        · exact AMap.nodup_set _ _ h
        · exact AMap.nodup_set _ _ h
  | incr k d =>
    simp only [Spec.step]
    split
    · exact AMap.nodup_set _ _ h
    · split
      · exact AMap.nodup_set _ _ h
      · split
        · exact h
        · split
          · exact h
          · split
            · exact h
            · exact AMap.nodup_set _ _ h
  | get k => simp only [Spec.step]; split <;> (try split) <;> exact h
  | info k => simp only [Spec.step]; split <;> exact h

theorem natDigitsAux_length (fuel n : Nat) (acc : Bytes) : (Spec.natDigitsAux fuel n acc).length ≤ fuel + acc.length := by
  induction fuel generalizing n acc with
  | zero => simp [Spec.natDigitsAux]
  | succ f ih =>
    unfold Spec.natDigitsAux
    simp only []
    split
    · simp; omega
    · have := ih (n / 10) ((48 + n % 10).toUInt8 :: acc)
      simp at this ⊢; omega

theorem itoa_length (v : Int) : (Spec.itoa v).length < 2^63 := by
  unfold Spec.itoa Spec.natDigits
  have := natDigitsAux_length 40 v.natAbs []
  split <;> simp at * <;> omega

theorem incr_refines (cfg : Store.Cfg) (hInj : InjOn hash K) {n : Nat} {b : Bucket} {m : KV}
    (inv : Inv hash K n b m) (k : Key) (delta : Int) (size wts : Nat) (hk : K k) (hs : 0 < size) :
    (Store.step hash cfg b (.incr k delta size wts)).2.1 = (Spec.step { checkVHash := cfg.checkVHash } m (.incr k delta)).2
    ∧ Inv hash K (n + 1) (Store.step hash cfg b (.incr k delta size wts)).1 (Spec.step { checkVHash := cfg.checkVHash } m (.incr k delta)).1 := by
  have mono := inv_mono hash K (Nat.le_succ n) inv
  have hput : ∀ ver v : Int, ver.natAbs ≤ n + 1 →
      Inv hash K (n + 1)
        (b.put hash cfg { key := k, ver := ver, flag := Spec.FLAG_INCR, ts := none, body := Spec.itoa v, size := size, wts := wts }).1
        (AMap.set m k { ver := ver, flag := Spec.FLAG_INCR, body := Spec.itoa v, ts := none }) :=
    fun ver v hv => put_inv hash K cfg hInj (Nat.le_succ n) inv _ hk hs (itoa_length v) hv
  rcases lookup_of_agree (inv.agree k hk) with ⟨h1, h2⟩ | ⟨it, e, r, h, hl⟩
  · simp only [Store.step, Spec.step, h1, h2]
    exact ⟨trivial, hput 1 delta (by simp)⟩
  · simp only [Store.step, Spec.step, h.ref, hl, h.ver, h.flag, h.body]
    by_cases hneg : it.ver < 0
    · simp only [hneg, ↓reduceIte]
      exact ⟨trivial, hput 1 delta (by simp)⟩
    · simp only [hneg, ↓reduceIte]
      by_cases hf : r.flag ≠ Spec.FLAG_INCR
      · rw [if_pos hf, if_pos hf]; exact ⟨rfl, mono⟩
      · rw [if_neg hf, if_neg hf]
        by_cases hl : r.body.length > 22
        · rw [if_pos hl, if_pos hl]; exact ⟨rfl, mono⟩
        · rw [if_neg hl, if_neg hl]
          cases hp : Spec.parseInt r.body with
          | none => exact ⟨rfl, mono⟩
          | some old =>
            exact ⟨rfl, hput (it.ver + 1) (Spec.wrap64 (old + delta)) (by have := h.bound; omega)⟩

/-- operations of a C01 history; a set with `rev < 0` is left out (Props/C01.lean says why) -/
def OpOK (R : Nat) : Op → Prop
  | .set k body _ rev _ size => K k ∧ 0 < size ∧ body.length < 2^63 ∧ 0 ≤ rev ∧ rev.natAbs ≤ R
  | .delete k size _ => K k ∧ 0 < size
  | .incr k _ size _ => K k ∧ 0 < size
  | .get k => K k
  | .info k => K k
  | .flush => True
  | .reopen _ => False

theorem step_refines (cfg : Store.Cfg) (hInj : InjOn hash K) (R : Nat) {n : Nat} {b : Bucket} {m : KV}
    (inv : Inv hash K n b m) (hR : R ≤ n) (hn : n + 1 < 2147483647) (op : Op) (hop : OpOK K R op) :
    match Store.cmdOf op with
    | some c => (Store.step hash cfg b op).2.1 = (Spec.step { checkVHash := cfg.checkVHash } m c).2
        ∧ Inv hash K (n + 1) (Store.step hash cfg b op).1 (Spec.step { checkVHash := cfg.checkVHash } m c).1
    | none => Inv hash K (n + 1) (Store.step hash cfg b op).1 m := by
  have mono : ∀ {b' : Bucket} {m' : KV}, Inv hash K n b' m' → Inv hash K (n + 1) b' m' :=
    inv_mono hash K (Nat.le_succ n)
  cases op with
  | set k body flag rev ts size =>
    obtain ⟨hk, hs, hb, hr0, hrR⟩ := hop
    exact set_refines hash K cfg hInj hn inv k body flag rev ts size hk hs hb hr0 (by omega)
  | delete k size wts => exact delete_refines hash K cfg hInj hn inv k size wts hop.1 hop.2
  | incr k d size wts => exact incr_refines hash K cfg hInj inv k d size wts hop.1 hop.2
  | get k =>
    have := get_refines hash K cfg inv k hop
    exact ⟨this.1, by rw [this.2.1, this.2.2]; exact mono inv⟩
  | info k =>
    have := info_refines hash K cfg inv k hop
    exact ⟨this.1, by rw [this.2.1, this.2.2]; exact mono inv⟩
  | flush => exact mono (inv.quiet (flush_quiet hash cfg inv.pos) rfl)
  | reopen _ => exact hop.elim

theorem run_refines (cfg : Store.Cfg) (hInj : InjOn hash K) (R : Nat) (ops : List Op) :
    ∀ (n : Nat) (b : Bucket) (m : KV), Inv hash K n b m → R ≤ n → n + ops.length < 2147483647 →
      (∀ op ∈ ops, OpOK K R op) →
      (Store.run hash cfg b ops).2 = (Spec.run { checkVHash := cfg.checkVHash } m (ops.filterMap Store.cmdOf)).2
      ∧ Inv hash K (n + ops.length) (Store.run hash cfg b ops).1 (Spec.run { checkVHash := cfg.checkVHash } m (ops.filterMap Store.cmdOf)).1 := by
  induction ops with
  | nil => intro n b m inv _ _ _; exact ⟨rfl, inv⟩
  | cons op ops ih =>
    intro n b m inv hR hn hops
    have hs := step_refines hash K cfg hInj R inv hR (by simp at hn; omega) op (hops op (by simp))
    have hrest : ∀ o ∈ ops, OpOK K R o := fun o ho => hops o (by simp [ho])
    simp only [Store.run, List.filterMap_cons, List.length_cons]
    rw [show n + (ops.length + 1) = n + 1 + ops.length by omega]
    cases hc : Store.cmdOf op with
    | none =>
      rw [hc] at hs
      exact ih (n + 1) _ m hs (by omega) (by simp at hn; omega) hrest
    | some c =>
      rw [hc] at hs
      have := ih (n + 1) _ _ hs.2 (by omega) (by simp at hn; omega) hrest
      exact ⟨by simp only [Spec.run]; rw [hs.1, this.1], this.2⟩

theorem inv_init {n : Nat} : Inv hash K n ({} : Bucket) ([] : KV) :=
  ⟨⟨fun i o r hm => by simp at hm, fun i _ => ⟨rfl, rfl⟩⟩, fun k _ => Or.inl ⟨rfl, rfl⟩⟩
end Refine

end StoreLemmas
