/-
  The class `SafeR`, operation by operation (the restart is in Lemmas/CollideRMain.lean).

  A write keeps `RInv` (`put_invR`).  The collision table stays exact because the new record lies behind every record there
  is: `compareAndSet` replaces an entry only by a later position (`cmpKey`), and the entry of the written key, if the table
  knows its hash, becomes the new record (`TabInv.write`).  After a restart no new undetected pair arises because the class
  lets a key with written hash-mates be written only when the table knows its hash (`alld_afterWrite`).
-/
import GoBeans.Lemmas.CollideRRead
namespace CollideLemmas
open Store Spec HintIndex Collide StoreLemmas HintBufferLemmas

section
variable (hash : Key → Nat)

/-- `hw` is the guard `TrkR.step` puts on a write after a restart -/
theorem put_invR {cfg : Collide.Cfg} (hdf : cfg.s.dataFileMax < 4294967296) (hcap : 1 ≤ cfg.cap)
    {st : State} {x : TrkR} {n : Nat} (inv : RInv hash cfg st x n) (r : Rec) (hsz : 0 < r.size)
    (hvb : r.ver.natAbs ≤ n + 1) (e : Entry) (hspec : RecSpec r e)
    (hw : x.restarted = true → x.t.writeOK hash r.key = true) :
    RInv hash cfg (st.put hash cfg r).1 { x with t := x.t.afterWrite hash r.key (AMap.set x.t.m r.key e) } (n + 1) := by
  have hlay : Lay (st.put hash cfg r).1.b := inv.lay.put hash cfg.s r hsz
  rw [put_eq] at hlay ⊢
  have f4 := (append_spec cfg.s st.b r inv.lay.posInv hsz).2.2.2
  have flog := log_append cfg.s st.b r inv.lay.posInv
  obtain ⟨c1, c2, c3, c4, c5, c6⟩ := append_chunks cfg.s st.b r inv.lay.posInv
  obtain ⟨kp, hsm⟩ := exact_append hash cfg.s cfg.cap hcap inv.hg inv.dsfull inv.lay r hsz
  generalize hA : st.b.append cfg.s r = A at *
  obtain ⟨b1, pos⟩ := A
  simp only at hlay f4 flog c1 c2 c3 c4 c5 c6 kp hsm ⊢
  have hlast : ∀ k', lastOf k' b1.log = if r.key = k' then some (pos, r) else lastOf k' st.b.log := by
    intro k'; rw [flog, lastOf_append_single]
  have hmemrec : ∀ c o r0, (o, r0) ∈ (b1.chunks c).recs → (o, r0) ∈ (st.b.chunks c).recs ∨ (c = pos.chunk ∧ o = pos.off ∧ r0 = r) := by
    intro c o r0 hm
    by_cases hc : c = pos.chunk
    · subst hc
      rw [c1, List.mem_append, List.mem_singleton, Prod.mk.injEq] at hm
      exact hm.imp_right fun e => ⟨rfl, e⟩
    · exact Or.inl (c2 c hc ▸ hm)
  -- `cmpKey` is file * 2^32 + offset, which orders positions as (file, offset) only while offsets are below
  -- 4294967296 = 2^32: hence `hdf` and `DataInv.ob`
  have hsmall : ∀ old, tget st.ct (hash r.key) r.key = some old → cmpKey old ≤ cmpKey (wItemC hash r pos) := by
    intro old e0
    obtain ⟨_, r0, hl, _⟩ := inv.last e0
    obtain ⟨hle, hmem⟩ := mem_log.1 (StoreLemmas.lastOf_mem hl).1
    have hob := inv.ob _ _ _ hmem
    have hbel := inv.lay.posInv.below _ _ _ hmem
    simp only [cmpKey, wItemC] at hmem hob hbel hle ⊢
    by_cases hc : old.chunk = pos.chunk
    · rw [hc] at hbel ⊢; omega
    · have : (old.chunk + 1) * 4294967296 ≤ pos.chunk * 4294967296 := Nat.mul_le_mul_right _ (by omega)
      omega
  have hreg : (x.t.afterWrite hash r.key (AMap.set x.t.m r.key e)).reg
      = if thas st.ct (hash r.key) = true then r.key :: x.t.reg else x.t.reg := by
    unfold Trk.afterWrite
    simp only
    rw [det_eq_thas hash inv.toDataInv]
  refine { lay := hlay, ob := ?ob, spec := ?spec, wr := ?wr, vers := ?vers, toTabInv := ?tab,
           hg := kp.hg, hmerged := kp.merged.trans inv.hmerged, dsfull := kp.dsf, tidle := kp.mono _ inv.tidle, slot := ?slot, ownw := ?ownw, own := ?own, hmax := ?hmax,
           alld := fun hr => alld_afterWrite hash x.t r.key _ (inv.alld hr) (fun k => reg_written hash inv.toDataInv) (hw hr) }
  case ob =>
    intro c o r0 hm
    rcases hmemrec c o r0 hm with h | ⟨_, rfl, _⟩
    · exact inv.ob c o r0 h
    · exact c6
  case spec =>
    intro k'
    show LogSpec (lastOf k' b1.log) (AMap.get (AMap.set x.t.m r.key e) k')
    rw [hlast]
    by_cases hk : r.key = k'
    · subst hk; rw [if_pos rfl, AMap.get_set_self]; exact logSpec_some.mpr hspec
    · rw [if_neg hk, AMap.get_set_ne _ _ _ _ hk]; exact inv.spec k'
  case wr =>
    intro k'
    show k' ∈ r.key :: x.t.written ↔ (lastOf k' b1.log).isSome = true
    rw [hlast, List.mem_cons]
    by_cases hk : r.key = k'
    · subst hk; simp
    · rw [if_neg hk, ← inv.wr k']
      exact ⟨fun e => e.resolve_left (fun e => hk e.symm), Or.inr⟩
  case vers =>
    intro y hy
    have hy' : y ∈ b1.log := hy
    rw [flog, List.mem_append] at hy'
    rcases hy' with hy' | hy'
    · have := inv.vers y hy'; omega
    · simp only [List.mem_singleton] at hy'; subst hy'; exact hvb
  case tab =>
    show TabInv hash b1.log (x.t.afterWrite hash r.key _).reg _
    rw [flog, hreg]
    exact inv.toTabInv.write hash r pos hsmall
  case slot =>
    intro h ti hti
    by_cases hh : hash r.key = h
    · subst hh
      rw [AMap.get_set_self] at hti
      cases hti
      exact ⟨r, { hash := rfl, mem := by show (pos, r) ∈ b1.log; simp [flog], ver := rfl, owner := fun _ => AMap.get_set_self _ _ _
                  last := fun _ => by show lastOf r.key b1.log = _; rw [hlast, if_pos rfl] }⟩
    · rw [AMap.get_set_ne _ _ _ _ hh, f4] at hti
      obtain ⟨r', s⟩ := inv.slot h ti hti
      have hne : ¬ r.key = r'.key := by intro e; apply hh; rw [e]; exact s.hash
      have hm : (ti.pos, r') ∈ b1.log := by simp [flog, s.mem]
      exact ⟨r', (s.of_log hm (by rw [hlast, if_neg hne])).weaken (fun hr => ⟨hr, AMap.get_set_ne _ _ _ _ hh⟩)
        (reg_afterWrite hash x.t _ _)⟩
  case ownw =>
    intro h o ho
    have ho' : AMap.get (AMap.set x.t.owner (hash r.key) r.key) h = some o := ho
    show o ∈ r.key :: x.t.written ∧ hash o = h
    by_cases hh : hash r.key = h
    · subst hh
      rw [AMap.get_set_self] at ho'
      cases ho'
      exact ⟨by simp, rfl⟩
    · rw [AMap.get_set_ne _ _ _ _ hh] at ho'
      obtain ⟨a, b⟩ := inv.ownw h o ho'
      exact ⟨by simp [a], b⟩
  case own =>
    intro k hk hc
    by_cases hh : hash r.key = hash k
    · rw [← hh, AMap.get_set_self]; exact ⟨_, rfl⟩
    · rw [AMap.get_set_ne _ _ _ _ hh, f4]
      have hne : ¬ r.key = k := by intro e'; apply hh; rw [e']
      apply inv.own k ((List.mem_cons.mp hk).resolve_left (fun e => hne e.symm))
      refine hc.imp id (fun ⟨hc1, p, r', hc2, hc3⟩ => ⟨fun hr => hc1 (reg_afterWrite hash x.t _ _ hr), p, r', ?_, hc3⟩)
      have hc2' : lastOf k b1.log = some (p, r') := hc2
      rw [hlast, if_neg hne] at hc2'
      exact hc2'
  case hmax =>
    intro hr c hne
    rw [hsm]
    by_cases hc : c = pos.chunk
    · split <;> omega
    · rw [c2 c hc] at hne
      have := inv.hmax hr c hne
      split <;> omega

/-
  Every operation of the class but the restart keeps `RInv` and is answered like the reference map (`StepOKR`).  A read
  (`read_cases`) finds either nothing live — a miss or a delete marker, where the reference map has no entry or a deleted one:
  get, meta, delete and incr then do on both sides what they do for an absent key — or the key's last record, live, whose
  flag, body and time stamp are the reference entry's.  A write goes through `put_invR`; its version is in absolute value
  at most one beyond a version the invariant bounds by the number of operations so far: for set and delete the one the
  write path saw (`memMeta`, `oldVer_boundR`), for incr the one of the record the read returned.
-/
/-- the operation `op` of the class takes the tracker from `x` to `x'`; `n + 1`: it may have used one more version -/
def StepOKR (cfg : Collide.Cfg) (st : State) (x : TrkR) (n : Nat) (op : Collide.Op) (x' : TrkR) : Prop :=
  RInv hash cfg (Collide.step hash cfg st op).1 x' (n + 1)
  ∧ (match Collide.cmdOf op with
     | some c => x'.t.m = (Spec.step {} x.t.m c).1 ∧ coarse (Collide.step hash cfg st op).2.1 = coarse (Spec.step {} x.t.m c).2
     | none => x'.t.m = x.t.m)

theorem inv_monoR {cfg : Collide.Cfg} {st : State} {x : TrkR} {n n' : Nat} (h : n ≤ n') (inv : RInv hash cfg st x n) :
    RInv hash cfg st x n' :=
  { inv with vers := fun y hy => by have := inv.vers y hy; omega }

theorem oldVer_boundR {cfg : Collide.Cfg} {st : State} {x : TrkR} {n : Nat} (inv : RInv hash cfg st x n) (k : Key) :
    (oldVerOf (st.memMeta hash k)).natAbs ≤ n := by
  unfold oldVerOf
  cases hm : st.memMeta hash k with
  | none => simp
  | some mm =>
    obtain ⟨r, hmem, hv, _⟩ := memMeta_someR hash inv hm
    simp only [hv]
    exact inv.vers _ hmem

theorem spec_set0 (m : KV) (k : Key) (body : Bytes) (flag ts : Nat) :
    Spec.step {} m (.set k body flag 0 ts) =
      (AMap.set m k { ver := (((match AMap.get m k with | some e => e.ver | none => 0) : Int).natAbs : Int) + 1, flag := flag, body := body, ts := some ts }, .stored) := by
  unfold Spec.step
  cases he : AMap.get m k with
  | none => simp [nextVersion_zero, he]
  | some e => simp [nextVersion_zero, he]

theorem spec_get_dead {m : KV} {k : Key} (hd : DeadIn m k) : Spec.step {} m (.get k) = (m, .miss) := by
  simp only [Spec.step]
  cases he : AMap.get m k with
  | none => rfl
  | some e => have := hd e he; simp only; rw [if_neg (by omega)]

theorem spec_info_dead {m : KV} {k : Key} (hd : DeadIn m k) : coarse (Spec.step {} m (.info k)).2 = .miss := by
  simp only [Spec.step]
  cases he : AMap.get m k with
  | none => rfl
  | some e => have := hd e he; simp only [coarse]; rw [if_neg (by omega)]

theorem spec_delete_dead {m : KV} {k : Key} (hd : DeadIn m k) :
    Spec.step {} m (.delete k) = (m, .notFound) ∧ liveIn m k = false := by
  simp only [Spec.step, liveIn]
  cases he : AMap.get m k with
  | none => exact ⟨rfl, rfl⟩
  | some e => have := hd e he; simp only; rw [if_pos this]; exact ⟨rfl, decide_eq_false (by omega)⟩

theorem spec_incr_dead {m : KV} {k : Key} (d : Int) (hd : DeadIn m k) :
    Spec.step {} m (.incr k d) = (AMap.set m k { ver := 1, flag := Spec.FLAG_INCR, body := Spec.itoa d, ts := none }, .num d)
    ∧ incrWrites m k = true := by
  simp only [Spec.step, incrWrites]
  cases he : AMap.get m k with
  | none => exact ⟨rfl, rfl⟩
  | some e => have := hd e he; simp only; rw [if_pos this, if_pos this]; exact ⟨rfl, rfl⟩

theorem spec_incr_refuse {m : KV} {k : Key} (d : Int) (h : incrWrites m k = false) : Spec.step {} m (.incr k d) = (m, .num 0) := by
  unfold incrWrites at h
  simp only [Spec.step]
  cases he : AMap.get m k with
  | none => rw [he] at h; cases h
  | some e =>
    rw [he] at h
    simp only at h ⊢
    split at h
    · cases h
    · rw [if_neg ‹_›]
      split at h
      · rw [if_pos ‹_›]
      · rw [if_neg ‹_›]
        split at h
        · rw [if_pos ‹_›]
        · rw [if_neg ‹_›]
          cases hp : Spec.parseInt e.body with
          | none => rfl
          | some old => rw [hp] at h; cases h

theorem get_safeR {cfg : Collide.Cfg} {st : State} {x : TrkR} {n : Nat} (inv : RInv hash cfg st x n) (k : Key) :
    StepOKR hash cfg st x n (.get k) { x with t := x.t.afterGet hash k } := by
  obtain ⟨g1, hrd⟩ := read_cases hash inv k
  refine ⟨by rw [step_get_fst]; exact inv_monoR hash (Nat.le_succ n) g1, ?_⟩
  simp only [Collide.cmdOf, afterGet_m]
  rcases hrd with ⟨h1, hd⟩ | ⟨p, r, e, h1, _, he, hv, hev, s⟩
  · rw [spec_get_dead hd]
    refine ⟨rfl, ?_⟩
    rcases h1 with h1 | ⟨p, r, h1, hv⟩ <;> simp only [Collide.step, h1]
    rw [if_neg (by omega)]
  · obtain ⟨a, b, _⟩ := s.same hev
    simp [Collide.step, Spec.step, h1, he, hv, hev, a, b]

theorem info_safeR {cfg : Collide.Cfg} {st : State} {x : TrkR} {n : Nat} (inv : RInv hash cfg st x n) (k : Key) :
    StepOKR hash cfg st x n (.info k) { x with t := x.t.afterGet hash k } := by
  obtain ⟨g1, hrd⟩ := read_cases hash inv k
  refine ⟨by rw [step_info_fst]; exact inv_monoR hash (Nat.le_succ n) g1, ?_⟩
  simp only [Collide.cmdOf, afterGet_m]
  refine ⟨by simp only [Spec.step]; cases AMap.get x.t.m k <;> rfl, ?_⟩
  rcases hrd with ⟨h1, hd⟩ | ⟨p, r, e, h1, _, he, hv, hev, s⟩
  · rw [spec_info_dead hd]
    rcases h1 with h1 | ⟨p, r, h1, hv⟩ <;> simp only [Collide.step, h1, coarse]
    rw [if_neg (by omega)]
  · obtain ⟨a, b, c⟩ := s.same hev
    simp [Collide.step, Spec.step, coarse, h1, he, hv, hev, a, b, c, vhashOf_eq r.body s.len]

theorem set_safeR {cfg : Collide.Cfg} (hcv : cfg.s.checkVHash = false) (hdf : cfg.s.dataFileMax < 4294967296) (hcap : 1 ≤ cfg.cap)
    {st : State} {x : TrkR} {n : Nat} (hn : n + 1 < 2147483647) (inv : RInv hash cfg st x n)
    (k : Key) (body : Bytes) (flag ts size : Nat) (hsz : 0 < size) (hbl : body.length < 2^63)
    (hw : x.restarted = true → x.t.writeOK hash k = true) :
    StepOKR hash cfg st x n (.set k body flag 0 ts size)
      { x with t := x.t.afterWrite hash k (Spec.step {} x.t.m (.set k body flag 0 ts)).1 } := by
  have hb := oldVer_boundR hash inv k
  unfold StepOKR
  simp only [Collide.cmdOf]
  -- 2147483647 = 2^31-1: versions are int32 in the store, and below that bound `nextVer` is the reference's `nextVersion`
  -- (`nextVer_eq`, inside `casPlan_set0`)
  rw [step_set, cas_eq, hcv, casPlan_set0 _ body (by omega), spec_set0]
  simp only [coarse, and_true]
  exact ⟨put_invR hash hdf hcap inv _ hsz (by simp only; omega) _
    ⟨by simp only; omega, ⟨fun _ => by simp only; omega, fun _ => by simp only; omega⟩, fun _ => ⟨rfl, rfl, rfl⟩, hbl, by simp only; omega⟩ hw, rfl⟩

/-- `hok` is the guard `Trk.step` puts on a delete: under it the write path sees the key's OWN last record -/
theorem memMeta_ownR {cfg : Collide.Cfg} {st : State} {x : TrkR} {n : Nat} (inv : RInv hash cfg st x n) (k : Key)
    (hok : k ∈ x.t.reg ∨ x.t.others hash k = []) :
    (st.memMeta hash k = none ∧ (lastOf k st.b.log = none ∨ ∃ p r, lastOf k st.b.log = some (p, r) ∧ r.ver < 0))
    ∨ (∃ mm p r, st.memMeta hash k = some mm ∧ lastOf k st.b.log = some (p, r) ∧ mm.ver = r.ver) := by
  cases hm : st.memMeta hash k with
  | none => exact Or.inl ⟨rfl, (memMeta_noneR hash inv hm).2.imp id And.right⟩
  | some mm =>
    obtain ⟨r, _, hv, ⟨_, hl⟩ | ⟨hnr, s⟩⟩ := memMeta_someR hash inv hm
    · exact Or.inr ⟨mm, _, r, rfl, hl, hv⟩
    · -- the slot's key is written and has the hash of `k`, which has no written hash-mates
      have hok' : r.key = k :=
        eq_of_others_nil hash (written_of_mem_log hash inv.toDataInv s.mem) s.hash (hok.resolve_left hnr)
      subst hok'
      exact Or.inr ⟨mm, mm.pos, r, rfl, s.last (Or.inr hnr), hv⟩

theorem delete_safeR {cfg : Collide.Cfg} (hcv : cfg.s.checkVHash = false) (hdf : cfg.s.dataFileMax < 4294967296) (hcap : 1 ≤ cfg.cap)
    {st : State} {x : TrkR} {n : Nat} (hn : n + 1 < 2147483647) (inv : RInv hash cfg st x n)
    (k : Key) (size wts : Nat) (hsz : 0 < size) (hok : k ∈ x.t.reg ∨ x.t.others hash k = []) :
    StepOKR hash cfg st x n (.delete k size wts)
      { x with t := (if liveIn x.t.m k then x.t.afterWrite hash k (Spec.step {} x.t.m (.delete k)).1
                     else { x.t with m := (Spec.step {} x.t.m (.delete k)).1 }) } := by
  have hb := oldVer_boundR hash inv k
  unfold StepOKR
  simp only [Collide.cmdOf]
  rw [step_delete, cas_eq, hcv]
  have hdead := fun hl => spec_delete_dead (dead_of_last hash inv.toDataInv (k := k) hl)
  rcases memMeta_ownR hash inv k hok with ⟨hm, hl⟩ | ⟨mm, p, r, hm, hl, hv⟩ <;> rw [hm] at hb ⊢
  · rw [casPlan_del_none, (hdead hl).1, (hdead hl).2]
    simp only [coarse, Bool.false_eq_true, if_false, and_self, and_true]
    exact inv_monoR hash (Nat.le_succ n) inv
  · obtain ⟨e, he, s⟩ := spec_of_last hash inv.toDataInv hl
    simp only [oldVerOf] at hb
    rw [casPlan_del_some mm (by omega)]
    by_cases hneg : mm.ver < 0
    · obtain ⟨hsp, hlv⟩ := hdead (Or.inr ⟨p, r, hl, by omega⟩)
      rw [if_pos hneg, hsp, hlv]
      simp only [coarse, Bool.false_eq_true, if_false, and_self, and_true]
      exact inv_monoR hash (Nat.le_succ n) inv
    · have hne := s.ne
      have hev : e.ver > 0 := s.live.mp (by omega)
      have hsp : Spec.step {} x.t.m (.delete k) = (AMap.set x.t.m k { ver := -(e.ver.natAbs : Int) - 1, flag := 0, body := [], ts := none }, .deleted) := by
        unfold Spec.step
        have : ¬ e.ver < 0 := by omega
        simp [he, this]
      have hlv : liveIn x.t.m k = true := by unfold liveIn; rw [he]; simp [hev]
      rw [if_neg hneg, hsp, hlv]
      simp only [coarse, if_true, and_true]
      exact ⟨put_invR hash hdf hcap inv _ hsz (by simp only; omega) _
        ⟨by simp only; omega, ⟨fun c => by simp only at c; omega, fun c => by simp only at c; omega⟩, fun c => by simp only at c; omega, by simp, by simp only; omega⟩
        (fun _ => writeOK_of_delete_ok hash x.t k hok), rfl⟩

theorem incr_writeR {cfg : Collide.Cfg} (hdf : cfg.s.dataFileMax < 4294967296) (hcap : 1 ≤ cfg.cap)
    {st1 : State} {x : TrkR} {n : Nat} (k : Key) (g1 : RInv hash cfg st1 { x with t := x.t.afterGet hash k } n)
    (hw : x.restarted = true → x.t.writeOK hash k = true)
    (size wts : Nat) (hsz : 0 < size) (v ve val : Int) (hv : 0 < v) (hve : 0 < ve) (hvb : v.natAbs ≤ n + 1) :
    RInv hash cfg (st1.put hash cfg { key := k, ver := v, flag := Spec.FLAG_INCR, ts := none, body := Spec.itoa val, size := size, wts := wts }).1
      { x with t := (x.t.afterGet hash k).afterWrite hash k (AMap.set x.t.m k { ver := ve, flag := Spec.FLAG_INCR, body := Spec.itoa val, ts := none }) } (n + 1) := by
  have := put_invR hash hdf hcap g1 { key := k, ver := v, flag := Spec.FLAG_INCR, ts := none, body := Spec.itoa val, size := size, wts := wts } hsz hvb
    { ver := ve, flag := Spec.FLAG_INCR, body := Spec.itoa val, ts := none }
    ⟨by simp only; omega, ⟨fun _ => hve, fun _ => hv⟩, fun _ => ⟨rfl, rfl, rfl⟩, itoa_length val, by simp only; omega⟩
    (fun hr => writeOK_afterGet hash x.t k (hw hr))
  simp only [afterGet_m] at this
  exact this

theorem incr_safeR {cfg : Collide.Cfg} (hdf : cfg.s.dataFileMax < 4294967296) (hcap : 1 ≤ cfg.cap)
    {st : State} {x : TrkR} {n : Nat} (inv : RInv hash cfg st x n) (k : Key) (d : Int) (size wts : Nat) (hsz : 0 < size)
    (hw : x.restarted = true → x.t.writeOK hash k = true) :
    StepOKR hash cfg st x n (.incr k d size wts)
      { x with t := (if incrWrites x.t.m k then (x.t.afterGet hash k).afterWrite hash k (Spec.step {} x.t.m (.incr k d)).1
                     else { (x.t.afterGet hash k) with m := (Spec.step {} x.t.m (.incr k d)).1 }) } := by
  obtain ⟨g1, hrd⟩ := read_cases hash inv k
  unfold StepOKR
  simp only [Collide.cmdOf, Collide.step]
  rcases hrd with ⟨h1, hd⟩ | ⟨p, r, e, h1, hl, he, hpos, hev, s⟩
  · -- nothing live: the counter starts at the delta
    have hstart : RInv hash cfg ((st.get hash k).1.put hash cfg { key := k, ver := 1, flag := Spec.FLAG_INCR, ts := none, body := Spec.itoa d, size := size, wts := wts }).1
        { x with t := (x.t.afterGet hash k).afterWrite hash k (AMap.set x.t.m k { ver := 1, flag := Spec.FLAG_INCR, body := Spec.itoa d, ts := none }) } (n + 1) :=
      incr_writeR hash hdf hcap k g1 hw size wts hsz 1 1 d (by omega) (by omega) (by simp)
    rw [(spec_incr_dead d hd).1, (spec_incr_dead d hd).2]
    rcases h1 with h1 | ⟨p, r, h1, hv⟩ <;> rw [h1]
    · simp only [coarse, if_true, and_true]
      exact ⟨hstart, rfl⟩
    · simp only [if_pos (Int.le_of_lt hv), coarse, if_true, and_true]
      exact ⟨hstart, rfl⟩
  · rw [h1]
    simp only
    obtain ⟨a, b, _⟩ := s.same hev
    have hnlt : ¬ e.ver < 0 := by omega
    rw [if_neg (by omega)]
    -- a value that is not a counter: both sides refuse and nothing changes
    have hrefuse : incrWrites x.t.m k = false →
        RInv hash cfg (st.get hash k).1
          { x with t := (if incrWrites x.t.m k then (x.t.afterGet hash k).afterWrite hash k (Spec.step {} x.t.m (.incr k d)).1
                         else { (x.t.afterGet hash k) with m := (Spec.step {} x.t.m (.incr k d)).1 }) } (n + 1)
        ∧ (if incrWrites x.t.m k then (x.t.afterGet hash k).afterWrite hash k (Spec.step {} x.t.m (.incr k d)).1
            else { (x.t.afterGet hash k) with m := (Spec.step {} x.t.m (.incr k d)).1 }).m = (Spec.step {} x.t.m (.incr k d)).1
        ∧ coarse (.num 0) = coarse (Spec.step {} x.t.m (.incr k d)).2 := by
      intro hiw
      rw [spec_incr_refuse d hiw, hiw]
      simp only [Bool.false_eq_true, if_false, and_self, and_true]
      -- the tracker is `x.t.afterGet hash k` with its own `m` written back, which is that tracker (structure eta)
      rw [← afterGet_m hash x.t k]
      exact inv_monoR hash (Nat.le_succ n) g1
    by_cases hf : r.flag ≠ Spec.FLAG_INCR
    · rw [if_pos hf]
      exact hrefuse (by unfold incrWrites; simp [he, hnlt, a, hf])
    · have hf' : r.flag = Spec.FLAG_INCR := by simpa using hf
      rw [if_neg hf]
      by_cases hlen : r.body.length > 22
      · rw [if_pos hlen]
        exact hrefuse (by unfold incrWrites; simp [he, hnlt, a, hf', b, hlen])
      · rw [if_neg hlen]
        cases hp : Spec.parseInt r.body with
        | none => exact hrefuse (by unfold incrWrites; simp [he, hnlt, a, hf', b, hlen, hp])
        | some old =>
          have hsp : Spec.step {} x.t.m (.incr k d) =
              (AMap.set x.t.m k { ver := e.ver + 1, flag := Spec.FLAG_INCR, body := Spec.itoa (Spec.wrap64 (old + d)), ts := none },
               .num (Spec.wrap64 (old + d))) := by
            unfold Spec.step; simp [he, hnlt, a, hf', b, hlen, hp]
          have hiw : incrWrites x.t.m k = true := by unfold incrWrites; simp [he, hnlt, a, hf', b, hlen, hp]
          rw [hsp, hiw]
          simp only [coarse, if_true, and_true]
          have hvb := inv.vers _ (StoreLemmas.lastOf_mem hl).1
          exact ⟨incr_writeR hash hdf hcap k g1 hw size wts hsz (r.ver + 1) (e.ver + 1) _ (by omega) (by omega) (by simp only at hvb; omega), rfl⟩

theorem flush_safeR {cfg : Collide.Cfg} {st : State} {x : TrkR} {n : Nat} (inv : RInv hash cfg st x n) :
    StepOKR hash cfg st x n .flush x := by
  unfold StepOKR
  rw [step_flush]
  simp only [Collide.cmdOf, and_true]
  apply inv_monoR hash (Nat.le_succ n)
  -- the flushed counters are not looked at
  have q : Quiet st.b (Store.step hash cfg.s st.b .flush).1 := .of_files inv.lay.posInv (flush_files hash cfg.s st.b) rfl
  exact { toDataInv := inv.toDataInv.quiet hash rfl q
          toHintInv := inv.toHintInv.congr hash rfl rfl q.files
          slot := fun h ti hti => by
            obtain ⟨r, s⟩ := inv.slot h ti hti
            exact ⟨r, q.log ▸ s⟩
          ownw := inv.ownw
          own := fun k hk hc => inv.own k hk (hc.imp id (fun ⟨c1, p, r, c2, c3⟩ => ⟨c1, p, r, q.log ▸ c2, c3⟩))
          hmax := fun hrs c hne => inv.hmax hrs c ((q.files c).1 ▸ hne)
          alld := inv.alld }

theorem dump_safeR {cfg : Collide.Cfg} {st : State} {x : TrkR} {n : Nat} (inv : RInv hash cfg st x n) :
    StepOKR hash cfg st x n .hintDump x := by
  unfold StepOKR
  rw [step_hintDump]
  simp only [Collide.cmdOf, and_true]
  apply inv_monoR hash (Nat.le_succ n)
  have s := (exact_dumpAll hash (st.b.head + 1) inv.hg inv.dsfull).2
  exact { inv with
          toHintInv := inv.toHintInv.dumpAll hash _
          hmax := fun hr c hne => Nat.le_trans (inv.hmax hr c hne) (Nat.le_of_eq s.symm) }
end
end CollideLemmas
