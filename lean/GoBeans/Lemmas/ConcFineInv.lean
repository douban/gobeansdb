/-
  The invariant of the client threads (writers, readers, flushers) of Model/ConcFine.lean RELATIVE to a set `X` of chunks
  whose layout is somebody else's business and a set `D` of chunks in `X` that have been emptied: `CInv X D`.

  The step lemmas of every layer are proved once, for the relative forms `HotLay X`, `HInvP P`, `CInv X D`, which the
  model with GC beside the clients (Model/ConcGC.lean, C05) shares: there `X` is what the pass owns and `D` what it has
  removed; for C04 both are empty.  The relative forms are the primary ones: a new clause goes there, and into the
  absolute form (`ChunkInv`, `DataInv`, `HistInv`, `Inv` of Lemmas/ConcFine.lean) only if a C04 statement is to speak of
  it.  `Readable`, `HotLay`, `HInvP`, `readerChunk`, the lemmas in their namespaces and `chunkInv_of_hotlay` carry the
  namespace `ConcGC` (the invariant of the model with GC is built from them); everything else in the ConcFine files is
  `ConcFine`.  `flushTarget` is defined in Model/ConcGC.lean: hence the import.

  `CInv` leaves out the readers' positions (`ReaderOK`, a clause of `DataInv`): beside a GC pass a position may lie in an
  emptied chunk, where `ReaderOK` is false; that reader is going to fail, which `PendOn D` provides for.  Without GC
  `Inv` carries `ReaderOK` beside `CInv` (`inv_step`).
-/
import GoBeans.Model.ConcGC
import GoBeans.Lemmas.ConcFineHist

namespace ConcFine
open Conc (AOp Out Ev Reg regStep)
open ConcGC (HotLay HInvP Readable flushTarget)

theorem micro_other_chunks {cfg : Cfg} {b b' : State} {t : Nat} (h : micro cfg b t = some b') (c : Nat)
    (h1 : c ≠ b.newHead) (h2 : flushTarget (b.thr t).pc ≠ some c) : b'.chunks c = b.chunks c := by
  rcases micro_chunks h c with e | ⟨_, _, _, _, hc, _⟩ | ⟨_, _, _, _, _, hpc, _⟩ | ⟨_, _, hpc, _⟩
  · exact e
  · exact absurd hc h1
  · exact absurd (by rw [hpc]; rfl) h2
  · exact absurd (by rw [hpc]; rfl) h2

theorem micro_target {cfg : Cfg} {b b' : State} {t : Nat} (h : micro cfg b t = some b')
    (hn : ∀ c f l, (b.thr t).pc ≠ .fDs1 c f l) (c : Nat) (hf : flushTarget (b'.thr t).pc = some c) :
    flushTarget (b.thr t).pc = some c := by
  obtain ⟨sh, pc', hm, rfl⟩ := micro_elim h
  rw [goto_pc] at hf
  generalize hpc : (b.thr t).pc = pc at hm
  cases hm with
  | fDs1None c f l | fDs1Late c f l | fDs1Go c f l => exact absurd hpc (hn c f l)
  | fOpen | fCheckBad | fCheckOk | fCount | fFetchSome | fFetchBad | fFetchDone | fWrite => exact hf
  | _ => cases hf

theorem prog_target {c : Nat} {pc : PC} (h : prog c pc ≠ 0) : flushTarget pc = some c := by
  cases pc <;> simp_all [prog, flushTarget]

theorem holdsF_of_target {pc : PC} {c : Nat} (h : flushTarget pc = some c) : holdsF pc = true := by
  cases pc <;> simp_all [flushTarget, holdsF]

theorem flushOK_congr' {ch ch' : Nat → Chunk} {pc : PC} (h : ∀ c, flushTarget pc = some c → ch' c = ch c)
    (hf : FlushOK ch pc) : FlushOK ch' pc := by
  cases pc <;> simp_all [FlushOK, flushTarget]

theorem Start.neutral {pc : PC} (h : Start pc) :
    (∀ s : State, WriterOK s pc) ∧ (∀ ch, ReaderOK ch pc) ∧ flushTarget pc = none := by
  cases h with
  | write k v sz hv => exact ⟨fun _ => ⟨Bool.noConfusion, fun _ => hv⟩, fun _ => trivial, rfl⟩
  | delete k sz => exact ⟨fun _ => ⟨fun _ => rfl, Bool.noConfusion⟩, fun _ => trivial, rfl⟩
  | _ => exact ⟨fun _ => trivial, fun _ => trivial, rfl⟩

/-- `head` and `fltg` are what `micro_other_chunks` asks for: a client step leaves the chunks in `X` alone.  `dead`: the
    emptied chunks are among them.  `cold` asks for the file lookup beside `Readable`: a reader at `rFile` has missed the
    buffer before and reads the file without another buffer test. -/
structure CInv (X D : Nat → Prop) (s : State) : Prop where
  lock : LockInv s
  lay : HotLay X s
  cold : ∀ c, X c → Readable (s.chunks c) ∧ ∀ r ∈ (s.chunks c).file, fileLookup (s.chunks c) r.off = some r
  head : ∀ c, s.newHead ≤ c → ¬ X c
  fltg : ∀ u c, flushTarget (s.thr u).pc = some c → ¬ X c
  dead : ∀ c, D c → X c ∧ (s.chunks c).wbuf = [] ∧ (s.chunks c).file = []
  recs : ∀ c r, Stored (s.chunks c) r → RecOK r
  tree : ∀ k it, s.tree k = some it → ∃ r, StoredAt s.chunks it.pos r ∧ r.key = k ∧ r.ver = it.ver
  wr : ∀ u, WriterOK s (s.thr u).pc
  hist : HInvP (PendOn D s.chunks) s
  alive : s.fatal = false
  noerr : s.readErr = false

theorem readable_on {X : Nat → Prop} {s : State} (hl : HotLay X s) (hc : ∀ c, X c → Readable (s.chunks c)) (c : Nat) :
    Readable (s.chunks c) := by
  by_cases hx : X c
  · exact hc c hx
  · exact readable_of_ok (hl.ok c hx)

theorem CInv.readable {X D : Nat → Prop} {s : State} (hi : CInv X D s) : ∀ c, Readable (s.chunks c) :=
  readable_on hi.lay fun c hx => (hi.cold c hx).1

theorem CInv.fileLookup {X D : Nat → Prop} {s : State} (hi : CInv X D s) {c : Nat} {r : Rec} (hr : r ∈ (s.chunks c).file) :
    fileLookup (s.chunks c) r.off = some r := by
  by_cases hx : X c
  · exact (hi.cold c hx).2 r hr
  · exact (hi.lay.ok c hx).fileLookup r hr

theorem CInv.treeOK {X D : Nat → Prop} {s : State} (hi : CInv X D s) : TreeOK s :=
⟨hi.tree, hi.recs⟩

/-- `hro`: as in `micro_hist`.  `hfl`: the file `t` flushes AFTER the step is not in `X` (`micro_target`: only the step at
    `fDs1` chooses a file). -/
theorem cinv_micro {cfg : Cfg} {X D : Nat → Prop} {s s' : State} {t : Nat} (hi : CInv X D s) (h : micro cfg s t = some s')
    (hro : ReadOK s t) (hfl : ∀ c, flushTarget (s'.thr t).pc = some c → ¬ X c) : CInv X D s'.tick := by
  have hlay := micro_layout hi.lock hi.lay h
  have g := micro_grows hi.lock hi.lay (fun c _ _ e => hi.fltg t c (e ▸ rfl)) h
  have hX : ∀ c, X c → s'.chunks c = s.chunks c := fun c hx =>
    micro_other_chunks h c (fun e => hi.head c (Nat.le_of_eq e.symm) hx) (fun e => hi.fltg t c e hx)
  have hcold : ∀ c, X c → Readable (s'.chunks c) ∧ ∀ r ∈ (s'.chunks c).file, fileLookup (s'.chunks c) r.off = some r :=
    fun c hx => (hX c hx).symm ▸ hi.cold c hx
  obtain ⟨hT', hwr'⟩ := micro_wdata hi.lock g (hi.lay.fl t) (hi.lay.slot t) hi.treeOK hi.wr h
  have hrd' : ∀ c, Readable (s'.chunks c) := readable_on hlay fun c hx => (hcold c hx).1
  obtain ⟨hf, he⟩ := micro_noerr h (hi.lay.fl t)
    (fun c _ hpc => flusher_disk hi.lock hi.lay hpc (hi.fltg t c (by rw [hpc]; rfl))) hro hi.alive hi.noerr
  exact ⟨tick_lock _ (micro_lock hi.lock h), tick_hotlay hlay, hcold,
    fun c hc => hi.head c (Nat.le_trans (micro_head h) hc),
    fun u c => thr_cases (P := fun pc => flushTarget pc = some c → ¬ X c) (micro_thr_others h) (hfl c)
      (fun u _ => hi.fltg u c) u,
    fun c hd => (hX c (hi.dead c hd).1).symm ▸ hi.dead c hd, hT'.recs, hT'.tree, hwr',
    micro_hist h hi.treeOK (hi.wr t) g hi.readable hrd' (fun _ _ => hi.fileLookup)
      (fun c hd => (hi.dead c hd).2) hro hi.hist,
    hf, he⟩

theorem cinv_invoke {X D : Nat → Prop} {s s' : State} {t : Nat} {op : Op} (hi : CInv X D s) (h : invoke s t op = some s') :
    CInv X D s'.tick := by
  have hl := invoke_lock hi.lock h
  have hlay := invoke_layout hi.lay h
  obtain ⟨hidle, pc, rfl, hs⟩ := invoke_elim h
  obtain ⟨hw, _, hft⟩ := hs.neutral
  have hthr : ∀ u, u ≠ t → (if u = t then ({ pc := pc, inv := s.clock } : Thread) else s.thr u) = s.thr u :=
    fun u hu => if_neg hu
  refine ⟨tick_lock _ hl, tick_hotlay hlay, hi.cold, hi.head,
    fun u c => thr_cases (P := fun pc => flushTarget pc = some c → ¬ X c) hthr (by rw [if_pos rfl, hft]; nofun)
      (fun u _ => hi.fltg u c) u,
    hi.dead, hi.recs, hi.tree,
    thr_cases hthr (by rw [if_pos rfl]; exact hw _) fun u _ => hi.wr u, ?_, hi.alive, hi.noerr⟩
  refine hist_sameP t hi.hist rfl rfl hthr (fun _ => by simp only [↓reduceIte]; exact Nat.lt_succ_self _) (fun _ _ _ hp => hp)
    (fun k => rfl) fun out hp => ?_
  rw [hidle] at hp
  exact (pendOn_nonreader rfl hp).elim

end ConcFine
