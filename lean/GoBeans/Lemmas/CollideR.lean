/-
  The invariant `RInv` of the class `SafeR`, kept by every operation and by restarts.
  The tree (`SlotOK`, `RInv.own`) is where a restart loses knowledge: a slot still points at a record of its key hash, but it
  is the LAST record of that key only for a key the table does not know, and a rebuilt tree has no slot for a delete marker.
  That suffices because the class admits a restart only when every key with a written hash-mate is in the table
  (`RInv.alld`): a key the table does not know is then alone on its hash.
-/
import GoBeans.Lemmas.CollideTrk
import GoBeans.Lemmas.CollideExactHints
import GoBeans.Lemmas.Layout
namespace CollideLemmas
open Store Spec HintIndex Collide StoreLemmas HintBufferLemmas HintIndexLemmas

section
variable (hash : Key → Nat)

/-- the collision table against a log and the list `reg` of keys entered -/
structure TabInv (log : List (Pos × Rec)) (reg : List Key) (ct : CTable) : Prop where
  tab : ∀ h k it, tget ct h k = some it → hash k = h ∧ k ∈ reg ∧ it.key = k ∧ it.khash = h
          ∧ ∃ r, lastOf k log = some (⟨it.chunk, it.off⟩, r) ∧ it.ver = r.ver
  tabc : ∀ k, k ∈ reg → (tget ct (hash k) k).isSome = true
  tabne : ∀ h, thas ct h = true → ∃ k it, tget ct h k = some it

variable {hash} in
theorem TabInv.last {log : List (Pos × Rec)} {reg : List Key} {ct : CTable} (ti : TabInv hash log reg ct) {k : Key} {it : Item}
    (h : tget ct (hash k) k = some it) : k ∈ reg ∧ ∃ r, lastOf k log = some (⟨it.chunk, it.off⟩, r) ∧ it.ver = r.ver :=
  have ⟨_, hreg, _, _, hl⟩ := ti.tab _ _ _ h
  ⟨hreg, hl⟩

theorem TabInv.cas {log : List (Pos × Rec)} {reg : List Key} {ct : CTable} (ti : TabInv hash log reg ct) (it : Item) (gc : Bool)
    (hh : it.khash = hash it.key) (hit : ∃ r, lastOf it.key log = some (⟨it.chunk, it.off⟩, r) ∧ it.ver = r.ver) :
    TabInv hash log (it.key :: reg) (ct.compareAndSet it gc) := by
  refine ⟨cmpSet_forall ct it gc (fun h k x hg => ?_) ⟨hh.symm, List.mem_cons_self, rfl, rfl, hit⟩, fun k hk => ?_,
    cmpSet_nonempty ct it gc ti.tabne⟩
  · obtain ⟨d1, d2, d⟩ := ti.tab h k x hg
    exact ⟨d1, List.mem_cons_of_mem _ d2, d⟩
  · rcases List.mem_cons.mp hk with rfl | hk
    · rw [← hh]; exact cmpSet_isSome_self ct it gc
    · exact cmpSet_isSome ct it gc (ti.tabc k hk)

theorem TabInv.write {log : List (Pos × Rec)} {reg : List Key} {ct : CTable} (ti : TabInv hash log reg ct) (r : Rec) (pos : Pos)
    (hsmall : ∀ old, tget ct (hash r.key) r.key = some old → cmpKey old ≤ cmpKey (wItemC hash r pos)) :
    TabInv hash (log ++ [(pos, r)]) (if thas ct (hash r.key) = true then r.key :: reg else reg) (wTable hash ct r pos) := by
  have htg := wTable_tget hash ct r pos hsmall
  refine ⟨fun h k it hg => ?_, fun k hk => ?_, fun h hh => ?_⟩
  · rw [lastOf_append_single]
    rw [htg] at hg
    split at hg
    · rename_i hc
      obtain ⟨hth, rfl, rfl⟩ := hc
      cases hg
      rw [if_pos hth, if_pos rfl]
      exact ⟨rfl, List.mem_cons_self, rfl, rfl, r, by cases pos; rfl, rfl⟩
    · rename_i hc
      obtain ⟨e1, e2, e3, e4, r', e5, e6⟩ := ti.tab _ _ _ hg
      have hne : ¬ r.key = k := fun e => hc ⟨tget_thas (by rw [e, e1]; exact hg), by rw [e, e1], e.symm⟩
      rw [if_neg hne]
      exact ⟨e1, by split <;> simp [e2], e3, e4, r', e5, e6⟩
  · rw [htg]
    split
    · rfl
    · rename_i hc
      apply ti.tabc k
      split at hk
      · rename_i hth
        exact (List.mem_cons.mp hk).resolve_left (fun e => hc ⟨hth, by rw [e], e⟩)
      · exact hk
  · obtain ⟨k, it, e⟩ := ti.tabne h ((wTable_thas hash ct r pos h).symm.trans hh)
    refine ⟨k, ?_⟩
    rw [htg]
    split
    · exact ⟨_, rfl⟩
    · exact ⟨it, e⟩

/-- `n` bounds the versions of all records; an operation raises it by at most one, and the store's int32 version arithmetic
    needs it below 2^31-1 (`set_safeR`) -/
structure DataInv (cfg : Collide.Cfg) (st : State) (t : Trk) (n : Nat) : Prop
    extends TabInv hash st.b.log t.reg st.ct where
  lay : Lay st.b
  /-- with `DataFileMax < 2^32` offsets fit the 32 bits `cmpKey` gives them (`put_invR`) -/
  ob : ∀ c o r, (o, r) ∈ (st.b.chunks c).recs → o ≤ cfg.s.dataFileMax
  spec : ∀ k, LogSpec (lastOf k st.b.log) (AMap.get t.m k)
  wr : ∀ k, k ∈ t.written ↔ (lastOf k st.b.log).isSome
  vers : ∀ y ∈ st.b.log, y.2.ver.natAbs ≤ n

structure HintInv (st : State) : Prop where
  hg : HsG hash (fun c => (st.b.chunks c).recs) st.hs
  hmerged : st.hs.merged = none
  dsfull : ∀ c, DsFull (st.hs.chunks c) (st.b.chunks c).size
  /-- the id of the tree dump never exceeds `maxDumpedHintID`: `close` then dumps the tree it has, under that id -/
  tidle : isLarger st.treeID st.hs.maxDumped.1 st.hs.maxDumped.2 = true

variable {hash} in
theorem HintInv.hex {st : State} (hi : HintInv hash st) (c : Nat) (k : Key) :
    HintAt hash k ((st.hs.chunks c).get (hash k) k) (lastIn k (st.b.chunks c).recs) :=
  ckI_get hash (hi.hg.ck c) (hi.hg.oldf c) k

/-- the tree slot `ti` of the key hash `h` points at `r`, a record of the log with that key hash -/
structure SlotOK (log : List (Pos × Rec)) (x : TrkR) (h : Nat) (ti : TItem) (r : Rec) : Prop where
  hash : hash r.key = h
  mem : (ti.pos, r) ∈ log
  ver : ti.ver = r.ver
  /-- a rebuilt tree replays the hint splits in (hash, key) order, so among several keys of one hash the slot need not be
      the last written; reads of a key in the table do not go through the tree -/
  last : x.restarted = false ∨ r.key ∉ x.t.reg → lastOf r.key log = some (ti.pos, r)
  owner : x.restarted = false → AMap.get x.t.owner h = some r.key

variable {hash} in
theorem SlotOK.of_log {log log' : List (Pos × Rec)} {x : TrkR} {h : Nat} {ti : TItem} {r : Rec} (s : SlotOK hash log x h ti r)
    (hm : (ti.pos, r) ∈ log') (hl : lastOf r.key log' = lastOf r.key log) : SlotOK hash log' x h ti r :=
  { s with mem := hm, last := fun hc => hl.trans (s.last hc) }

variable {hash} in
theorem SlotOK.weaken {log : List (Pos × Rec)} {x x' : TrkR} {h : Nat} {ti : TItem} {r : Rec} (s : SlotOK hash log x h ti r)
    (hres : x'.restarted = false → x.restarted = false ∧ AMap.get x'.t.owner h = AMap.get x.t.owner h)
    (hreg : r.key ∈ x.t.reg → r.key ∈ x'.t.reg) : SlotOK hash log x' h ti r :=
  { s with
    last := fun hc => s.last (hc.imp (fun hr => (hres hr).1) fun hn hr => hn (hreg hr))
    owner := fun hr => (hres hr).2.trans (s.owner (hres hr).1) }

/-- `st` is a state of the store after a history of `SafeR` that has led the tracker to `x` -/
structure RInv (cfg : Collide.Cfg) (st : State) (x : TrkR) (n : Nat) : Prop
    extends DataInv hash cfg st x.t n, HintInv hash st where
  slot : ∀ h ti, AMap.get st.b.tree h = some ti → ∃ r, SlotOK hash st.b.log x h ti r
  /-- a restart empties `owner`, every later write enters its key again and `Trk.afterGet` consults it (`afterGet_own`): the
      clause is not confined to the time before the first restart -/
  ownw : ∀ h o, AMap.get x.t.owner h = some o → o ∈ x.t.written ∧ hash o = h
  /-- after a restart only for a key the table does not know whose last record is live: a rebuilt tree has no slot for a
      delete marker, and of two keys of one hash in the table, A live and B deleted, the replay in (hash, key) order sets A's
      slot and B's marker erases it (`applyItem`); A is read through the table -/
  own : ∀ k, k ∈ x.t.written → (x.restarted = false ∨ (k ∉ x.t.reg ∧ ∃ p r, lastOf k st.b.log = some (p, r) ∧ r.ver > 0)) →
          ∃ ti, AMap.get st.b.tree (hash k) = some ti
  /-- `maxChunkID` covers the data files; needed (`getItem_spec`) for the read through a foreign slot, which after a
      restart cannot happen (`alld`).  After a restart the clause is false: a new process starts with `maxChunkID` 0 and only
      `setItem` raises it (`W5_hint_lookup_sees_only_file_0_after_restart`) -/
  hmax : x.restarted = false → ∀ c, (st.b.chunks c).recs ≠ [] → c ≤ st.hs.maxChunk
  /-- the guard of a restart in `TrkR.step`, kept afterwards by `Trk.writeOK` -/
  alld : x.restarted = true → x.t.AllDet hash

theorem rinv_sinv {cfg : Collide.Cfg} {st : State} {x : TrkR} {n : Nat} (inv : RInv hash cfg st x n) (hr : x.restarted = false) :
    SInv hash cfg st x.t n :=
  { inv with
    pos := inv.lay.posInv
    ra := inv.lay.readAt
    slot := fun h ti hti => by
      obtain ⟨r, s⟩ := inv.slot h ti hti
      exact ⟨r.key, r, s.owner hr, s.hash, s.last (Or.inl hr), s.ver⟩
    own := fun k hk => inv.own k hk (Or.inl hr)
    hgood := inv.hg.good hash
    hex := inv.hex
    hmax := inv.hmax hr }

theorem written_of_mem_log {cfg : Collide.Cfg} {st : State} {t : Trk} {n : Nat} (inv : DataInv hash cfg st t n) {p : Pos} {r : Rec}
    (hm : (p, r) ∈ st.b.log) : r.key ∈ t.written :=
  (inv.wr r.key).mpr (lastOf_isSome_of_mem hm)

theorem unwritten_of_lastOf_none {cfg : Collide.Cfg} {st : State} {t : Trk} {n : Nat} (inv : DataInv hash cfg st t n) {k : Key}
    (hl : lastOf k st.b.log = none) : k ∉ t.written := by
  intro hw
  have := (inv.wr k).mp hw
  rw [hl] at this; cases this

theorem written_of_last {cfg : Collide.Cfg} {st : State} {t : Trk} {n : Nat} (inv : DataInv hash cfg st t n) {k : Key} {y : Pos × Rec}
    (hl : lastOf k st.b.log = some y) : k ∈ t.written :=
  (inv.wr k).mpr (by rw [hl]; rfl)

theorem not_reg_of_tget_none {cfg : Collide.Cfg} {st : State} {t : Trk} {n : Nat} (inv : DataInv hash cfg st t n) {k : Key}
    (h : tget st.ct (hash k) k = none) : k ∉ t.reg := by
  intro hk
  have := inv.tabc k hk
  rw [h] at this; cases this

theorem reg_written {cfg : Collide.Cfg} {st : State} {t : Trk} {n : Nat} (inv : DataInv hash cfg st t n) {k : Key} (hk : k ∈ t.reg) :
    k ∈ t.written := by
  obtain ⟨it, e⟩ := Option.isSome_iff_exists.mp (inv.tabc k hk)
  obtain ⟨_, r', hl, _⟩ := inv.last e
  exact written_of_last hash inv hl

theorem det_eq_thas {cfg : Collide.Cfg} {st : State} {t : Trk} {n : Nat} (inv : DataInv hash cfg st t n) (h : Nat) :
    t.det hash h = thas st.ct h := by
  unfold Trk.det
  cases hh : thas st.ct h with
  | true =>
    obtain ⟨k, it, e⟩ := inv.tabne h hh
    obtain ⟨a, b, _⟩ := inv.tab _ _ _ e
    rw [List.any_eq_true]
    exact ⟨k, b, by simp [a]⟩
  | false =>
    rw [List.any_eq_false]
    intro k hk hc
    obtain ⟨it, e⟩ := Option.isSome_iff_exists.mp (inv.tabc k hk)
    have := tget_thas e
    simp only [beq_iff_eq] at hc
    rw [hc, hh] at this
    cases this

/-- what `LogSpec` says when both the record and the entry are there -/
structure RecSpec (r : Rec) (e : Entry) : Prop where
  ne : r.ver ≠ 0
  live : r.ver > 0 ↔ e.ver > 0
  same : e.ver > 0 → e.flag = r.flag ∧ e.body = r.body ∧ e.ts = r.ts
  /-- below 2^63 the value hash the store computes, shown in the meta reply, is the reference's (`vhashOf_eq`) -/
  len : r.body.length < 2^63
  ene : e.ver ≠ 0

theorem logSpec_some {x : Pos × Rec} {e : Entry} : LogSpec (some x) (some e) ↔ RecSpec x.2 e :=
  ⟨fun ⟨a, b, c, d, f⟩ => ⟨a, b, c, d, f⟩, fun ⟨a, b, c, d, f⟩ => ⟨a, b, c, d, f⟩⟩

theorem spec_of_last {cfg : Collide.Cfg} {st : State} {t : Trk} {n : Nat} (inv : DataInv hash cfg st t n) {k : Key} {p : Pos} {r : Rec}
    (hl : lastOf k st.b.log = some (p, r)) : ∃ e, AMap.get t.m k = some e ∧ RecSpec r e := by
  have h := inv.spec k
  rw [hl] at h
  cases he : AMap.get t.m k with
  | none => rw [he] at h; exact h.elim
  | some e => rw [he] at h; exact ⟨e, rfl, logSpec_some.mp h⟩

theorem spec_of_unwritten {cfg : Collide.Cfg} {st : State} {t : Trk} {n : Nat} (inv : DataInv hash cfg st t n) {k : Key}
    (hl : lastOf k st.b.log = none) : AMap.get t.m k = none := by
  have h := inv.spec k
  rw [hl] at h
  cases he : AMap.get t.m k with
  | none => rfl
  | some e => rw [he] at h; exact h.elim

/-- the reference map has no live entry of `k` (not `liveIn m k = false`, which a version 0 would satisfy) -/
def DeadIn (m : KV) (k : Key) : Prop := ∀ e, AMap.get m k = some e → e.ver < 0

theorem dead_of_last {cfg : Collide.Cfg} {st : State} {t : Trk} {n : Nat} (inv : DataInv hash cfg st t n) {k : Key}
    (hl : lastOf k st.b.log = none ∨ ∃ p r, lastOf k st.b.log = some (p, r) ∧ r.ver < 0) : DeadIn t.m k := by
  intro e he
  rcases hl with hl | ⟨p, r, hl, hd⟩
  · rw [spec_of_unwritten hash inv hl] at he; cases he
  · obtain ⟨e', he', s⟩ := spec_of_last hash inv hl
    rw [he] at he'; cases he'
    have : ¬ e.ver > 0 := fun c => by have := s.live.mpr c; omega
    have := s.ene
    omega

theorem DataInv.quiet {cfg : Collide.Cfg} {st st' : State} {t : Trk} {n : Nat} (inv : DataInv hash cfg st t n) (hct : st'.ct = st.ct)
    (q : Quiet st.b st'.b) : DataInv hash cfg st' t n :=
  { lay := inv.lay.quiet q, ob := fun c o r hm => inv.ob c o r ((q.files c).1 ▸ hm),
    spec := fun k => by rw [q.log]; exact inv.spec k, wr := fun k => by rw [q.log]; exact inv.wr k,
    vers := fun y hy => inv.vers y (q.log ▸ hy), toTabInv := by rw [hct, q.log]; exact inv.toTabInv }

theorem HintInv.congr {st st' : State} (hi : HintInv hash st) (hhs : st'.hs = st.hs) (htid : st'.treeID = st.treeID)
    (hf : ∀ i, (st'.b.chunks i).recs = (st.b.chunks i).recs ∧ (st'.b.chunks i).size = (st.b.chunks i).size) :
    HintInv hash st' := by
  refine ⟨?_, by rw [hhs]; exact hi.hmerged, fun c => by rw [hhs, (hf c).2]; exact hi.dsfull c, by rw [hhs, htid]; exact hi.tidle⟩
  rw [hhs, funext fun i => (hf i).1]; exact hi.hg

theorem HintInv.dumpAll {st : State} (hi : HintInv hash st) (n : Nat) : HintInv hash { st with hs := st.hs.dumpAll n } :=
  have k := (exact_dumpAll hash n hi.hg hi.dsfull).1
  ⟨k.hg, k.merged.trans hi.hmerged, k.dsf, k.mono _ hi.tidle⟩

end
end CollideLemmas
