/-
  Restarts, shared by both restart towers (any key hash; it rests on the exact description of the hint manager only):
  `Bucket.open` as a computation.  When the split files found for every data file cover it (`Covers`) `checkHintWithData`
  loads them as they are and rescans nothing, and the hint loop becomes two plain folds over the data files, `treeStep` on
  the tree and `mdStep` on `maxDumpedHintID` (`reFold_spec`); so far for any hint state.  On the hint state `hints.close`
  leaves when the hint manager was exact (`Closed`) the outcome is `Reopened` (`reopen_as`).
-/
import GoBeans.Lemmas.CollideExactHints
namespace CollideLemmas
open Store Spec HintIndex Collide StoreLemmas HintBufferLemmas HintLoadLemmas HintIndexLemmas

theorem validPrefix_mkSplit (fl : List SplitFile) : validPrefix ((fl.map mkSplit).map (·.file)) = fl := by
  induction fl with
  | nil => rfl
  | cons f rest ih =>
    show f :: validPrefix ((rest.map mkSplit).map (·.file)) = f :: rest
    rw [ih]

theorem loadPrefix_all (size : Nat) (fl : List SplitFile) (hle : ∀ f ∈ fl, f.datasize ≤ size) :
    ∀ d, (loadPrefix size fl d).1 = fl ∧ d ≤ (loadPrefix size fl d).2 ∧ (∀ f ∈ fl, f.datasize ≤ (loadPrefix size fl d).2) := by
  induction fl with
  | nil => intro d; exact ⟨rfl, Nat.le_refl _, fun f hf => by cases hf⟩
  | cons f rest ih =>
    intro d
    have hf := hle f (by simp)
    unfold loadPrefix
    rw [if_neg (by omega)]
    simp only
    obtain ⟨a, b, c⟩ := ih (fun g hg => hle g (by simp [hg])) (if f.datasize < d then d else f.datasize)
    have hd : d ≤ (if f.datasize < d then d else f.datasize) ∧ f.datasize ≤ (if f.datasize < d then d else f.datasize) := by
      split <;> omega
    refine ⟨by rw [a], by omega, fun g hg => ?_⟩
    rcases List.mem_cons.mp hg with rfl | hg
    · omega
    · exact c g hg

/-- the chunk `Bucket.open` installs for a data file whose split files cover it -/
def loadedCk (ck : HCk) (size : Nat) : HCk := if size = 0 then {} else { old := ck.old, last := {} }

theorem loadedCk_old (ck : HCk) (size : Nat) : (loadedCk ck size).old = if size = 0 then [] else ck.old := by
  unfold loadedCk; split <;> rfl

theorem loadedCk_sub {ck : HCk} {size : Nat} {sp : HSplit} (h : sp ∈ (loadedCk ck size).old) : sp ∈ ck.old := by
  rw [loadedCk_old] at h
  split at h
  · cases h
  · exact h

theorem loadedCk_last (ck : HCk) (size : Nat) : (loadedCk ck size).last = {} := by
  unfold loadedCk; split <;> rfl

theorem chk_form (hash : Key → Nat) (cap : Nat) (hs : Hints) (c : Nat) (recs : FileRecs) (size : Nat) (ck : HCk)
    (hfresh : hs.chunks c = {})
    (hf : AllFiles ck.old) (hle : ∀ sp ∈ ck.old, ∀ f, sp.file = some f → f.datasize ≤ size)
    (hfull : size > 0 → ∃ sp ∈ ck.old, ∃ f, sp.file = some f ∧ f.datasize = size) :
    hs.checkHintWithData hash cap c recs size (ck.old.map (·.file)) = hs.setCk c (loadedCk ck size) := by
  unfold Hints.checkHintWithData loadedCk
  by_cases hz : size = 0
  · rw [if_pos hz, if_pos hz, ← hfresh]
    -- nothing is installed; the chunk was empty already
    show hs = ({ hs with chunks := (hs.setCk c (hs.chunks c)).chunks } : Hints)
    rw [setCk_self]
  · rw [if_neg hz, if_neg hz]
    obtain ⟨old, last⟩ := ck
    obtain ⟨fl, rfl⟩ := allFiles_eq_map hf
    simp only at hle hfull ⊢
    rw [validPrefix_mkSplit]
    obtain ⟨a, _, cmax⟩ := loadPrefix_all size fl (fun f hfm => hle _ (List.mem_map_of_mem hfm) f rfl) 0
    -- the file that reaches the end of the data file is among them: nothing is left to rescan
    obtain ⟨sp, hsp, f, hfe, hfd⟩ := hfull (by omega)
    obtain ⟨g, hg, rfl⟩ := List.mem_map.mp hsp
    have hgf : g = f := Option.some.inj hfe
    have hnot : ¬ (loadPrefix size fl 0).2 < size := by
      have := cmax g hg
      rw [hgf] at this
      omega
    rw [if_neg hnot, a]
    rfl

/-- `startsp` of `openChunk`: the first split of data file `i` that the hint loop applies -/
def startSp (tid : Nat × Int) (i : Nat) : Int := if i = tid.1 then tid.2 + 1 else 0

theorem startSp_nodump (i : Nat) : startSp ((0, -1) : Nat × Int) i = 0 := by
  unfold startSp; split <;> simp

/-- the hint loop applies split files of data file `i`, which has `len` of them -/
def Applies (tid : Nat × Int) (len i : Nat) : Prop := ¬ i < tid.1 ∧ ¬ startSp tid i ≥ (len : Int)

instance (tid : Nat × Int) (len i : Nat) : Decidable (Applies tid len i) := inferInstanceAs (Decidable (_ ∧ _))

/-- the two tests of `openChunk` as one -/
theorem ite_applies {α : Type} (tid : Nat × Int) (len i : Nat) (a b : α) :
    (if i < tid.1 then a else if (if i = tid.1 then tid.2 + 1 else 0) ≥ (len : Int) then a else b) = if Applies tid len i then b else a := by
  by_cases h1 : i < tid.1
  · rw [if_pos h1, if_neg (fun h : Applies tid len i => h.1 h1)]
  · rw [if_neg h1]
    by_cases h2 : (if i = tid.1 then tid.2 + 1 else 0) ≥ (len : Int)
    · rw [if_pos h2, if_neg (fun h : Applies tid len i => h.2 h2)]
    · have ha : Applies tid len i := ⟨h1, h2⟩
      rw [if_neg h2, if_pos ha]

def treeStep (tid : Nat × Int) (ck : HCk) (t : Tree) (i : Nat) : Tree :=
  if Applies tid ck.old.length i then applySplits i t ck.files else t

def mdStep (tid : Nat × Int) (len : Nat) (md : Nat × Int) (i : Nat) : Nat × Int :=
  if Applies tid len i then (i, startSp tid i + ((len : Int) - 1)) else md

structure Covers (hs1 : Hints) (b : Bucket) : Prop where
  files : ∀ i, AllFiles (hs1.chunks i).old
  le : ∀ i, ∀ sp ∈ (hs1.chunks i).old, ∀ f, sp.file = some f → f.datasize ≤ (b.chunks i).size
  full : ∀ i, (b.chunks i).size > 0 → ∃ sp ∈ (hs1.chunks i).old, ∃ f, sp.file = some f ∧ f.datasize = (b.chunks i).size

def diskOf (hs1 : Hints) : Nat → List (Option SplitFile) := fun i => (hs1.chunks i).old.map (·.file)

section
variable (hash : Key → Nat)

theorem openChunk_spec (cap : Nat) (b : Bucket) (hs1 : Hints) (cov : Covers hs1 b) (tid : Nat × Int) (x : Hints × Tree) (i : Nat)
    (hfresh : x.1.chunks i = {}) :
    openChunk hash cap b (diskOf hs1) tid x i =
      ({ x.1.setCk i (loadedCk (hs1.chunks i) (b.chunks i).size) with
           maxDumped := mdStep tid (loadedCk (hs1.chunks i) (b.chunks i).size).old.length x.1.maxDumped i },
       treeStep tid (loadedCk (hs1.chunks i) (b.chunks i).size) x.2 i) := by
  unfold openChunk diskOf
  simp only
  rw [chk_form hash cap x.1 i (b.chunks i).recs (b.chunks i).size (hs1.chunks i) hfresh (cov.files i) (cov.le i) (cov.full i),
      setCk_chunks, if_pos rfl, ite_applies]
  unfold treeStep mdStep
  split <;> rfl

theorem openFold_spec (cap : Nat) (b : Bucket) (hs1 : Hints) (cov : Covers hs1 b) (tid : Nat × Int) (l : List Nat) (hnd : l.Nodup) :
    ∀ (x : Hints × Tree), (∀ j ∈ l, x.1.chunks j = {}) →
    (∀ j, (l.foldl (openChunk hash cap b (diskOf hs1) tid) x).1.chunks j = if j ∈ l then loadedCk (hs1.chunks j) (b.chunks j).size else x.1.chunks j)
    ∧ (l.foldl (openChunk hash cap b (diskOf hs1) tid) x).1.merged = x.1.merged
    ∧ (l.foldl (openChunk hash cap b (diskOf hs1) tid) x).1.maxDumped
        = l.foldl (fun md i => mdStep tid (loadedCk (hs1.chunks i) (b.chunks i).size).old.length md i) x.1.maxDumped
    ∧ (l.foldl (openChunk hash cap b (diskOf hs1) tid) x).2 = l.foldl (fun t i => treeStep tid (loadedCk (hs1.chunks i) (b.chunks i).size) t i) x.2 := by
  induction l with
  | nil => intro x _; exact ⟨fun j => by simp, rfl, rfl, rfl⟩
  | cons a rest ih =>
    intro x hfr
    simp only [List.foldl_cons]
    obtain ⟨hna, hnr⟩ := List.nodup_cons.mp hnd
    -- `chk_form` wants the chunk still empty when its file comes up: nothing loaded yet (`hfr`), no file twice (`hnd`)
    have o := openChunk_spec hash cap b hs1 cov tid x a (hfr a (by simp))
    obtain ⟨i1, i3, i4, i5⟩ := ih hnr (openChunk hash cap b (diskOf hs1) tid x a) (fun j hj => by
      rw [o]
      show (if j = a then _ else x.1.chunks j) = _
      rw [if_neg (fun e : j = a => hna (e ▸ hj))]; exact hfr j (by simp [hj]))
    rw [o] at i1 i3 i4 i5 ⊢
    refine ⟨fun j => ?_, i3, i4, i5⟩
    rw [i1 j]
    show (if j ∈ rest then _ else if j = a then _ else x.1.chunks j) = _
    by_cases hj : j ∈ rest
    · rw [if_pos hj, if_pos (by simp [hj])]
    · rw [if_neg hj]
      by_cases hja : j = a
      · subst hja; rw [if_pos rfl, if_pos (by simp)]
      · rw [if_neg hja, if_neg (by simp [hja, hj])]

end

theorem mdStep_or (tid : Nat × Int) (len : Nat) (md : Nat × Int) (i : Nat) : mdStep tid len md i = md ∨ (mdStep tid len md i).1 = i := by
  unfold mdStep
  split
  · exact Or.inr rfl
  · exact Or.inl rfl

theorem mdFold_isLarger (tid : Nat × Int) (len : Nat → Nat) (l : List Nat) : ∀ md, isLarger tid md.1 md.2 = true →
    isLarger tid (l.foldl (fun md i => mdStep tid (len i) md i) md).1 (l.foldl (fun md i => mdStep tid (len i) md i) md).2 = true := by
  induction l with
  | nil => intro md h; exact h
  | cons i rest ih =>
    intro md h
    refine ih _ ?_
    show isLarger tid (mdStep tid (len i) md i).1 (mdStep tid (len i) md i).2 = true
    unfold mdStep
    by_cases ha : Applies tid (len i) i
    · obtain ⟨h1, h2⟩ := ha
      rw [if_pos ⟨h1, h2⟩, isLarger_iff]
      unfold startSp at h2 ⊢
      by_cases h3 : i = tid.1
      · rw [if_pos h3] at h2 ⊢
        exact Or.inr ⟨h3, by omega⟩
      · exact Or.inl (by omega)
    · rw [if_neg ha]; exact h

theorem mdFold_or (tid : Nat × Int) (len : Nat → Nat) (l : List Nat) : ∀ md,
    l.foldl (fun md i => mdStep tid (len i) md i) md = md ∨ (l.foldl (fun md i => mdStep tid (len i) md i) md).1 ∈ l := by
  induction l with
  | nil => intro md; exact Or.inl rfl
  | cons i rest ih =>
    intro md
    simp only [List.foldl_cons]
    rcases ih (mdStep tid (len i) md i) with h | h
    · rw [h]
      exact (mdStep_or tid (len i) md i).imp id (fun h' => by rw [h']; simp)
    · exact Or.inr (by simp [h])

theorem mdFold_mdb (len : Nat → Nat) (l : List Nat) (hpw : l.Pairwise (· < ·)) : ∀ md, ∀ c ∈ l, ∀ j, j < len c →
    idLe c j (l.foldl (fun md i => mdStep ((0, -1) : Nat × Int) (len i) md i) md) := by
  induction l with
  | nil => intro md c hc; cases hc
  | cons i rest ih =>
    intro md c hc j hj
    rw [List.pairwise_cons] at hpw
    simp only [List.foldl_cons]
    rcases List.mem_cons.mp hc with rfl | hc
    · -- after this file `maxDumped = (c, len - 1)`; the later files only raise the file id
      have hstep : mdStep ((0, -1) : Nat × Int) (len c) md c = (c, (len c : Int) - 1) := by
        unfold mdStep
        rw [if_pos ⟨by simp, by rw [startSp_nodump]; omega⟩, startSp_nodump]
        simp
      unfold idLe
      rw [isLarger_iff]
      rcases mdFold_or ((0, -1) : Nat × Int) len rest (mdStep ((0, -1) : Nat × Int) (len c) md c) with h | h
      · rw [h, hstep]; exact Or.inr ⟨rfl, by simp only; omega⟩
      · exact Or.inl (hpw.1 _ h)
    · exact ih hpw.2 _ c hc j hj

/-- data file `i` exists at the restart; it is `StoreLemmas.NonEmptyC (b.chunks i)` -/
def Exists' (b : Bucket) (i : Nat) : Prop := (b.chunks i).size > 0 ∨ (b.chunks i).created = true

theorem reopen_mx (b : Bucket) (l : Lay b) (i0 : Nat) (hi0 : (b.chunks i0).recs ≠ []) :
    ∃ mx, lastNonEmpty ((List.range (b.head + 1)).map (fun i => { b.chunks i with flushed := (b.chunks i).recs.length })) = some mx
      ∧ mx ≤ b.head ∧ ∀ j, mx < j → (b.chunks j).recs = [] ∧ (b.chunks j).size = 0 := by
  rcases lastNonEmpty_spec b with ⟨mx, hmx, hle, _, habove⟩ | ⟨_, hnone⟩
  · exact ⟨mx, hmx, hle, fun j hj => empty_of_not_nonEmptyC l.posInv (habove j hj)⟩
  · exact absurd (empty_of_not_nonEmptyC l.posInv (hnone i0)).1 hi0

/-- the data files after a restart, no tree yet; `mx`: the last existing file -/
def reB (st : State) (mx : Nat) : Bucket :=
  { chunks := fun i => { st.b.chunks i with flushed := (st.b.chunks i).recs.length }, head := mx + 1, tree := [], nextGC := st.b.nextGC }

/-- the tree dump the new process loads -/
def reLoaded (st : State) (mx : Nat) (kt : Bool) (hs1 : Hints) : Option ((Nat × Int) × Tree) :=
  match (if kt then (if isLarger st.treeID hs1.maxDumped.1 hs1.maxDumped.2 then some (hs1.maxDumped, st.b.tree) else st.treeFile) else none) with
  | some (id, t) => if id.1 > mx then none else some (id, t)
  | none => none

theorem reLoaded_dumped (st : State) (mx : Nat) (kt : Bool) {hs1 : Hints} (h : isLarger st.treeID hs1.maxDumped.1 hs1.maxDumped.2 = true) :
    reLoaded st mx kt hs1 = if kt = true ∧ hs1.maxDumped.1 ≤ mx then some (hs1.maxDumped, st.b.tree) else none := by
  unfold reLoaded
  cases kt with
  | false => simp
  | true =>
    simp only [if_true, h, true_and]
    by_cases hgt : hs1.maxDumped.1 > mx
    · rw [if_pos hgt, if_neg (by omega)]
    · rw [if_neg hgt, if_pos (by omega)]

def reTid (l : Option ((Nat × Int) × Tree)) : Nat × Int := match l with | some (id, _) => id | none => (0, -1)
def reTree0 (l : Option ((Nat × Int) × Tree)) : Tree := match l with | some (_, t) => t | none => []

/-- the new process: the data files `reB`, the hint manager and tree `x` the hint loop ends with, the tree dump as loaded
    (`l`) or, without one, written now -/
def reState (st : State) (mx : Nat) (l : Option ((Nat × Int) × Tree)) (x : Hints × Tree) : State :=
  { b := { reB st mx with tree := x.2 }, ct := st.ct, hs := x.1,
    treeID := if l.isNone then x.1.maxDumped else reTid l,
    treeFile := if l.isNone then some (x.1.maxDumped, x.2) else l,
    ctFile := some st.ct }

theorem reB_log (st : State) (mx : Nat) (hle : mx ≤ st.b.head)
    (hemp : ∀ j, mx < j → (st.b.chunks j).recs = [] ∧ (st.b.chunks j).size = 0) : (reB st mx).log = st.b.log := by
  rw [log_as_fileLog st.b (mx + 1) (by omega) (fun j hj => (hemp j (by omega)).1)]
  exact log_as_fileLog (reB st mx) (mx + 1) (Nat.le_succ _) (fun j hj => (hemp j (by omega)).1)

section
variable (hash : Key → Nat)

/-- the hint loop of the new process -/
def reFold (cfg : Collide.Cfg) (st : State) (mx : Nat) (hs1 : Hints) (l : Option ((Nat × Int) × Tree)) : Hints × Tree :=
  ((List.range (mx + 1)).filter (fun i => decide (i < (reTid l).1))).foldl
    (openChunk hash cfg.cap (reB st mx) (diskOf hs1) (reTid l))
    (((List.range (mx + 1)).filter (fun i => decide ((reTid l).1 ≤ i))).foldl
      (openChunk hash cfg.cap (reB st mx) (diskOf hs1) (reTid l)) ({ maxDumped := reTid l }, reTree0 l))

theorem reopen_some (cfg : Collide.Cfg) (st : State) (kt : Bool) (mx : Nat)
    (h : lastNonEmpty ((List.range (st.b.head + 1)).map (fun i => { st.b.chunks i with flushed := (st.b.chunks i).recs.length })) = some mx) :
    st.reopen hash cfg kt = reState st mx (reLoaded st mx kt (closeAll st.hs (st.hs.maxChunk + 1)))
      (reFold hash cfg st mx (closeAll st.hs (st.hs.maxChunk + 1)) (reLoaded st mx kt (closeAll st.hs (st.hs.maxChunk + 1)))) := by
  unfold State.reopen
  simp only [h]
  rfl

theorem reopen_none (cfg : Collide.Cfg) (st : State) (kt : Bool)
    (h : lastNonEmpty ((List.range (st.b.head + 1)).map (fun i => { st.b.chunks i with flushed := (st.b.chunks i).recs.length })) = none) :
    st.reopen hash cfg kt =
      { b := { chunks := fun i => { st.b.chunks i with flushed := (st.b.chunks i).recs.length }, head := 0, tree := [], nextGC := st.b.nextGC },
        ct := st.ctFile.getD {}, hs := { maxDumped := (0, -1) }, treeID := (0, -1), treeFile := none, ctFile := st.ctFile } := by
  unfold State.reopen
  simp only [h]

theorem reFold_spec (cfg : Collide.Cfg) (st : State) (mx : Nat) (hs1 : Hints) (cov : Covers hs1 (reB st mx))
    (hemp : ∀ j, mx < j → (st.b.chunks j).size = 0) (L : Option ((Nat × Int) × Tree)) :
    (∀ j, (reFold hash cfg st mx hs1 L).1.chunks j = loadedCk (hs1.chunks j) (st.b.chunks j).size)
    ∧ (reFold hash cfg st mx hs1 L).1.merged = none
    ∧ (reFold hash cfg st mx hs1 L).1.maxDumped = ((List.range (mx + 1)).filter (fun i => decide ((reTid L).1 ≤ i))).foldl
        (fun md i => mdStep (reTid L) (loadedCk (hs1.chunks i) (st.b.chunks i).size).old.length md i) (reTid L)
    ∧ (reFold hash cfg st mx hs1 L).2 = ((List.range (mx + 1)).filter (fun i => decide ((reTid L).1 ≤ i))).foldl
        (fun t i => treeStep (reTid L) (loadedCk (hs1.chunks i) (st.b.chunks i).size) t i) (reTree0 L) := by
  -- the loop from `TreeID.Chunk` on and the check of the files below it are one pass over different files
  have hnd : ((List.range (mx + 1)).filter (fun i => decide ((reTid L).1 ≤ i))
      ++ (List.range (mx + 1)).filter (fun i => decide (i < (reTid L).1))).Nodup :=
    List.nodup_append.mpr ⟨List.Nodup.sublist List.filter_sublist List.nodup_range, List.Nodup.sublist List.filter_sublist List.nodup_range,
      fun i hi j hj => by rw [mem_filter_range] at hi hj; omega⟩
  obtain ⟨a1, a3, a4, a5⟩ := openFold_spec hash cfg.cap (reB st mx) hs1 cov (reTid L) _ hnd
    (({ maxDumped := reTid L } : Hints), reTree0 L) (fun j _ => rfl)
  have e : reFold hash cfg st mx hs1 L = (((List.range (mx + 1)).filter (fun i => decide ((reTid L).1 ≤ i))
      ++ (List.range (mx + 1)).filter (fun i => decide (i < (reTid L).1))).foldl
        (openChunk hash cfg.cap (reB st mx) (diskOf hs1) (reTid L)) ({ maxDumped := reTid L }, reTree0 L)) := by
    unfold reFold; rw [List.foldl_append]
  have hlt : ∀ i ∈ (List.range (mx + 1)).filter (fun i => decide (i < (reTid L).1)), i < (reTid L).1 :=
    fun i hi => ((mem_filter_range _ _ _).mp hi).2
  rw [e]
  refine ⟨fun j => ?_, a3, ?_, ?_⟩
  · rw [a1 j]
    split
    · rfl
    · -- a file behind the last existing one: nothing is loaded for it, and there is nothing to load
      rename_i hj
      rw [List.mem_append, mem_filter_range, mem_filter_range] at hj
      unfold loadedCk
      rw [if_pos (hemp j (by omega))]
  · rw [a4, List.foldl_append, foldl_id_of _ _ (fun i hi md => by unfold mdStep; rw [if_neg fun a => a.1 (hlt i hi)])]; rfl
  · rw [a5, List.foldl_append, foldl_id_of _ _ (fun i hi t => by unfold treeStep; rw [if_neg fun a => a.1 (hlt i hi)])]; rfl

/-- what `hints.close` leaves -/
structure Closed (V : Nat → FileRecs) (size : Nat → Nat) (hs1 : Hints) : Prop where
  g : HsG hash V hs1
  empty : ∀ j, (hs1.chunks j).last.items = []
  full : ∀ j, DsFull (hs1.chunks j) (size j)

theorem closed_of {b : Bucket} {hs : Hints} (hg : HsG hash (fun c => (b.chunks c).recs) hs) (dsf : ∀ c, DsFull (hs.chunks c) (b.chunks c).size) :
    Closed hash (fun c => (b.chunks c).recs) (fun c => (b.chunks c).size) (closeAll hs (hs.maxChunk + 1))
    ∧ MdMono hs (closeAll hs (hs.maxChunk + 1))
    ∧ MdTop (fun c => (b.chunks c).recs) hs (closeAll hs (hs.maxChunk + 1)) := by
  obtain ⟨k, he⟩ := exact_trydumpFold hash true (hs.maxChunk + 1) hg dsf
  refine ⟨⟨k.hg, fun j => he rfl j ?_, k.dsf⟩, k.mono, k.top⟩
  by_cases hj : j < hs.maxChunk + 1
  · exact Or.inl hj
  · exact Or.inr (hg.le j (by omega))

theorem covers_of {st : State} (l : Lay st.b) {hs1 : Hints}
    (cl : Closed hash (fun c => (st.b.chunks c).recs) (fun c => (st.b.chunks c).size) hs1) (mx : Nat) : Covers hs1 (reB st mx) :=
  ⟨fun i => (cl.g.good hash i).files, fun i => (ckI_ds_le hash (cl.g.ck i) (st.b.chunks i).size (fun x hx => (okFrom_mem (l.ok i) x hx).2.1)).1,
   fun i hsz => (cl.full i hsz).resolve_right (fun h => h.1 (cl.empty i))⟩

theorem files_of_oldF (old : List HSplit) (ho : ∀ sp ∈ old, sp.buf = none ∧ ∃ f, sp.file = some f) :
    old.filterMap (fun sp => sp.file.map (·.items)) = old.map spItems := by
  induction old with
  | nil => rfl
  | cons sp rest ih =>
    obtain ⟨_, f, hf⟩ := ho sp (by simp)
    rw [List.filterMap_cons, List.map_cons, ih (fun s hs => ho s (by simp [hs])), spItems_file hf, hf]
    rfl

theorem loaded_fileHints {V : Nat → FileRecs} {size : Nat → Nat} {hs1 : Hints} (cl : Closed hash V size hs1)
    (hz : ∀ i, size i = 0 → V i = []) (i : Nat) : FileHintsOf hash (V i) (loadedCk (hs1.chunks i) (size i)).files := by
  unfold loadedCk
  by_cases h0 : size i = 0
  · rw [if_pos h0, hz i h0]; exact ⟨[], rfl, Forall2.nil⟩
  · rw [if_neg h0]
    obtain ⟨segs, segLast, h1, h2, h3⟩ := cl.g.ck i
    have hs := splitInv_nil hash h3 (List.isEmpty_iff.mpr (cl.empty i))
    subst hs
    refine ⟨segs, by simpa using h1, ?_⟩
    show Forall2 (SplitFileOf hash) segs ((hs1.chunks i).old.filterMap (fun sp => sp.file.map (·.items)))
    rw [files_of_oldF _ (cl.g.oldf i)]
    exact diskFull_spItems hash (V i) _ (cl.g.oldf i) _ segs h2

theorem ckI_loaded {V : FileRecs} {ck : HCk} (h : CkI hash false V V [] ck) (he : ck.last.items = []) (size : Nat)
    (hz : size = 0 → V = []) : CkI hash false V V [] (loadedCk ck size) := by
  unfold loadedCk
  split
  · next h0 => rw [hz h0]; exact ckI_empty hash false []
  · obtain ⟨segs, segLast, h1, h2, h3⟩ := h
    rw [splitInv_nil hash h3 (List.isEmpty_iff.mpr he)] at h1 h2
    exact ⟨segs, [], h1, h2, splitInv_empty hash false V []⟩

theorem treeStep_nodump (ck : HCk) (t : Tree) (i : Nat) : treeStep ((0, -1) : Nat × Int) ck t i = applySplits i t ck.files := by
  unfold treeStep
  split
  · rfl
  · next hn =>
    have : ck.old = [] := by
      cases h : ck.old with
      | nil => rfl
      | cons a l => exact absurd ⟨by simp, by rw [startSp_nodump, h]; simp⟩ hn
    unfold HCk.files; rw [this]; rfl

theorem treeStep_loaded {V : Nat → FileRecs} {hs1 : Hints} (g : HsG hash V hs1) (size : Nat) (i : Nat) (hi : hs1.maxDumped.1 ≤ i) (t : Tree) :
    treeStep hs1.maxDumped (loadedCk (hs1.chunks i) size) t i = t := by
  unfold treeStep
  split
  · next ha =>
    obtain ⟨_, hn⟩ := ha
    cases hl : (loadedCk (hs1.chunks i) size).old with
    | nil =>
      have : (loadedCk (hs1.chunks i) size).files = [] := by unfold HCk.files; rw [hl]; rfl
      rw [this]; rfl
    | cons a l =>
      -- the id of the last split of the file is at most `maxDumpedHintID`: nothing lies behind `TreeID`
      exfalso
      rw [hl] at hn
      have hsz : size ≠ 0 := by intro e; rw [loadedCk_old, if_pos e] at hl; cases hl
      rw [loadedCk_old, if_neg hsz] at hl
      have := g.mdb i l.length (by rw [hl]; simp)
      unfold idLe at this
      rw [isLarger_iff] at this
      simp only [List.length_cons] at hn
      unfold startSp at hn
      rcases this with h | ⟨h1, h2⟩
      · omega
      · rw [if_pos h1.symm] at hn; omega
  · rfl

/-- the hint manager and the tree `x` of the new process, for the closed hint state `hs1` and the tree dump `L` it loaded:
    the hint manager is exact again; the tree is the hint replay from the empty tree (no dump) or the loaded tree, untouched -/
structure Reopened (st : State) (mx : Nat) (hs1 : Hints) (L : Option ((Nat × Int) × Tree)) (x : Hints × Tree) : Prop where
  hg : HsG hash (fun c => (st.b.chunks c).recs) x.1
  dsf : ∀ c, DsFull (x.1.chunks c) (st.b.chunks c).size
  merged : x.1.merged = none
  tid : isLarger (reState st mx L x).treeID x.1.maxDumped.1 x.1.maxDumped.2 = true
  mdle : (reTid L).1 ≤ mx → x.1.maxDumped.1 ≤ mx
  rebuilt : L = none → x.2 = (List.range (mx + 1)).foldl (fun t i => applySplits i t (loadedCk (hs1.chunks i) (st.b.chunks i).size).files) []
  kept : ∀ t, L = some (hs1.maxDumped, t) → x.2 = t

theorem reopen_hints (cfg : Collide.Cfg) (st : State) (mx : Nat)
    (hemp : ∀ j, mx < j → (st.b.chunks j).recs = [] ∧ (st.b.chunks j).size = 0) (l : Lay st.b) {hs1 : Hints}
    (cl : Closed hash (fun c => (st.b.chunks c).recs) (fun c => (st.b.chunks c).size) hs1)
    (L : Option ((Nat × Int) × Tree)) (hL : L = none ∨ ∃ t, L = some (hs1.maxDumped, t)) :
    Reopened hash st mx hs1 L (reFold hash cfg st mx hs1 L) := by
  have cov := covers_of hash l cl mx
  obtain ⟨hchunks, hmerged, hmd, htree⟩ := reFold_spec hash cfg st mx hs1 cov (fun j hj => (hemp j hj).2) L
  generalize reFold hash cfg st mx hs1 L = x2 at hchunks hmerged hmd htree
  have b4 : isLarger (reTid L) x2.1.maxDumped.1 x2.1.maxDumped.2 = true := by
    rw [hmd]; exact mdFold_isLarger _ _ _ _ (isLarger_refl _)
  -- `mdb` again.  No dump loaded: the fold ends at the last file with splits and its last split (`mdFold_mdb`).  The dump
  -- of `close` loaded: the new `maxDumped` is at or above the loaded id (`b4`), which was at or above every split
  have hmdb2 : ∀ c j, j < (x2.1.chunks c).old.length → idLe c j x2.1.maxDumped := by
    intro c j hj
    rw [hchunks c] at hj
    rcases hL with e | ⟨t, e⟩
    · have hc : c ≤ mx := by
        cases Nat.lt_or_ge mx c with
        | inl hlt => rw [loadedCk_old, if_pos (hemp c hlt).2] at hj; cases hj
        | inr hge => exact hge
      rw [hmd, e]
      exact mdFold_mdb (fun i => (loadedCk (hs1.chunks i) (st.b.chunks i).size).old.length) _
        (List.Pairwise.sublist List.filter_sublist List.pairwise_lt_range) _ c
        ((mem_filter_range _ _ _).mpr ⟨hc, Nat.zero_le _⟩) j hj
    · have hj' : j < (hs1.chunks c).old.length := by
        rw [loadedCk_old] at hj
        split at hj
        · cases hj
        · exact hj
      exact isLarger_trans _ _ _ _ (cl.g.mdb c j hj') (by have := b4; rw [e] at this; exact this)
  refine ⟨⟨?_, ?_, ?_, hmdb2⟩, ?_, hmerged, ?_, ?_, ?_, ?_⟩
  · intro c
    show CkI hash false (st.b.chunks c).recs (st.b.chunks c).recs [] (x2.1.chunks c)
    rw [hchunks c]
    exact ckI_loaded hash (cl.g.ck c) (cl.empty c) _ l.posInv.nil_of_size
  · intro c sp hsp
    rw [hchunks c] at hsp
    exact cl.g.oldf c sp (loadedCk_sub hsp)
  · intro c _
    rw [hchunks c, loadedCk_last]
  · intro c hsz
    rw [hchunks c, loadedCk_old, if_neg (by omega)]
    exact Or.inl (cov.full c hsz)
  · show isLarger (if L.isNone then x2.1.maxDumped else reTid L) x2.1.maxDumped.1 x2.1.maxDumped.2 = true
    split
    · exact isLarger_refl _
    · exact b4
  · intro htid
    rw [hmd]
    rcases mdFold_or (reTid L) (fun i => (loadedCk (hs1.chunks i) (st.b.chunks i).size).old.length) _ (reTid L) with e | e
    · rw [e]; exact htid
    · exact ((mem_filter_range _ _ _).mp e).1
  · intro e
    subst e
    rw [htree, List.filter_eq_self.mpr (fun a _ => by simp [reTid])]
    exact congrArg (fun f => (List.range (mx + 1)).foldl f (reTree0 none)) (funext fun t => funext fun i => treeStep_nodump _ t i)
  · intro t e
    subst e
    rw [htree]
    exact foldl_id_of _ _ (fun i hi t' => treeStep_loaded hash cl.g _ i ((mem_filter_range _ _ _).mp hi).2 t') t

/-- a restart of a store with data files, once it is known which tree dump the new process loads -/
theorem reopen_as (cfg : Collide.Cfg) (st : State) (kt : Bool) (mx : Nat)
    (hmx : lastNonEmpty ((List.range (st.b.head + 1)).map (fun i => { st.b.chunks i with flushed := (st.b.chunks i).recs.length })) = some mx)
    (hemp : ∀ j, mx < j → (st.b.chunks j).recs = [] ∧ (st.b.chunks j).size = 0) (l : Lay st.b) {hs1 : Hints}
    (hhs : closeAll st.hs (st.hs.maxChunk + 1) = hs1)
    (cl : Closed hash (fun c => (st.b.chunks c).recs) (fun c => (st.b.chunks c).size) hs1)
    {L : Option ((Nat × Int) × Tree)} (hL : reLoaded st mx kt hs1 = L) (hLc : L = none ∨ ∃ t, L = some (hs1.maxDumped, t)) :
    ∃ x, st.reopen hash cfg kt = reState st mx L x ∧ Reopened hash st mx hs1 L x := by
  subst hhs hL
  exact ⟨_, reopen_some hash cfg st kt mx hmx, reopen_hints hash cfg st mx hemp l cl _ hLc⟩

end

theorem applyFile_mem {c : Nat} {t : Tree} {items : List Item} {h : Nat} {ti : TItem}
    (e : AMap.get (applyFile c t items) h = some ti) :
    AMap.get t h = some ti ∨ ∃ y ∈ items, y.khash = h ∧ liveItem c y = some ti := by
  rw [applyFile_get] at e
  cases hl : lastWith h items with
  | none => rw [hl] at e; exact Or.inl e
  | some y =>
    rw [hl] at e
    have hy := List.mem_filter.mp (List.mem_of_getLast? hl)
    exact Or.inr ⟨y, hy.1, by simpa using hy.2, e⟩

theorem applySplits_mem {c : Nat} {h : Nat} {ti : TItem} : ∀ (fs : List (List Item)) (t : Tree),
    AMap.get (applySplits c t fs) h = some ti →
    AMap.get t h = some ti ∨ ∃ f ∈ fs, ∃ y ∈ f, y.khash = h ∧ liveItem c y = some ti
  | [], _, e => Or.inl e
  | f :: rest, t, e => by
    rcases applySplits_mem rest (applyFile c t f) e with e' | ⟨g, hg, r⟩
    · exact (applyFile_mem e').imp id fun r => ⟨f, by simp, r⟩
    · exact Or.inr ⟨g, by simp [hg], r⟩

section
variable (hash : Key → Nat)

theorem fileHintsOf_mem {recs : FileRecs} {splits : List (List Item)} (h : FileHintsOf hash recs splits) {f : List Item}
    (hf : f ∈ splits) {y : Item} (hy : y ∈ f) : ∃ p ∈ recs, ∃ sc, y = mkItem hash sc p := by
  obtain ⟨segs, rfl, hF⟩ := h
  obtain ⟨s, hs, hr⟩ := forall2_mem_right hF hf
  obtain ⟨p, hp, r⟩ := splitFileOf_mem hash hr hy
  exact ⟨p, List.mem_flatten.mpr ⟨s, hs, hp⟩, r⟩

theorem applyRange_replay_slot (V : Nat → FileRecs) (F : Nat → List (List Item)) (hF : ∀ i, FileHintsOf hash (V i) (F i))
    (o : Key) (hone : ∀ i, ∀ p ∈ V i, hash p.2.key = hash o → p.2.key = o) :
    ∀ n, AMap.get ((List.range n).foldl (fun t i => applySplits i t (F i)) []) (hash o)
      = AMap.get (((List.range n).flatMap (fun i => fileLog i (V i))).foldl (replayStep hash) []) (hash o) := by
  intro n
  induction n with
  | zero => rfl
  | succ n ih =>
    rw [List.range_succ, List.foldl_append, List.flatMap_append, List.foldl_append]
    simp only [List.foldl_cons, List.foldl_nil, List.flatMap_cons, List.flatMap_nil, List.append_nil]
    exact applySplits_file_slot hash n (V n) o (hone n) (F n) (hF n) _ _ ih

/-- the hint loop without a tree dump: every slot points at a record of its hash, and the slot of a key that is the only
    one of its hash is what the replay of the data log leaves there (with an injective hash that is every key in use, in
    the class SafeR every key the collision table does not know) -/
theorem hintLoop_slots (V : Nat → FileRecs) (F : Nat → List (List Item)) (hF : ∀ i, FileHintsOf hash (V i) (F i)) (n : Nat) :
    (∀ h ti, AMap.get ((List.range n).foldl (fun t i => applySplits i t (F i)) []) h = some ti →
        ∃ i p, p ∈ V i ∧ hash p.2.key = h ∧ ti.pos = ⟨i, p.1⟩ ∧ ti.ver = p.2.ver)
    ∧ (∀ o, (∀ i, ∀ p ∈ V i, hash p.2.key = hash o → p.2.key = o) →
        AMap.get ((List.range n).foldl (fun t i => applySplits i t (F i)) []) (hash o)
          = itemOfLast (lastOf o ((List.range n).flatMap (fun i => fileLog i (V i))))) := by
  constructor
  · induction n with
    | zero => intro h ti e; cases e
    | succ n ih =>
      intro h ti e
      rw [List.range_succ, List.foldl_append] at e
      rcases applySplits_mem (F n) _ e with e' | ⟨f, hf, y, hy, hh, hl⟩
      · exact ih h ti e'
      · obtain ⟨p, hp, sc, rfl⟩ := fileHintsOf_mem hash (hF n) hf hy
        rw [liveItem_mkItem] at hl
        simp only [itemOfLast] at hl
        split at hl
        · cases hl; exact ⟨n, p, hp, by rw [← hh, mkItem_khash], rfl, rfl⟩
        · cases hl
  · intro o hone
    rw [applyRange_replay_slot hash V F hF o hone n, replay_slot hash _ o (fun x hx => by
      obtain ⟨i, _, hx⟩ := List.mem_flatMap.mp hx
      obtain ⟨p, hp, rfl⟩ := List.mem_map.mp hx
      exact hone i p hp)]
    cases lastOf o _ <;> rfl

end
end CollideLemmas
