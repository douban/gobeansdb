/-
  C14 hint merge: the k-way merge of store/hintmerge.go (`HintMerge.kway`) for EVERY priority queue obeying `HeapLaws`
  (`listLaws`; `goLaws` for Go's container/heap, which is what the real code runs) and ALL source lists each of which
  is strictly sorted by (khash, key); no bound on anything.  A source may be without items: the opening loop skips it
  (`openAll_spec`).  `srcsOK`, the hypothesis of the C14 theorems, asks for an item in every source besides
  (`srcsOK_sorted`).

  `kway_spec`: the merge ends normally and its result is `Merged (allItems srcs) out coll`; what C14 says of the output
  are lemmas about `Merged`, whichever `Less`-sorted arrangement the queue produced.
  `Hint.merge` is `dedupLast`/`grp` of the insertion-sorted list (`merge_unfold`); without ties a sorted arrangement is
  unique (core's `List.Perm.eq_of_pairwise`), so the two agree (`Merged.eq_spec`).  With ties every queue still writes
  an item of greatest position, but which of the tied items survives depends on the queue (`tieSrcs` in Props/C14.lean).
-/
import GoBeans.Lemmas.HintMergeWriter
import GoBeans.Lemmas.HintMergeLoop
namespace HintMergeLemmas
open Hint HintMerge

/-- `out` and `coll` are what `mergeWriter` makes of SOME `Less`-sorted arrangement of `items` -/
def Merged (items out coll : List Item) : Prop :=
  ∃ s, s.Perm items ∧ s.Pairwise ILe ∧ out = dedupLast s ∧ coll = grp out

theorem finish_merged (s : List Item) (ss : s.Pairwise ILe) : Merged s (finish {} s).out (finish {} s).coll :=
  ⟨s, .refl _, ss, finish_out s, finish_coll s ss⟩

theorem Merged.of_perm {items items' out coll : List Item} (m : Merged items out coll) (p : items.Perm items') :
    Merged items' out coll :=
  let ⟨s, sp, h⟩ := m; ⟨s, sp.trans p, h⟩

theorem unique_of_pairwise {α : Type} {R E : α → α → Prop} (hE : ∀ {a b}, E a b → E b a)
    (hR : ∀ {a b}, R a b → ¬ E a b) {l : List α} (hp : l.Pairwise R) : ∀ a ∈ l, ∀ b ∈ l, E a b → a = b :=
  fun _ ha _ hb => List.Pairwise.forall_of_forall_of_flip (R := fun a b => E a b → a = b) (fun _ _ _ => rfl)
    (hp.imp fun h e => absurd e (hR h)) (hp.imp fun h e => absurd (hE e) (hR h)) ha hb

theorem noTies_iff (l : List Item) : noTies l = true ↔ l.Pairwise (fun a b => posTie a b = false) := by
  induction l with
  | nil => simp [noTies]
  | cons a t ih =>
    unfold noTies
    rw [Bool.and_eq_true, List.pairwise_cons, ih, List.all_eq_true]
    simp

theorem noTies_anti (l : List Item) (h : noTies l = true) : ∀ a ∈ l, ∀ b ∈ l, posTie a b = true → a = b :=
  unique_of_pairwise (fun e => (posTie_iff _ _).mpr ⟨((posTie_iff _ _).mp e).1.symm, ((posTie_iff _ _).mp e).2.symm⟩)
    (fun h e => by simp [h] at e) ((noTies_iff l).mp h)

theorem Merged.coll_eq {items out coll : List Item} (m : Merged items out coll) : coll = grp out :=
  let ⟨_, _, _, _, hc⟩ := m; hc

theorem Merged.sorted {items out coll : List Item} (m : Merged items out coll) : out.Pairwise KLt := by
  obtain ⟨s, _, ss, rfl, _⟩ := m
  exact dedupLast_sorted s ss

theorem Merged.unique {items out coll : List Item} (m : Merged items out coll) :
    ∀ x ∈ out, ∀ x' ∈ out, SameKey x x' → x = x' :=
  unique_of_pairwise SameKey.symm (fun hk e => not_KLt_of_SameKey e hk) m.sorted

theorem Merged.mem {items out coll : List Item} (m : Merged items out coll) : ∀ x ∈ out, x ∈ items := by
  obtain ⟨s, sp, _, rfl, _⟩ := m
  exact fun x hx => sp.mem_iff.mp ((dedupLast_sublist s).subset hx)

theorem Merged.greatest {items out coll : List Item} (m : Merged items out coll) :
    ∀ y ∈ items, ∃ x ∈ out, SameKey x y ∧ posKey y ≤ posKey x := by
  obtain ⟨s, sp, ss, rfl, _⟩ := m
  exact fun y hy => dedupLast_max s ss y (sp.mem_iff.mpr hy)

theorem Merged.exact {items out coll : List Item} (m : Merged items out coll) (hnt : noTies items = true) (x : Item) :
    x ∈ out ↔ x ∈ items ∧ ∀ y ∈ items, SameKey x y → posKey y ≤ posKey x := by
  constructor
  · intro hx
    refine ⟨m.mem x hx, ?_⟩
    intro y hy hk
    obtain ⟨x', hx', hk', hp⟩ := m.greatest y hy
    rw [m.unique x hx x' hx' (hk.trans hk'.symm)]; exact hp
  · intro ⟨hx, hmax⟩
    -- the written item of `x`'s key ties with `x`
    obtain ⟨w, hw, hk, hp⟩ := m.greatest x hx
    have hwa := m.mem w hw
    have ht : posTie x w = true := (posTie_iff x w).mpr ⟨hk.symm, Nat.le_antisymm hp (hmax w hwa hk.symm)⟩
    rw [noTies_anti _ hnt x hx w hwa ht]; exact hw

theorem grp_mem {out : List Item} (hs : out.Pairwise KLt) (x : Item) :
    x ∈ grp out ↔ x ∈ out ∧ ∃ y ∈ out, y.khash = x.khash ∧ y.key ≠ x.key := by
  unfold grp
  rw [List.mem_filter, decide_eq_true_eq]
  refine and_congr_right fun hx => ?_
  generalize hF : out.filter (fun o => decide (o.khash = x.khash)) = F
  have hmem : ∀ y, y ∈ F ↔ y ∈ out ∧ y.khash = x.khash := fun y => by
    rw [← hF, List.mem_filter, decide_eq_true_eq]
  have hFs : F.Pairwise KLt := hF ▸ hs.filter _
  constructor
  · intro hl
    -- two members of `F`: they differ in the key, so one of them differs from `x` in the key
    obtain ⟨a, b, t, rfl⟩ : ∃ a b t, F = a :: b :: t :=
      match F, hl with
      | a :: b :: t, _ => ⟨a, b, t, rfl⟩
    have ha := (hmem a).mp (List.mem_cons_self ..)
    have hb := (hmem b).mp (List.mem_cons_of_mem _ (List.mem_cons_self ..))
    have hab : KLt a b := List.rel_of_pairwise_cons hFs (List.mem_cons_self ..)
    by_cases hax : a.key = x.key
    · exact ⟨b, hb.1, hb.2, fun e => not_KLt_of_SameKey ⟨ha.2.trans hb.2.symm, hax.trans e.symm⟩ hab⟩
    · exact ⟨a, ha.1, ha.2, hax⟩
  · intro ⟨y, hy, hyk, hyne⟩
    match F, (hmem x).mpr ⟨hx, rfl⟩, (hmem y).mpr ⟨hy, hyk⟩ with
    | [a], hxF, hyF =>
      exact absurd ((List.mem_singleton.mp hyF).trans (List.mem_singleton.mp hxF).symm ▸ rfl) hyne
    | _ :: _ :: _, _, _ => simp

theorem Merged.coll_iff {items out coll : List Item} (m : Merged items out coll) (x : Item) :
    x ∈ coll ↔ x ∈ out ∧ ∃ y ∈ items, y.khash = x.khash ∧ y.key ≠ x.key := by
  rw [m.coll_eq, grp_mem m.sorted]
  refine and_congr_right fun hx => ⟨?_, ?_⟩
  · intro ⟨y, hy, hk, hne⟩
    exact ⟨y, m.mem y hy, hk, hne⟩
  · intro ⟨y, hy, hk, hne⟩
    obtain ⟨y', hy', hsk, _⟩ := m.greatest y hy
    exact ⟨y', hy', hsk.1.trans hk, by rw [hsk.2]; exact hne⟩

theorem ctSet_fresh (t : List Item) (it : Item) (h : ∀ o ∈ t, ¬ SameKey o it) : ctSet t it = t ++ [it] := by
  induction t with
  | nil => rfl
  | cons o t ih =>
    have hne : ¬ (o.khash = it.khash ∧ o.key = it.key) := h o (List.mem_cons_self ..)
    rw [ctSet, if_neg hne, ih (fun o' ho' => h o' (List.mem_cons_of_mem _ ho'))]
    rfl

theorem ctSet_fold (l t : List Item) (hp : l.Pairwise KLt) (hd : ∀ o ∈ t, ∀ y ∈ l, ¬ SameKey o y) :
    l.foldl ctSet t = t ++ l := by
  induction l generalizing t with
  | nil => simp
  | cons y l ih =>
    have hp' := List.pairwise_cons.mp hp
    rw [List.foldl_cons, ctSet_fresh t y (fun o ho => hd o ho y (List.mem_cons_self ..)),
      ih (t ++ [y]) hp'.2, List.append_assoc, List.singleton_append]
    intro o ho z hz
    rcases List.mem_append.mp ho with ho' | ho'
    · exact hd o ho' z (List.mem_cons_of_mem _ hz)
    · obtain rfl := List.mem_singleton.mp ho'
      exact fun hk => not_KLt_of_SameKey hk (hp'.1 z hz)

/-- an EMPTY collision table is what the harness observes -/
theorem Merged.table {items out coll : List Item} (m : Merged items out coll) : coll.foldl ctSet [] = coll := by
  have hs : coll.Pairwise KLt := by
    rw [m.coll_eq]
    exact m.sorted.sublist List.filter_sublist
  simpa using ctSet_fold coll [] hs (by simp)

/-- the deduplication step of `Hint.merge` -/
def ddStep (it : Item) (acc : List Item) : List Item :=
  match acc with
  | nxt :: _ => if nxt.khash = it.khash ∧ nxt.key = it.key then acc else it :: acc
  | [] => [it]

theorem dedupLast_head (y : Item) (t : List Item) : ∃ z rest, dedupLast (y :: t) = z :: rest ∧ SameKey z y := by
  induction t generalizing y with
  | nil => exact ⟨y, [], rfl, SameKey.refl _⟩
  | cons y' t ih =>
    obtain ⟨z, rest, he, hk⟩ := ih y'
    rw [dedupLast]
    split
    · rename_i h; exact ⟨z, rest, he, hk.trans (SameKey.symm h)⟩
    · exact ⟨y, _, rfl, SameKey.refl _⟩

theorem dedupLast_cons (a : Item) (l : List Item) : dedupLast (a :: l) = ddStep a (dedupLast l) := by
  cases l with
  | nil => rfl
  | cons b t =>
    obtain ⟨z, rest, he, hk⟩ := dedupLast_head b t
    have : SameKey a b ↔ (z.khash = a.khash ∧ z.key = a.key) :=
      ⟨fun h => hk.trans (SameKey.symm h), fun h => (SameKey.symm h).trans hk⟩
    rw [dedupLast, he]
    simp only [ddStep, this]

theorem merge_unfold (srcs : List (Nat × List Item)) :
    Hint.merge srcs = (dedupLast (sortItems (allItems srcs)), grp (dedupLast (sortItems (allItems srcs)))) := by
  have : ∀ s : List Item, s.foldr ddStep [] = dedupLast s := fun s => by
    induction s with
    | nil => rfl
    | cons a l ih => rw [List.foldr_cons, ih, dedupLast_cons]
  rw [← this]
  rfl

theorem insertSorted_perm (x : Item) (l : List Item) : (insertSorted x l).Perm (x :: l) := by
  fun_induction insertSorted x l with
  | case1 => exact .refl _
  | case2 y ys _ => exact .refl _
  | case3 y ys _ ih => exact ((List.perm_cons y).mpr ih).trans (.swap _ _ _)

theorem insertSorted_sorted (x : Item) (l : List Item) (hp : l.Pairwise ILe) : (insertSorted x l).Pairwise ILe := by
  fun_induction insertSorted x l with
  | case1 => exact List.pairwise_singleton _ _
  | case2 y ys hlt =>
    have hxy : ILe x y := ILe_of_ILt ((itemLt_iff _ _).mp hlt)
    refine List.pairwise_cons.mpr ⟨fun z hz => ?_, hp⟩
    rcases List.mem_cons.mp hz with rfl | hz'
    · exact hxy
    · exact ILe_trans hxy (List.rel_of_pairwise_cons hp hz')
  | case3 y ys hlt ih =>
    have hp' := List.pairwise_cons.mp hp
    have hyx : ILe y x := (itemLt_false_iff _ _).mp (by simpa using hlt)
    refine List.pairwise_cons.mpr ⟨fun z hz => ?_, ih hp'.2⟩
    rcases List.mem_cons.mp ((insertSorted_perm x ys).mem_iff.mp hz) with rfl | hz'
    · exact hyx
    · exact hp'.1 z hz'

theorem sortItems_perm (l : List Item) : (sortItems l).Perm l := by
  induction l with
  | nil => exact .refl _
  | cons x l ih => exact (insertSorted_perm x _).trans ((List.perm_cons x).mpr ih)

theorem sortItems_sorted (l : List Item) : (sortItems l).Pairwise ILe := by
  induction l with
  | nil => exact .nil
  | cons x l ih => exact insertSorted_sorted x _ ih

theorem Merged.eq_spec {srcs : List (Nat × List Item)} {out coll : List Item} (m : Merged (allItems srcs) out coll)
    (hnt : noTies (allItems srcs) = true) : out = (Hint.merge srcs).1 ∧ coll = (Hint.merge srcs).2 := by
  obtain ⟨s, sp, ss, rfl, rfl⟩ := m
  have e : s = sortItems (allItems srcs) :=
    (sp.trans (sortItems_perm _).symm).eq_of_pairwise (fun a b ha hb hab hba => noTies_anti _ hnt a (sp.mem_iff.mp ha)
      b ((sortItems_perm _).mem_iff.mp hb) (tie_of_ILe_ILe hab hba)) ss (sortItems_sorted _)
  rw [merge_unfold, e]
  exact ⟨rfl, rfl⟩

theorem srcSorted_pairwise (l : List Item) (h : srcSorted l = true) : l.Pairwise KLt := by
  fun_induction srcSorted l with
  | case1 => exact .nil
  | case2 a => exact List.pairwise_singleton _ _
  | case3 a b t ih =>
    rw [Bool.and_eq_true] at h
    have ih := ih h.2
    have hab : KLt a b := (keyLt_iff _ _).mp h.1
    refine List.pairwise_cons.mpr ⟨fun z hz => ?_, ih⟩
    rcases List.mem_cons.mp hz with rfl | hz'
    · exact hab
    · exact KLt_trans hab (List.rel_of_pairwise_cons ih hz')

theorem srcSorted_tagged (c : Nat) {l : List Item} (h : srcSorted l = true) : (l.map (tag c)).Pairwise KLt :=
  List.pairwise_map.mpr (srcSorted_pairwise l h)

theorem srcsOK_sorted {srcs : List (Nat × List Item)} (hok : srcsOK srcs = true) :
    ∀ s ∈ srcs, srcSorted s.2 = true := fun s hs => by
  have := List.all_eq_true.mp hok s hs
  rw [Bool.and_eq_true] at this
  exact this.2

theorem allItems_cons (s : Nat × List Item) (ss : List (Nat × List Item)) :
    allItems (s :: ss) = s.2.map (tag s.1) ++ allItems ss :=
  List.flatMap_cons

theorem totalItems_eq (srcs : List (Nat × List Item)) : totalItems srcs = (allItems srcs).length := by
  unfold totalItems allItems
  simp only [List.length_flatMap, List.length_map]

theorem openAll_cons (c : Nat) (x : Item) (xs : List Item) (ss : List (Nat × List Item)) :
    openAll ((c, x :: xs) :: ss) = (openAll ss).map ({ chunk := c, curr := tag c x, rest := xs } :: ·) := by
  rw [openAll]
  cases openAll ss <;> rfl

theorem openAll_spec (srcs : List (Nat × List Item)) : ∃ hp, openAll srcs = some hp ∧
    pendingAll hp = allItems srcs ∧ ∀ r ∈ hp, ∃ s ∈ srcs, pending r = s.2.map (tag s.1) := by
  induction srcs with
  | nil => exact ⟨[], rfl, rfl, fun _ h => nomatch h⟩
  | cons s ss ih =>
    obtain ⟨hp, ho, hpa, hps⟩ := ih
    have hps' : ∀ r ∈ hp, ∃ s' ∈ s :: ss, pending r = s'.2.map (tag s'.1) :=
      fun r hr => (hps r hr).imp fun s' h => ⟨List.mem_cons_of_mem _ h.1, h.2⟩
    obtain ⟨c, l⟩ := s
    cases l with
    | nil => exact ⟨hp, ho, hpa, hps'⟩
    | cons x xs =>
      refine ⟨_, by rw [openAll_cons, ho]; rfl, by rw [pendingAll_cons, hpa, allItems_cons]; rfl, fun r hr => ?_⟩
      rcases List.mem_cons.mp hr with rfl | hr'
      · exact ⟨(c, x :: xs), List.mem_cons_self .., rfl⟩
      · exact hps' r hr'

def nonEmpty (srcs : List (Nat × List Item)) : List (Nat × List Item) := srcs.filter (fun s => !s.2.isEmpty)

theorem openAll_nonEmpty : ∀ srcs : List (Nat × List Item), openAll srcs = openAll (nonEmpty srcs)
  | [] => rfl
  | (c, []) :: ss => openAll_nonEmpty ss
  | (c, x :: xs) :: ss => by
    show _ = openAll ((c, x :: xs) :: nonEmpty ss)
    rw [openAll_cons, openAll_cons, openAll_nonEmpty ss]

theorem allItems_nonEmpty : ∀ srcs : List (Nat × List Item), allItems (nonEmpty srcs) = allItems srcs
  | [] => rfl
  | (c, []) :: ss => allItems_nonEmpty ss
  | (c, x :: xs) :: ss => by
    show allItems ((c, x :: xs) :: nonEmpty ss) = _
    rw [allItems_cons, allItems_cons, allItems_nonEmpty ss]

theorem run_spec {I : HeapImpl} (L : HeapLaws I) (srcs : List (Nat × List Item))
    (hs : ∀ s ∈ srcs, srcSorted s.2 = true) (n : Nat) :
    ∃ (s : List Item) (hn : List Reader), run I n srcs = some (hn, finish {} s) ∧ s.Pairwise ILe ∧
      (s ++ pendingAll hn).Perm (allItems srcs) ∧ (hn = [] ∨ s.length = n) := by
  obtain ⟨hp, ho, hpa, hps⟩ := openAll_spec srcs
  have hperm := L.init_perm hp
  have hsorted : SortedPending (I.init hp) := fun r hr => by
    obtain ⟨s, hmem, e⟩ := hps r (hperm.mem_iff.mp hr)
    rw [e]; exact srcSorted_tagged s.1 (hs s hmem)
  obtain ⟨s, e, ss, sp, stop⟩ := loop_spec L n (I.init hp) {} (L.init_inv hp) hsorted
  refine ⟨s, (loop I n (I.init hp) {}).1, ?_, ss, ?_, stop⟩
  · unfold run
    rw [ho]
    simp only [finish, ← e]
  · rw [← hpa]; exact sp.trans (pendingAll_perm hperm)

theorem kway_spec {I : HeapImpl} (L : HeapLaws I) (srcs : List (Nat × List Item))
    (hs : ∀ s ∈ srcs, srcSorted s.2 = true) :
    ∃ out coll, kway I srcs = .ok out coll ∧ Merged (allItems srcs) out coll := by
  obtain ⟨s, hn, hr, ss, sp, stop⟩ := run_spec L srcs hs (totalItems srcs)
  -- `totalItems` rounds pop `totalItems` items, so nothing is left on the heap
  have hnil : hn = [] := by
    refine stop.elim id (fun hl => pendingAll_eq_nil (List.eq_nil_of_length_eq_zero ?_))
    have := sp.length_eq
    rw [List.length_append, hl, ← totalItems_eq] at this
    omega
  subst hnil
  refine ⟨_, _, ?_, (finish_merged s ss).of_perm (by simpa [pendingAll] using sp)⟩
  unfold kway kwayAbort
  rw [hr]

theorem kway_merged {I : HeapImpl} (L : HeapLaws I) {srcs : List (Nat × List Item)}
    (hs : ∀ s ∈ srcs, srcSorted s.2 = true) {out coll : List Item} (h : kway I srcs = .ok out coll) :
    Merged (allItems srcs) out coll := by
  obtain ⟨out', coll', hk, m⟩ := kway_spec L srcs hs
  rw [hk] at h
  injection h with h1 h2
  exact h1 ▸ h2 ▸ m

theorem merge_never_panics (I : HeapImpl) (srcs : List (Nat × List Item)) : kway I srcs ≠ .panic := by
  obtain ⟨hp, ho, _⟩ := openAll_spec srcs
  unfold kway kwayAbort run
  rw [ho]
  simp only
  cases (loop I (totalItems srcs) (I.init hp) {}).1 <;> simp

theorem kway_nonEmpty (I : HeapImpl) (srcs : List (Nat × List Item)) : kway I srcs = kway I (nonEmpty srcs) := by
  unfold kway kwayAbort run
  rw [← openAll_nonEmpty, totalItems_eq (nonEmpty srcs), allItems_nonEmpty, ← totalItems_eq]

theorem merge_table {I : HeapImpl} (L : HeapLaws I) {srcs : List (Nat × List Item)} (hok : srcsOK srcs = true)
    {out coll : List Item} (h : kway I srcs = .ok out coll) : coll.foldl ctSet [] = coll :=
  (kway_merged L (srcsOK_sorted hok) h).table

theorem merge_eq_spec {I : HeapImpl} (L : HeapLaws I) (srcs : List (Nat × List Item))
    (hs : ∀ s ∈ srcs, srcSorted s.2 = true) (hnt : noTies (allItems srcs) = true) :
    kway I srcs = .ok (Hint.merge srcs).1 (Hint.merge srcs).2 := by
  obtain ⟨out, coll, hk, m⟩ := kway_spec L srcs hs
  rw [hk, (m.eq_spec hnt).1, (m.eq_spec hnt).2]

theorem noTies_of_distinctChunks (srcs : List (Nat × List Item)) (hs : ∀ s ∈ srcs, srcSorted s.2 = true)
    (hd : distinctChunks srcs = true) : noTies (allItems srcs) = true := by
  unfold distinctChunks at hd
  rw [Bool.and_eq_true, decide_eq_true_eq, List.all_eq_true] at hd
  rw [noTies_iff]
  unfold allItems
  rw [List.pairwise_flatMap]
  constructor
  · -- inside a source: strictly sorted by (khash, key)
    intro s hmem
    refine (srcSorted_tagged s.1 (hs s hmem)).imp fun hab => Bool.eq_false_iff.mpr fun ht => ?_
    exact not_KLt_of_SameKey ((posTie_iff _ _).mp ht).1 hab
  · -- across sources: the chunk id is the high part of the position
    have hn : srcs.Pairwise (fun s1 s2 => s1.1 ≠ s2.1) := List.pairwise_map.mp (List.nodup_iff_pairwise_ne.mp hd.1)
    refine hn.imp_of_mem ?_
    intro s1 s2 h1 h2 hne x hx y hy
    obtain ⟨x0, hx0, rfl⟩ := List.mem_map.mp hx
    obtain ⟨y0, hy0, rfl⟩ := List.mem_map.mp hy
    have o1 : x0.off < 2^32 := of_decide_eq_true (List.all_eq_true.mp (hd.2 s1 h1) x0 hx0)
    have o2 : y0.off < 2^32 := of_decide_eq_true (List.all_eq_true.mp (hd.2 s2 h2) y0 hy0)
    refine Bool.eq_false_iff.mpr fun ht => hne ?_
    have := ((posTie_iff _ _).mp ht).2
    unfold posKey tag at this
    simp only at this
    omega

theorem merge_eq_spec_distinct {I : HeapImpl} (L : HeapLaws I) (srcs : List (Nat × List Item))
    (hok : srcsOK srcs = true) (hd : distinctChunks srcs = true) :
    kway I srcs = .ok (Hint.merge srcs).1 (Hint.merge srcs).2 :=
  merge_eq_spec L srcs (srcsOK_sorted hok) (noTies_of_distinctChunks srcs (srcsOK_sorted hok) hd)

theorem merge_queue_independent {I I' : HeapImpl} (L : HeapLaws I) (L' : HeapLaws I')
    (srcs : List (Nat × List Item)) (hok : srcsOK srcs = true) (hnt : noTies (allItems srcs) = true) :
    kway I srcs = kway I' srcs := by
  rw [merge_eq_spec L srcs (srcsOK_sorted hok) hnt, merge_eq_spec L' srcs (srcsOK_sorted hok) hnt]

/-- a merge that is cut short (gc abort at the loop head after `n` iterations, or a read error after the `n`-th
    pop) still reports collisions (`mw.flush()` runs before the error return): everything it reports is an item
    of a source that truly shares its hash with a different key — but see `abort_stale` -/
theorem abort_sound {I : HeapImpl} (L : HeapLaws I) {srcs : List (Nat × List Item)} (hok : srcsOK srcs = true)
    (n : Nat) {coll : List Item} (h : kwayAbort I n srcs = .aborted coll) :
    ∀ x ∈ coll, x ∈ allItems srcs ∧ ∃ y ∈ allItems srcs, y.khash = x.khash ∧ y.key ≠ x.key := by
  obtain ⟨s, hn, hr, ss, sp, _⟩ := run_spec L srcs (srcsOK_sorted hok) n
  unfold kwayAbort at h
  rw [hr] at h
  -- what was reported is a merge of the items popped so far
  have m : Merged s (finish {} s).out coll := by
    cases hn with
    | nil => cases h
    | cons a t => injection h with h; exact h ▸ finish_merged s ss
  have sub : ∀ z ∈ s, z ∈ allItems srcs := fun z hz => sp.mem_iff.mp (List.mem_append_left _ hz)
  intro x hx
  obtain ⟨hx1, y, hy, hk, hne⟩ := (m.coll_iff x).mp hx
  exact ⟨sub x (m.mem x hx1), y, sub y hy, hk, hne⟩

end HintMergeLemmas
