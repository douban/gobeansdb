/-
  GC beside clients: the full invariant `Inv` (`SInv`, the history invariant `HInv`, no fatal error), preserved by every
  scheduler decision as long as no monitor fires and the repoint is the conditional one (`inv_step`).
    * `HInv` is `HInvP` of Lemmas/ConcFineHist.lean for `Pend s` = `ConcFine.PendOn (Dead s) s.base.chunks`: a linearised
      reader is going to return the recorded value - or to fail, when its chunk has been emptied by the pass;
    * beside the pass the clients satisfy `ConcFine.CInv (X s) (Dead s)` of Lemmas/ConcFineInv.lean (`Inv.cinv`), so their
      steps preserve `Inv` by `cinv_micro` / `cinv_invoke` and `Inv.of_cinv`; a failing read is not a step of
      `ConcFine.micro` but `readFail`, which takes the open entry out of the history (`cinv_readFail`);
    * GC IS INVISIBLE: a GC micro-step adds no entry and changes no register; a position a reader holds either keeps its
      record or its chunk is dead from now on (`pend_gmicro`).
-/
import GoBeans.Lemmas.ConcGCStep

namespace ConcGC
open ConcFine
open Conc (AOp Out Ev Reg regStep)

/-- what a thread that has passed its linearisation point is going to return -/
def Pend (s : State) (pc : PC) (out : Out) : Prop :=
  PendPC s.base.chunks pc out ∨ ∃ c, readerChunk pc = some c ∧ Dead s c ∧ ∃ v n, out = .got v n

def HInv (s : State) : Prop := HInvP (Pend s) s.base

theorem pend_eq (s : State) : Pend s = PendOn (Dead s) s.base.chunks := rfl

theorem hinv_iff (s : State) : HInv s ↔ HInvP (PendOn (Dead s) s.base.chunks) s.base := by rw [HInv, pend_eq]

theorem dead_empty {s : State} (hi : SInv s) {c : Nat} (hd : Dead s c) :
    (s.base.chunks c).wbuf = [] ∧ (s.base.chunks c).file = [] :=
  ⟨(hi.chk.cold c (dead_X hi.ctl hd)).1.nobuf, hi.chk.dead c hd⟩

local macro "others" : tactic =>
  `(tactic| (intro u hu; simp [ConcFine.State.goto, ConcFine.State.log, ConcFine.State.respond, ConcFine.State.readDone,
                                 ConcFine.State.setChunk, hu]))

-- the case of a client micro-step of `t` that records nothing; not called below
local macro "same_case" t:ident hi:ident hpc:ident hpo:ident hst:ident : tactic => `(tactic| (
  have hlt := HInvP.inv $hi $t (by rw [$hpc:ident]; intro hh; cases hh)
  refine hist_sameP $t $hi rfl rfl (by others) ?_ $hpo (fun k => $hst k rfl) ?_
  · intro _; simp [ConcFine.State.goto, ConcFine.State.log, ConcFine.State.respond, ConcFine.State.readDone,
                   ConcFine.State.setChunk]; omega
  · intro out hp; rw [$hpc:ident] at hp; exact False.elim (pend_nonreader rfl hp)))

/-- the reader that gives up holds no lock and flushes nothing -/
theorem cinv_readFail {X D : Nat → Prop} {s : State} {t : Nat} (hi : CInv X D s.base)
    (hpc : (∃ k it, (s.base.thr t).pc = .rBuf k it) ∨ ∃ k it, (s.base.thr t).pc = .rFile k it) :
    CInv X D (readFail s t).base.tick := by
  have hP : holdsW (s.base.thr t).pc = false ∧ holdsD (s.base.thr t).pc = false ∧ holdsF (s.base.thr t).pc = false ∧
      ∀ c, prog c (s.base.thr t).pc = 0 := by
    rcases hpc with ⟨k, it, h⟩ | ⟨k, it, h⟩ <;> rw [h] <;> exact ⟨rfl, rfl, rfl, fun _ => rfl⟩
  have hthr : ∀ u, u ≠ t → (readFail s t).base.thr u = s.base.thr u := by
    intro u hu; simp [readFail, hu]
  have hself : ((readFail s t).base.thr t).pc = .idle := by simp [readFail]
  have hlay := on_frame t hi.lay hthr rfl rfl (progress_same (t := t) hthr rfl fun c => by rw [hself, hP.2.2.2]; rfl)
    (by rw [hself]; trivial) (by rw [hself]; trivial)
  refine ⟨tick_lock _ ⟨lock_upd hi.lock.w (t := t) hthr (Or.inl ⟨rfl, by rw [hself, hP.1]; rfl⟩),
      lock_upd hi.lock.d (t := t) hthr (Or.inl ⟨rfl, by rw [hself, hP.2.1]; rfl⟩),
      lock_upd hi.lock.f (t := t) hthr (Or.inl ⟨rfl, by rw [hself, hP.2.2.1]; rfl⟩)⟩,
    tick_hotlay hlay, hi.cold, hi.head,
    fun u c => thr_cases (P := fun pc => flushTarget pc = some c → ¬ X c) hthr (by rw [hself]; nofun) (fun u _ => hi.fltg u c) u,
    hi.dead, hi.recs, hi.tree,
    thr_cases hthr (by rw [hself]; trivial) fun u _ => hi.wr u, ?_, hi.alive, hi.noerr⟩
  refine hist_dropP t hi.hist rfl rfl hthr hself (fun u _ o hp => hp) (fun k => rfl) fun e he het hd => ?_
  have hp := hi.hist.pend e he hd
  rw [het] at hp
  rcases hp with hp | ⟨_, _, _, hg⟩
  · rcases hpc with ⟨k, it, h⟩ | ⟨k, it, h⟩
    · rw [h] at hp; obtain ⟨r, _, _, h3⟩ := hp; exact ⟨_, _, h3⟩
    · rw [h] at hp; obtain ⟨r, _, _, _, h3⟩ := hp; exact ⟨_, _, h3⟩
  · exact hg

theorem pend_gmicro {cfg : GCfg} {s s' : State} (hc : GCtl s) (hk : GChk s) (hz : noHaz s')
    (h : gmicro cfg s = some s') {pc : PC} {o : Out} (hp : Pend s pc o) : Pend s' pc o := by
  rcases hp with hp | ⟨c, hcc, hd, hg⟩
  · -- a reader whose position lies in the file `Clear` removes in this step is going to fail; every other record stays
    have gone : ∀ c, s.gc.pc = .gRemove ∧ c = s.gc.src → readerChunk pc = some c → (∃ v n, o = .got v n) → Pend s' pc o :=
      fun c hne hrc hg => Or.inr ⟨c, hrc, hne.2 ▸ gmicro_remove_dead hc h hne.1, hg⟩
    cases pc with
    | rBuf k it =>
      obtain ⟨r, h1, h2, h3⟩ := hp
      by_cases hne : s.gc.pc = .gRemove ∧ it.pos.chunk = s.gc.src
      · exact gone _ hne rfl ⟨_, _, h3⟩
      · exact Or.inl ⟨r, gmicro_keeps hc hk hz h h1 hne, h2, h3⟩
    | rFile k it =>
      obtain ⟨r, h1, h2, h3, h4⟩ := hp
      by_cases hne : s.gc.pc = .gRemove ∧ it.pos.chunk = s.gc.src
      · exact gone _ hne rfl ⟨_, _, h4⟩
      · exact Or.inl ⟨r, gmicro_keeps_file hc hk hz h _ r h1 hne, h2, h3, h4⟩
    | wUnlock k o' => left; exact hp
    | rRet k => left; exact hp
    | _ => exact False.elim hp
  · right; exact ⟨c, hcc, gmicro_dead_mono h c hd, hg⟩

/-- no client thread moves (a GC micro-step, the start and the cancellation of the pass); `hist_sameP` is shaped for the
    step of one client thread, and thread `0` stands for any -/
theorem hinv_gc {s s' : State} (hi : HInv s) (hthr : s'.base.thr = s.base.thr) (hh : s'.base.hist = s.base.hist)
    (hclk : s'.base.clock = s.base.clock) (hreg : ∀ k, absReg s'.base k = absReg s.base k)
    (hp : ∀ pc o, Pend s pc o → Pend s' pc o) : HInv s'.tick := by
  refine hist_sameP (P := Pend s) (P' := Pend s') 0 hi hh hclk (fun u _ => by rw [hthr]) ?_ (fun u _ o => hp _ o) hreg ?_
  · intro hne
    rw [hthr] at hne ⊢
    have := hi.inv 0 hne; omega
  · intro o; rw [hthr]; exact hp _ o

structure Inv (s : State) : Prop where
  sinv : SInv s
  hist : HInv s
  alive : s.base.fatal = false
  noerr : s.base.readErr = false

theorem Inv.cinv {s : State} (hi : Inv s) : CInv (X s) (Dead s) s.base :=
  ⟨hi.sinv.lock, hi.sinv.hot,
    fun c hx => ⟨readable_of_cold (hi.sinv.chk.cold c hx).1, fun r hr => contig_find _ _ _ (hi.sinv.chk.cold c hx).1.cfile r hr⟩,
    hi.sinv.ctl.not_X_head, hi.sinv.data.fltg, fun _ hd => ⟨dead_X hi.sinv.ctl hd, dead_empty hi.sinv hd⟩,
    hi.sinv.data.recs, hi.sinv.data.tree, hi.sinv.data.wr, (hinv_iff s).1 hi.hist, hi.alive, hi.noerr⟩

/-- what the invariants of the pass need of a step of a client; `f`, `hzv`: the count of failed gets and the monitor after
    it.  The callers' `b'` is the embedded state after the tick: their goals `Inv s'.tick` have the form of the conclusion
    by unfolding `tick` and `readFail` -/
theorem Inv.of_cinv {s : State} {b' : ConcFine.State} (hi : Inv s) (f : Nat) (hzv : Bool) (hc : CInv (X s) (Dead s) b')
    (hnh : s.base.newHead ≤ b'.newHead) (hch : ∀ c, X s c → b'.chunks c = s.base.chunks c)
    (htr : b'.tree = s.base.tree ∨ ∃ k it, ¬ X s it.pos.chunk ∧
      b'.tree = fun k' => if k' = k then some it else s.base.tree k')
    (hwp : ∀ u, WPosOK b'.newHead (b'.thr u).pc) : Inv { s with base := b', fails := f, hazCold := hzv } := by
  have hX : ∀ c, X ({ s with base := b', fails := f, hazCold := hzv } : State) c ↔ X s c := X_congr rfl rfl
  exact ⟨⟨hc.lock, hotlay_mono hc.lay fun c hx => (hX c).1 hx, ctl_client hi.sinv.ctl rfl hnh,
    chk_client hi.sinv.ctl hi.sinv.chk rfl hch, gtree_client hi.sinv.ctl hi.sinv.tr rfl htr,
    ⟨hc.recs, hc.tree, hc.wr, hwp, fun u c hf hx => hc.fltg u c hf ((hX c).1 hx)⟩⟩, (hinv_iff _).2 hc.hist, hc.alive, hc.noerr⟩

theorem inv_cmicro {cfg : GCfg} {s s' : State} {t : Nat} (hi : Inv s) (hz : noHaz s') (h : cmicro cfg s t = some s') :
    Inv s'.tick := by
  rcases cmicro_cases h with ⟨hpc, rfl⟩ | ⟨b', hzv, rfl, hm⟩
  · refine hi.of_cinv (s.fails + 1) s.hazCold (cinv_readFail hi.cinv hpc) (Nat.le_refl _) (fun _ _ => rfl) (Or.inl rfl) ?_
    show ∀ u, WPosOK s.base.newHead ((readFail s t).base.thr u).pc
    exact thr_cases (fun u hu => if_neg hu) (by rw [if_pos rfl]; trivial) fun u _ => hi.sinv.data.wpos u
  · -- what the monitor `hazCold` buys: also after the step the flusher's target lies outside `X`
    have hfl : ∀ c, flushTarget (b'.thr t).pc = some c → ¬ X s c :=
      fun c hf => (hm.target hz.1 c hf).elim (hi.sinv.data.fltg t c) id
    refine hi.of_cinv s.fails hzv (cinv_micro hi.cinv hm.micro hm.read hfl) (micro_head (b' := b') hm.micro)
      (fun c hx => micro_other_chunks (b' := b') hm.micro c (fun e => hi.sinv.ctl.not_X_head c (Nat.le_of_eq e.symm) hx)
        (fun e => hi.sinv.data.fltg t c e hx)) ?_ (micro_wpos (b' := b') hi.sinv.lock hi.sinv.data.wpos hm.micro)
    rcases micro_tree hm.micro with he | ⟨q, ver, pos, hpc, he⟩
    · exact Or.inl he
    · have := hi.sinv.data.wpos t
      rw [hpc] at this
      exact Or.inr ⟨q.key, ⟨ver, pos⟩, hi.sinv.ctl.not_X_head _ (Nat.le_of_eq this.symm), he⟩

theorem inv_step {cfg : GCfg} {s s' : State} {t : Nat} {a : Act} (hb : cfg.blind = false) (hi : Inv s) (hz : noHaz s')
    (h : step cfg s t a = some s') : Inv s' := by
  obtain ⟨_, s1, hs, rfl⟩ := step_elim h
  have hz1 : noHaz s1 := hz
  cases hs with
  | call op b' h2 =>
    refine hi.of_cinv s.fails s.hazCold (cinv_invoke hi.cinv h2) ?_ ?_ (Or.inl ?_) ?_ <;>
      obtain ⟨_, pc, rfl, hs⟩ := invoke_elim h2
    · exact Nat.le_refl _
    · exact fun _ _ => rfl
    · rfl
    · exact thr_cases (fun u hu => if_neg hu) (by rw [if_pos rfl]; cases hs <;> trivial) fun u _ => hi.sinv.data.wpos u
  | go _ h1 => exact inv_cmicro hi hz1 h1
  | gcStart b e _ h1 =>
    have hS := sinv_gcStart hi.sinv hz1 h1
    obtain ⟨hns, _, _, hzv, rfl, _⟩ := gcStart_elim h1
    exact ⟨sinv_tick hS, hinv_gc hi.hist rfl rfl rfl (fun _ => rfl)
      (fun _ _ hp => hp.imp_right fun ⟨_, _, hd, _⟩ => absurd hd.1 (by rw [hns]; nofun)), hi.alive, hi.noerr⟩
  | gcGo _ h1 =>
    have hf := gmicro_frame h1
    exact ⟨sinv_tick (sinv_gmicro hb hi.sinv hz1 h1),
      hinv_gc hi.hist hf.thr hf.hist hf.clock (gmicro_absReg hb hi.sinv hz1 h1)
        fun _ _ => pend_gmicro hi.sinv.ctl hi.sinv.chk hz1 h1,
      hf.fatal.trans hi.alive, hf.readErr.trans hi.noerr⟩
  | gcCancel =>
    exact ⟨sinv_tick (sinv_cancel hi.sinv), hinv_gc hi.hist rfl rfl rfl (fun _ => rfl) (fun _ _ hp => hp), hi.alive, hi.noerr⟩

end ConcGC
