/- C14 hint files: an item survives encode → decode; the sequential read of a region of encoded items returns them;
   the lookup scan finds what the sequential read reads.  All of it about a region `encAll items` of a file:
   `writeFile`, the header and the sparse index are left to the correspondence (Props/C14). -/
import GoBeans.Model.Hint
import GoBeans.Lemmas.GoBytes
namespace HintLemmas
open Hint
open Go (drop_next)

/-- every field fits the width `encItem` gives it -/
structure WF (it : Item) : Prop where
  khash : it.khash < 2^64
  chunk : it.chunk < 2^32
  off : it.off < 2^32
  ver : -2147483648 ≤ it.ver ∧ it.ver < 2147483648
  vhash : it.vhash < 2^16
  key : it.key.length < 256

theorem getN_le (n v : Nat) (rest : Bytes) (h : v < 256^n) : getN n (le n v ++ rest) = v :=
  Go.getLE_leBytes_of_lt h rest

theorem le_length (n v : Nat) : (le n v).length = n := Go.leBytes_length n v

theorem verU32_roundtrip (v : Int) (h : -2147483648 ≤ v ∧ v < 2147483648) :
    (Int32.ofNat (verU32 v)).toInt = v := by
  unfold verU32
  have h1 : (Int32.ofInt v).toInt = v := Int32.toInt_ofInt_of_le (by omega) (by omega)
  have h2 : Int32.ofNat (Int32.ofInt v).toUInt32.toNat = Int32.ofInt v := by
    apply Int32.toBitVec_inj.mp
    simp [Int32.ofNat]
    rfl
  rw [h2, h1]

theorem verU32_lt (v : Int) : verU32 v < 256^4 := by
  unfold verU32
  have := (Int32.ofInt v).toUInt32.toNat_lt
  omega

theorem getN_drop {l x : Bytes} {i n v : Nat} (h : l.drop i = le n v ++ x) (hv : v < 256^n) : getN n (l.drop i) = v := by
  rw [h, getN_le n v x hv]

theorem encItem_length (it : Item) : (encItem it).length = itemSize it := by
  simp only [encItem, List.length_append, le_length, List.length_singleton, itemSize]

theorem decItem_encItem (it : Item) (hw : WF it) (rest : Bytes) :
    decItem (encItem it ++ rest) = some (it, 23 + it.key.length) := by
  have hE : encItem it ++ rest = le 8 it.khash ++ (le 4 it.chunk ++ (le 4 it.off ++ (le 4 (verU32 it.ver) ++
      (le 2 it.vhash ++ ([it.key.length.toUInt8] ++ (it.key ++ rest)))))) := by
    simp only [encItem, List.append_assoc]
  have hlen : (encItem it ++ rest).length = 23 + it.key.length + rest.length := by
    rw [List.length_append, encItem_length, itemSize]
  generalize encItem it ++ rest = b at hE hlen
  -- what the reader finds at the offsets it looks at
  have d0 : b.drop 0 = _ := hE
  have d8 : b.drop 8 = _ := drop_next d0 (le_length 8 _)
  have d12 : b.drop 12 = _ := drop_next d8 (le_length 4 _)
  have d16 : b.drop 16 = _ := drop_next d12 (le_length 4 _)
  have d20 : b.drop 20 = _ := drop_next d16 (le_length 4 _)
  have d22 : b.drop 22 = _ := drop_next d20 (le_length 2 _)
  have d23 : b.drop 23 = _ := drop_next d22 (n := 1) rfl
  have hksz : (it.key.length.toUInt8).toNat = it.key.length := by
    simp [Nat.toUInt8, UInt8.toNat_ofNat']; have := hw.key; omega
  have e22 : b.getD 22 0 = it.key.length.toUInt8 := by
    rw [List.getD_eq_getElem?_getD, ← List.head?_drop, d22]; rfl
  unfold decItem
  rw [if_neg (by omega), e22, hksz, if_neg (by omega)]
  simp only []
  rw [show getN 8 b = it.khash from getN_drop d0 hw.khash, getN_drop d8 hw.chunk, getN_drop d12 hw.off,
    getN_drop d16 (verU32_lt _), getN_drop d20 hw.vhash, d23, verU32_roundtrip _ hw.ver, List.take_left' rfl]

def encAll (items : List Item) : Bytes := items.flatMap encItem
def sizeAll (items : List Item) : Nat := (items.map itemSize).sum

/-- The reader stops where its own counter `cnt` reaches the index offset; `cnt` need not be the file position `pos`
    (`Hint.readFrom`), so the index offset is given relative to it. -/
theorem readFrom_encAll (f : Bytes) (items : List Item) (hw : ∀ it ∈ items, WF it) (post : Bytes) (pos cnt fuel : Nat)
    (hd : f.drop pos = encAll items ++ post) (hf : items.length < fuel) :
    readFrom f (cnt + sizeAll items) fuel pos cnt = .ok items := by
  induction items generalizing pos cnt fuel with
  | nil => match fuel, hf with
    | n + 1, _ => simp [readFrom, sizeAll]
  | cons it rest ih => match fuel, hf with
    | n + 1, hf =>
      have hd' : f.drop pos = encItem it ++ (encAll rest ++ post) := by rw [hd]; simp [encAll]
      have hsz : sizeAll (it :: rest) = 23 + it.key.length + sizeAll rest := by simp [sizeAll, itemSize]
      rw [readFrom, if_neg (by omega), hd', decItem_encItem it (hw it (List.mem_cons_self ..))]
      simp only []
      rw [hsz, ← Nat.add_assoc, ih (fun x hx => hw x (List.mem_cons_of_mem _ hx)) (pos + (23 + it.key.length))
        (cnt + (23 + it.key.length)) n (drop_next hd' (encItem_length it)) (Nat.lt_of_succ_lt_succ hf)]

/-- in key-hash order, as `HintBuffer.Dump` and `merge` write the items -/
def SortedByHash : List Item → Prop
  | [] => True
  | it :: rest => (∀ x ∈ rest, it.khash ≤ x.khash) ∧ SortedByHash rest

theorem lookupFrom_of_readFrom {f : Bytes} {io fuel pos cnt : Nat} {items : List Item} (kh : Nat) (key : Bytes)
    (hr : readFrom f io fuel pos cnt = .ok items) (hs : SortedByHash items) :
    lookupFrom f io kh key fuel pos cnt = .ok (items.find? (fun it => it.khash == kh && it.key == key)) := by
  fun_induction readFrom f io fuel pos cnt generalizing items with
  | case1 => cases hr; rfl
  | case2 fuel pos cnt hc => cases hr; rw [lookupFrom, if_pos hc]; rfl
  | case3 => cases hr
  | case5 => cases hr
  | case4 fuel pos cnt hc it n hd rest hrec ih =>
    cases hr
    have hb : (it.khash == kh && it.key == key) = decide (it.khash = kh ∧ it.key = key) := by
      rw [Bool.eq_iff_iff]; simp
    rw [lookupFrom, if_neg hc, hd]
    simp only
    rw [ih hrec hs.2, List.find?_cons, hb]
    rcases Nat.lt_trichotomy it.khash kh with hlt | heq | hgt
    · rw [if_pos hlt, decide_eq_false (fun h => Nat.ne_of_lt hlt h.1)]
    · rw [if_neg (Nat.lt_irrefl _ <| heq ▸ ·), if_neg (Nat.lt_irrefl _ <| heq ▸ ·)]
      by_cases hk : it.key = key
      · rw [if_pos hk, decide_eq_true ⟨heq, hk⟩]
      · rw [if_neg hk, decide_eq_false (fun h => hk h.2)]
    · -- everything after `it` has a hash ≥ it.khash > kh
      have hnone : rest.find? (fun x => x.khash == kh && x.key == key) = none :=
        List.find?_eq_none.mpr fun x hx h => by have := hs.1 x hx; simp at h; omega
      rw [if_neg (Nat.lt_asymm hgt), if_pos hgt, decide_eq_false (fun h => Nat.ne_of_gt hgt h.1), hnone]
end HintLemmas
