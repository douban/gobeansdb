/-
  Restarts, the whole hint manager: the invariant `HsG` of both restart towers, and what a write, the dumper's round and
  `hints.close` leave of it (`Kept`: `exact_append`, `exact_dumpAll`, `exact_trydumpFold`).  The coverage `DsFull` of the
  data files stands beside `HsG`, since it needs the file sizes.
-/
import GoBeans.Lemmas.CollideExact
import GoBeans.Lemmas.Layout
namespace CollideLemmas
open Store Spec HintIndex Collide HintBufferLemmas HintLoadLemmas HintIndexLemmas StoreLemmas

section
variable (hash : Key → Nat)

/-- the hint manager describes the data files `V` (write-path buffers) -/
def HsI (V : Nat → FileRecs) (hs : Hints) : Prop := ∀ c, CkI hash false (V c) (V c) [] (hs.chunks c)

def Vpush (V : Nat → FileRecs) (c : Nat) (p : Nat × Rec) : Nat → FileRecs := fun j => if j = c then V c ++ [p] else V j

theorem hsI_setCk {V V' : Nat → FileRecs} {hs : Hints} (h : HsI hash V hs) (c : Nat) {ck : HCk} (hV : ∀ j, j ≠ c → V' j = V j)
    (hck : CkI hash false (V' c) (V' c) [] ck) : HsI hash V' (hs.setCk c ck) :=
  setCk_forall (P := fun j ck => CkI hash false (V' j) (V' j) [] ck) c (fun j hj => hV j hj ▸ h j) hck

theorem fileOfBuf_nonempty {b : Buf} (h : b.items ≠ []) : fileOfBuf b = some b.dump := by
  unfold fileOfBuf; rw [if_neg (by simpa using h)]

theorem hsI_trydump {V : Nat → FileRecs} {hs : Hints} (h : HsI hash V hs) (c : Nat) (dl : Bool) : HsI hash V (hs.trydump c dl) := by
  intro j
  rw [trydump_eq]
  split
  · next hd =>
    exact hsI_setCk hash h c (fun _ _ => rfl) (ckI_close hash false (ck := { hs.chunks c with old := (hs.chunks c).old.map dumpIf })
      (mkSplit _) ((vfile_filesplit _).trans (fileOfBuf_nonempty (dumpsLast_nonempty hd)).symm) (ckI_dumpOld hash (h c))) j
  · exact hsI_setCk hash h c (fun _ _ => rfl) (ckI_dumpOld hash (h c)) j

theorem hsI_setItem {V : Nat → FileRecs} {hs : Hints} (h : HsI hash V hs) (cap : Nat) (hcap : 1 ≤ cap) (c : Nat) (p : Nat × Rec)
    (hp : ∀ x ∈ V c, x.1 + x.2.size ≤ p.1) (hps : 0 < p.2.size) :
    HsI hash (Vpush V c p) (hs.setItem cap (mkItem hash false p) c p.2.size).1 := by
  have h1 : HsI hash (Vpush V c p) (hs.setCk c ((hs.chunks c).setItem cap (mkItem hash false p) p.2.size).1) := by
    refine hsI_setCk hash h c (fun j hj => if_neg hj) ?_
    unfold Vpush
    rw [if_pos rfl]
    exact ckI_setItem hash cap hcap p (by simp) hps (by simp) (ckI_grow hash p hp (h c))
  unfold Hints.setItem
  simp only
  intro j
  split
  · exact hsI_trydump hash h1 c false j
  · exact h1 j

theorem hsI_dumpAll {V : Nat → FileRecs} (n : Nat) {hs : Hints} (h : HsI hash V hs) : HsI hash V (hs.dumpAll n) :=
  trydumpFold_ind false (fun _ hs' => HsI hash V hs') h (fun n _ ih => hsI_trydump hash ih n false) n

theorem hsI_closeAll {V : Nat → FileRecs} (n : Nat) {hs : Hints} (h : HsI hash V hs) : HsI hash V (closeAll hs n) :=
  trydumpFold_ind true (fun _ hs' => HsI hash V hs') h (fun n _ ih => hsI_trydump hash ih n true) n

/-- `le`: `hints.close` goes over the chunks up to `maxChunkID` only, so nothing unwritten may lie above it; `mdb`: after a
    restart with the tree dump `close` writes (id `maxDumpedHintID`) the hint loop must find no split behind that id -/
structure HsG (V : Nat → FileRecs) (hs : Hints) : Prop where
  ck : HsI hash V hs
  oldf : ∀ c, OldF (hs.chunks c)
  le : ∀ c, hs.maxChunk < c → (hs.chunks c).last.items = []
  mdb : ∀ c j, j < (hs.chunks c).old.length → idLe c j hs.maxDumped

theorem hsG_congr {V : Nat → FileRecs} {hs hs' : Hints} (hch : hs'.chunks = hs.chunks) (hmc : hs'.maxChunk = hs.maxChunk)
    (hmd : hs'.maxDumped = hs.maxDumped) (g : HsG hash V hs) : HsG hash V hs' := by
  obtain ⟨ch', mc', md', mg'⟩ := hs'
  obtain ⟨ch, mc, md, mg⟩ := hs
  simp only at hch hmc hmd
  subst hch hmc hmd
  exact ⟨g.ck, g.oldf, g.le, g.mdb⟩

theorem hsG_empty {V : Nat → FileRecs} (hV : ∀ c, V c = []) (md : Nat × Int) : HsG hash V { maxDumped := md } :=
  ⟨fun c => by rw [hV c]; exact ckI_empty hash false [], fun c sp hsp => (by cases hsp), fun c _ => rfl, fun c j hj => (by cases hj)⟩

theorem HsG.good {V : Nat → FileRecs} {hs : Hints} (g : HsG hash V hs) (c : Nat) : CkGood (hs.chunks c) :=
  ckGood_of hash (g.ck c) (g.oldf c)

theorem oldF_snoc {ck : HCk} (h : OldF ck) (f : SplitFile) (last : Buf) : OldF { old := ck.old ++ [mkSplit f], last := last } := by
  intro sp hsp
  rcases List.mem_append.mp hsp with h' | h'
  · exact h sp h'
  · rw [List.mem_singleton.mp h']; exact ⟨rfl, _, rfl⟩

theorem setItem_maxChunk (cap : Nat) (hs : Hints) (it : Item) (c sz : Nat) :
    (hs.setItem cap it c sz).1.maxChunk = (if c > hs.maxChunk then c else hs.maxChunk) ∧ (hs.setItem cap it c sz).1.merged = hs.merged := by
  unfold Hints.setItem
  simp only
  split
  · rw [(trydump_maxChunk _ c false).1, (trydump_maxChunk _ c false).2]; exact ⟨rfl, rfl⟩
  · exact ⟨rfl, rfl⟩

/-- `maxDumpedHintID` is unchanged or names a data file that holds records -/
def MdTop (V : Nat → FileRecs) (hs hs' : Hints) : Prop := hs'.maxDumped = hs.maxDumped ∨ V hs'.maxDumped.1 ≠ []

theorem mdTop_of_file {V : Nat → FileRecs} {hs hs' : Hints} {c : Nat} (hV : V c ≠ [])
    (h : hs'.maxDumped = hs.maxDumped ∨ hs'.maxDumped.1 = c) : MdTop V hs hs' :=
  h.imp id fun e => by rw [e]; exact hV

theorem mdTop_trans {V : Nat → FileRecs} {a b c : Hints} (h1 : MdTop V a b) (h2 : MdTop V b c) : MdTop V a c := by
  rcases h2 with h2 | h2
  · rcases h1 with h1 | h1
    · exact Or.inl (by rw [h2, h1])
    · exact Or.inr (by rw [h2]; exact h1)
  · exact Or.inr h2

/-- `hs'`: the hint manager `hs` after a write, a dumper's round or `hints.close`, against the data files as they are
    afterwards (records `V`, sizes `size`) -/
structure Kept (V : Nat → FileRecs) (size : Nat → Nat) (hs hs' : Hints) : Prop where
  hg : HsG hash V hs'
  dsf : ∀ c, DsFull (hs'.chunks c) (size c)
  mono : MdMono hs hs'
  top : MdTop V hs hs'
  merged : hs'.merged = hs.merged

theorem Kept.trans {V : Nat → FileRecs} {size : Nat → Nat} {a b c : Hints} (h1 : Kept hash V size a b) (h2 : Kept hash V size b c) :
    Kept hash V size a c :=
  ⟨h2.hg, h2.dsf, mdMono_trans h1.mono h2.mono, mdTop_trans h1.top h2.top, h2.merged.trans h1.merged⟩

theorem kept_setItem {V : Nat → FileRecs} {size : Nat → Nat} {hs : Hints} (g : HsG hash V hs) (dsf : ∀ j, DsFull (hs.chunks j) (size j))
    (cap : Nat) (hcap : 1 ≤ cap) (c : Nat) (p : Nat × Rec) (hp : ∀ x ∈ V c, x.1 + x.2.size ≤ p.1) (hps : 0 < p.2.size) :
    Kept hash (Vpush V c p) (fun j => if j = c then p.1 + p.2.size else size j) hs (hs.setItem cap (mkItem hash false p) c p.2.size).1 := by
  have gd := g.good hash c
  have hmc := setItem_maxChunk cap hs (mkItem hash false p) c p.2.size
  have hVc : Vpush V c p c ≠ [] := by unfold Vpush; rw [if_pos rfl]; simp
  -- what is left once chunk `c` and `maxDumpedHintID` after the operation are known
  have fin : ∀ hs', hs' = (hs.setItem cap (mkItem hash false p) c p.2.size).1 → (∀ j, j ≠ c → hs'.chunks j = hs.chunks j) →
      OldF (hs'.chunks c) → (∀ i, i < (hs'.chunks c).old.length → idLe c i hs'.maxDumped) → MdMono hs hs' →
      (hs'.maxDumped = hs.maxDumped ∨ hs'.maxDumped.1 = c) →
      Kept hash (Vpush V c p) (fun j => if j = c then p.1 + p.2.size else size j) hs hs' := by
    intro hs' e e2 hold hmdb hmono htop
    subst e
    refine ⟨⟨hsI_setItem hash g.ck cap hcap c p hp hps, fun j => ?_, fun j hj => ?_, fun j i hi => ?_⟩, fun j => ?_, hmono,
      mdTop_of_file hVc htop, hmc.2⟩
    · by_cases hj : j = c
      · rw [hj]; exact hold
      · rw [e2 j hj]; exact g.oldf j
    · rw [hmc.1] at hj
      have hjc : j ≠ c := by intro e; subst e; split at hj <;> omega
      rw [e2 j hjc]
      exact g.le j (by split at hj <;> omega)
    · by_cases hj : j = c
      · subst hj; exact hmdb i hi
      · rw [e2 j hj] at hi; exact hmono _ (g.mdb j i hi)
    · show DsFull _ (if j = c then p.1 + p.2.size else size j)
      by_cases hj : j = c
      · rw [if_pos hj, hj]
        exact setItem_covers cap hcap hs (mkItem hash false p) c p.2.size gd (ckI_ds_le hash (g.ck c) p.1 hp).2
      · rw [if_neg hj, e2 j hj]; exact dsf j
  by_cases ha : ((hs.chunks c).last.set cap (mkItem hash false p) p.2.size).2 = true
  · obtain ⟨e1, e2, e3⟩ := setItem_accepted_form cap hs (mkItem hash false p) c p.2.size ha
    exact fin _ rfl e2 (by rw [e1]; exact g.oldf c) (fun i hi => by rw [e3]; rw [e1] at hi; exact g.mdb c i hi) (fun a h => by rw [e3]; exact h)
      (Or.inl e3)
  · have ha' : ((hs.chunks c).last.set cap (mkItem hash false p) p.2.size).2 = false := (Bool.not_eq_true _).mp ha
    obtain ⟨e1, e2, e3⟩ := setItem_refused_form cap hcap hs (mkItem hash false p) c p.2.size gd ha'
    -- one split is written, or two: `maxDumpedHintID` takes their ids
    by_cases hcond : c = hs.maxChunk
    · rw [if_pos hcond] at e1 e3
      refine fin _ rfl e2 (by rw [e1]; exact oldF_snoc (g.oldf c) _ _) (fun i hi => ?_) (fun a h => by rw [e3]; exact isLarger_setIfLarger a _ _ _ h)
        (by rw [e3]; exact setIfLarger_or _ _ _)
      rw [e1] at hi; rw [e3]
      exact idLe_snoc (g.mdb c) i (by simpa using hi)
    · rw [if_neg hcond] at e1 e3
      refine fin _ rfl e2 (by rw [e1]; exact oldF_snoc (oldF_snoc (g.oldf c) _ {}) _ _) (fun i hi => ?_)
        (fun a h => by rw [e3]; exact isLarger_setIfLarger a _ _ _ (isLarger_setIfLarger a _ _ _ h)) ?_
      · rw [e1] at hi; rw [e3]
        exact idLe_snoc (idLe_snoc (g.mdb c)) i (by simpa using hi)
      · rw [e3]
        rcases setIfLarger_or (setIfLarger hs.maxDumped c ((hs.chunks c).old.length : Nat)) c (((hs.chunks c).old.length + 1 : Nat) : Int) with h | h
        · rw [h]; exact setIfLarger_or _ _ _
        · exact Or.inr h

/-- the step of `trydump` that changes something (`trydump_cases`) -/
theorem kept_dumpLast {V : Nat → FileRecs} {size : Nat → Nat} {hs : Hints} (g : HsG hash V hs) (dsf : ∀ j, DsFull (hs.chunks j) (size j))
    (c : Nat) (hne : (hs.chunks c).last.items ≠ []) :
    Kept hash V size hs { hs.setCk c { old := (hs.chunks c).old ++ [mkSplit (hs.chunks c).last.dump], last := {} } with
                          maxDumped := setIfLarger hs.maxDumped c (hs.chunks c).old.length } := by
  refine ⟨⟨?_, ?_, ?_, ?_⟩, ?_, fun a ha => isLarger_setIfLarger a _ _ _ ha,
    mdTop_of_file (ckI_recs_of_last hash (g.ck c) hne) (setIfLarger_or _ _ _), rfl⟩
  · exact hsI_setCk hash g.ck c (fun _ _ => rfl)
      (ckI_close hash false (mkSplit _) ((vfile_filesplit _).trans (fileOfBuf_nonempty hne).symm) (g.ck c))
  · exact setCk_forall c (fun j _ => g.oldf j) (oldF_snoc (g.oldf c) _ _)
  · exact setCk_forall (P := fun j ck => hs.maxChunk < j → ck.last.items = []) c (fun j _ => g.le j) (fun _ => rfl)
  · exact setCk_forall (P := fun j ck => ∀ i, i < ck.old.length → idLe j i (setIfLarger hs.maxDumped c (hs.chunks c).old.length)) c
      (fun j _ i hi => isLarger_setIfLarger _ _ _ _ (g.mdb j i hi)) (fun i hi => idLe_snoc (g.mdb c) i (by simpa using hi))
  · exact setCk_forall (P := fun j ck => DsFull ck (size j)) c (fun j _ => dsf j)
      (fun hsz => Or.inl (files_snoc_ex.mpr ((dsf c hsz).imp id And.right)))

theorem exact_trydumpFold {V : Nat → FileRecs} {size : Nat → Nat} (dl : Bool) (n : Nat) {hs : Hints} (g : HsG hash V hs)
    (dsf : ∀ c, DsFull (hs.chunks c) (size c)) :
    Kept hash V size hs ((List.range n).foldl (fun hs i => hs.trydump i dl) hs)
    ∧ (dl = true → ∀ j, (j < n ∨ (hs.chunks j).last.items = []) →
        (((List.range n).foldl (fun hs i => hs.trydump i dl) hs).chunks j).last.items = []) := by
  refine trydumpFold_ind dl
    (fun n hs' => Kept hash V size hs hs' ∧ (dl = true → ∀ j, (j < n ∨ (hs.chunks j).last.items = []) → (hs'.chunks j).last.items = []))
    ⟨⟨g, dsf, mdMono_refl hs, Or.inl rfl, rfl⟩, fun _ j h => h.elim (fun h => absurd h (Nat.not_lt_zero j)) id⟩ ?_ n
  intro n hs' ⟨k, ihe⟩
  rcases trydump_cases hs' n dl (k.hg.good hash n) with ⟨e, he⟩ | ⟨hne, e⟩ <;> rw [e]
  · refine ⟨k, fun hdl j hj => ?_⟩
    by_cases hjn : j = n
    · rw [hjn]; exact he hdl
    · exact ihe hdl j (hj.imp (fun h => by omega) id)
  · refine ⟨k.trans hash (kept_dumpLast hash k.hg k.dsf n hne), fun hdl => ?_⟩
    exact setCk_forall (P := fun j ck => (j < n + 1 ∨ (hs.chunks j).last.items = []) → ck.last.items = []) n
      (fun j hjn hj => ihe hdl j (hj.imp (fun h => by omega) id)) (fun _ => rfl)

theorem exact_dumpAll (n : Nat) {V : Nat → FileRecs} {size : Nat → Nat} {hs : Hints} (hg : HsG hash V hs)
    (dsf : ∀ c, DsFull (hs.chunks c) (size c)) :
    Kept hash V size hs (hs.dumpAll n) ∧ (hs.dumpAll n).maxChunk = hs.maxChunk :=
  ⟨(exact_trydumpFold hash false n hg dsf).1, (trydumpFold_maxChunk false n hs).1⟩

/-- a write as a whole: `Bucket.append`, then `hintMgr.setItem` in the hint chunk of the record's file -/
theorem exact_append (cfg : Store.Cfg) (cap : Nat) (hcap : 1 ≤ cap) {b : Bucket} {hs : Hints}
    (hg : HsG hash (fun c => (b.chunks c).recs) hs) (dsf : ∀ c, DsFull (hs.chunks c) (b.chunks c).size)
    (l : Lay b) (r : Rec) (hsz : 0 < r.size) :
    Kept hash (fun c => ((b.append cfg r).1.chunks c).recs) (fun c => ((b.append cfg r).1.chunks c).size) hs
        (hs.setItem cap (mkItem hash false ((b.append cfg r).2.off, r)) (b.append cfg r).2.chunk r.size).1
    ∧ (hs.setItem cap (mkItem hash false ((b.append cfg r).2.off, r)) (b.append cfg r).2.chunk r.size).1.maxChunk
        = if (b.append cfg r).2.chunk > hs.maxChunk then (b.append cfg r).2.chunk else hs.maxChunk := by
  obtain ⟨a1, a2, _, _, a5, _⟩ := append_chunks cfg b r l.posInv
  have z := append_size cfg b r l.posInv
  generalize b.append cfg r = A at *
  obtain ⟨b1, pos⟩ := A
  simp only at a1 a2 a5 z ⊢
  have hV : (fun c => (b1.chunks c).recs) = Vpush (fun c => (b.chunks c).recs) pos.chunk (pos.off, r) := by
    funext c
    unfold Vpush
    by_cases hc : c = pos.chunk
    · rw [if_pos hc, hc]; exact a1
    · rw [if_neg hc]; exact a2 c hc
  rw [hV, funext z]
  exact ⟨kept_setItem hash hg dsf cap hcap pos.chunk (pos.off, r) (by rw [a5]; exact fun x hx => (okFrom_mem (l.ok _) x hx).2.1) hsz,
    (setItem_maxChunk cap hs _ pos.chunk r.size).1⟩

end
end CollideLemmas
