/-
  Reply round trip (C11), `Response.Read` ∘ `Response.Write`: what the theorems of ProtoResp{Read,Wire,Serve}.lean rest on.
-/
import GoBeans.Lemmas.ProtoRespServe

open Proto

#print axioms readResp_values
#print axioms readResp_wire_value
#print axioms readResp_wire_value_nodup
#print axioms readResp_wire_value_lit
#print axioms wire_value_lit
#print axioms readResp_wire_line_end
#print axioms readResp_wire_line_msg
#print axioms readResp_wire_num
#print axioms readResp_wire_stat
#print axioms processStats_statSegs
#print axioms readResp_wire_none_refused
#print axioms readResp_wire_stat_refused
#print axioms clientGet_good
#print axioms clientGet_err_words
#print axioms lookedUp_spec
#print axioms serveOnce_get
#print axioms serveOnce_get_roundtrip
#print axioms serveOnce_get_one_lit
#print axioms readResp_wire_line
#print axioms server_messages_words
