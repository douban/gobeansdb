/-
  GC beside clients: every GC micro-step preserves the chunk part `GChk` of the invariant (`chk_gmicro`).  A rule of
  `GStep` rewrites no chunk (`chk_gc`; `chk_same` when source and destination stay as well) or one chunk (`chk_upd`); that
  the files the pass has emptied stay empty is proved apart (`gmicro_dead`).
-/
import GoBeans.Lemmas.ConcGCBase

namespace ConcGC
open ConcFine

theorem Dead_def (s : State) (c : Nat) : Dead s c ↔
    (s.gc.started = true ∧ s.gc.gbegin ≤ c ∧ (c < s.gc.src ∨ (c = s.gc.src ∧ s.gc.pc = .gFileDone))) := Iff.rfl

theorem dead_step {cfg : GCfg} {s s' : State} (hc : GCtl s) (h : gmicro cfg s = some s') {c : Nat} (hd : Dead s' c) :
    Dead s c ∨ (c = s.gc.src ∧ (s.gc.pc = .gRemove ∨ (s.gc.pc = .gFile ∧ (s.base.chunks s.gc.src).size = 0))) := by
  have hf := gmicro_frame h
  obtain ⟨d1, d2, d3⟩ := hd
  rw [hf.started] at d1; rw [hf.gbegin] at d2
  have hs := gmicro_elim h
  generalize hpc : s.gc.pc = pc at hs
  have keep : s'.gc.src = s.gc.src → s'.gc.pc ≠ .gFileDone → Dead s c ∨
      (c = s.gc.src ∧ (pc = .gRemove ∨ (pc = .gFile ∧ (s.base.chunks s.gc.src).size = 0))) :=
    fun e1 e2 => .inl ⟨d1, d2, d3.imp (e1 ▸ ·) fun h => absurd h.2 e2⟩
  cases hs with
  | tailKeep | tailCut => exact absurd hpc hc.notail
  | fileSkip _ hsz =>
    rcases d3 with d3 | ⟨_, d4⟩
    · by_cases hcs : c = s.gc.src
      · exact .inr ⟨hcs, .inr ⟨rfl, hsz⟩⟩
      · exact .inl ⟨d1, d2, .inl (by have : c < s.gc.src + 1 := d3; omega)⟩
    · cases d4
  | fileDone =>
    rcases d3 with d3 | ⟨_, d4⟩
    · by_cases hcs : c = s.gc.src
      · exact .inl ⟨d1, d2, .inr ⟨hcs, hpc⟩⟩
      · exact .inl ⟨d1, d2, .inl (by have : c < s.gc.src + 1 := d3; omega)⟩
    · cases d4
  | remove => exact d3.elim (fun d3 => .inl ⟨d1, d2, .inl d3⟩) fun d3 => .inr ⟨d3.1, .inl rfl⟩
  | begin | reopen => exact keep (beginW_frame ..).src (by rw [beginW_pc]; nofun)
  | close | final => exact keep (endW_frame s).src nofun
  | check r f pc' _ hpc' => exact keep rfl (by rcases hpc' with rfl | rfl <;> nofun)
  | flush r f off => exact keep rfl (by cases f <;> nofun)
  | _ => exact keep rfl nofun

theorem gmicro_src {cfg : GCfg} {s s' : State} (h : gmicro cfg s = some s') :
    (s'.gc.src = s.gc.src ∧ s.gc.pc ≠ .gFileDone) ∨ s'.gc.src = s.gc.src + 1 := by
  have hs := gmicro_elim h
  generalize hpc : s.gc.pc = pc at hs
  cases hs with
  | fileSkip | fileDone => exact Or.inr rfl
  | begin | reopen => exact Or.inl ⟨(beginW_frame ..).src, nofun⟩
  | close | final => exact Or.inl ⟨(endW_frame s).src, nofun⟩
  | _ => exact Or.inl ⟨rfl, nofun⟩

theorem gmicro_dead_mono {cfg : GCfg} {s s' : State} (h : gmicro cfg s = some s') (c : Nat) (hd : Dead s c) : Dead s' c := by
  obtain ⟨d1, d2, d3⟩ := hd
  have hf := gmicro_frame h
  refine ⟨by rw [hf.started]; exact d1, by rw [hf.gbegin]; exact d2, Or.inl ?_⟩
  rcases gmicro_src h with ⟨e, hne⟩ | e <;> rw [e]
  · rcases d3 with d3 | ⟨_, d4⟩
    · exact d3
    · exact absurd d4 hne
  · rcases d3 with d3 | ⟨d3, _⟩ <;> omega

theorem gmicro_remove_dead {cfg : GCfg} {s s' : State} (hc : GCtl s) (h : gmicro cfg s = some s')
    (hpc : s.gc.pc = .gRemove) : Dead s' s.gc.src := by
  have hst := gmicro_started hc h
  have hs := gmicro_elim h
  rw [hpc] at hs; cases hs
  exact ⟨hst, (hc.src hst).1, Or.inr ⟨rfl, rfl⟩⟩

/-- a dead chunk is touched by no step, `Clear` removes the file, a chunk skipped for `size = 0` has an empty file -/
theorem gmicro_dead {cfg : GCfg} {s s' : State} (hc : GCtl s) (hk : GChk s) (hz : noHaz s') (h : gmicro cfg s = some s') :
    ∀ c, Dead s' c → (s'.base.chunks c).file = [] := by
  intro c hd
  have hst := gmicro_started hc h
  have hdst := (gmicro_elim_nohaz hc hz h).1
  have hf := gmicro_frame h
  have hx : X s c := (X_congr hf.started hf.gend c).1 (dead_X (ctl_gmicro hc hz h) hd)
  rcases dead_step hc h hd with hd0 | ⟨rfl, hp | ⟨hp, hsz⟩⟩
  · rw [gmicro_other_chunks h (by have := hd0.2.1; omega) ?_]
    · exact hk.dead c hd0
    · rintro (e | e) rfl <;> rcases hd0.2.2 with d | ⟨_, d⟩ <;>
        first | exact Nat.lt_irrefl _ d | (rw [e] at d; cases d)
  · have hs := gmicro_elim h
    rw [hp] at hs; cases hs
    exact congrArg Chunk.file (setChunk_same s _ _)
  · rw [gmicro_other_chunks h (by have := (hc.src hst).1; omega) (by rw [hp]; rintro (e | e) <;> cases e)]
    have c1 := hk.cold _ hx
    have c2 := hk.whf _ hx (by simp [hp])
    simp only [pendC, hp] at c2
    have c3 := c1.1.cfile
    rw [show (s.base.chunks s.gc.src).fsize = 0 by omega] at c3
    exact contig_zero _ _ c3

theorem chk_gc {s s' : State} (hk : GChk s) (hb : s'.base.chunks = s.base.chunks)
    (h1 : s'.gc.started = s.gc.started) (h2 : s'.gc.gend = s.gc.gend)
    (hpend : ∀ c, pendC s'.gc c = pendC s.gc c) (hnr : s.gc.pc ≠ .gRemove) (hnr' : s'.gc.pc ≠ .gRemove)
    (hdead : ∀ c, Dead s' c → (s'.base.chunks c).file = [])
    (hwop : openPC s'.gc.pc = true → s'.gc.wopen = true ∧ s'.gc.wpos = (s.base.chunks s'.gc.dst).fsize)
    (hoff : ∀ o, curOff s'.gc.pc = some o → o + pendC s'.gc s'.gc.dst = (s.base.chunks s'.gc.dst).writingHead)
    (hrem : ∀ r ∈ rem s'.gc, r ∈ (s.base.chunks s'.gc.src).file)
    (hmv : ∀ r o, s'.gc.pc = .gMove r o → ({ r with off := o } : Rec) ∈ (s.base.chunks s'.gc.dst).file) : GChk s' := by
  have hX := X_congr h1 h2
  refine ⟨?_, ?_, ?_, ?_, ?_, ?_, ?_, ?_⟩
  · intro c hx; rw [hb]; exact hk.cold c ((hX c).1 hx)
  · intro c hx _
    rw [hb, hpend]
    exact hk.whf c ((hX c).1 hx) (fun hh => hnr hh.2)
  · intro hh; exact absurd hh hnr'
  · exact hdead
  · rw [hb]; exact hwop
  · rw [hb]; exact hoff
  · rw [hb]; exact hrem
  · rw [hb]; exact hmv

theorem chk_same {s s' : State} (hk : GChk s) (hb : s'.base.chunks = s.base.chunks)
    (h1 : s'.gc.started = s.gc.started) (h2 : s'.gc.gend = s.gc.gend) (h3 : s'.gc.gbegin = s.gc.gbegin)
    (hsrc : s'.gc.src = s.gc.src) (hdst : s'.gc.dst = s.gc.dst)
    (hpend : ∀ c, pendC s'.gc c = pendC s.gc c) (hnr : s.gc.pc ≠ .gRemove) (hnr' : s'.gc.pc ≠ .gRemove)
    (hfd : s'.gc.pc = .gFileDone → s.gc.pc = .gFileDone)
    (hw : openPC s'.gc.pc = true → openPC s.gc.pc = true ∧ s'.gc.wopen = s.gc.wopen ∧ s'.gc.wpos = s.gc.wpos)
    (hco : ∀ o, curOff s'.gc.pc = some o → curOff s.gc.pc = some o)
    (hrem : ∀ r ∈ rem s'.gc, r ∈ rem s.gc)
    (hmv : ∀ r o, s'.gc.pc = .gMove r o → s.gc.pc = .gMove r o) : GChk s' :=
  chk_gc hk hb h1 h2 hpend hnr hnr'
    (fun c ⟨d1, d2, d3⟩ => hb ▸ hk.dead c ⟨h1 ▸ d1, h3 ▸ d2, hsrc ▸ d3.imp_right fun d => ⟨d.1, hfd d.2⟩⟩)
    (fun ho => by obtain ⟨a, b, c⟩ := hw ho; rw [b, c, hdst]; exact hk.wop a)
    (fun o ho => by rw [hdst, hpend]; exact hk.off o (hco o ho))
    (fun r hr => by rw [hsrc]; exact hk.remIn r (hrem r hr))
    (fun r o hp => by rw [hdst]; exact hk.mv r o (hmv r o hp))

/-- a step that rewrites ONE chunk `c₀`; `hg`: of the GC thread's locals only the program counter and the gc writer change -/
theorem chk_upd {s : State} (hk : GChk s) (c₀ : Nat) (ch' : Chunk) (g' : GC)
    (hg : g' = { s.gc with pc := g'.pc, wopen := g'.wopen, wpos := g'.wpos, gbuf := g'.gbuf })
    (hcold : ColdOK ch' ∧ ch'.size = ch'.writingHead)
    (hpend : ∀ c, c ≠ c₀ → pendC g' c = pendC s.gc c)
    (hwhf : ¬ (c₀ = s.gc.src ∧ g'.pc = .gRemove) → ch'.writingHead = ch'.fsize + pendC g' c₀)
    (hrm : s.gc.pc = .gRemove → c₀ = s.gc.src)
    (hclr : g'.pc = .gRemove → c₀ = s.gc.src ∧ ch'.writingHead = 0)
    (hdead : ∀ c, Dead { s with base := s.base.setChunk c₀ ch', gc := g' } c → (if c = c₀ then ch' else s.base.chunks c).file = [])
    (hwop : openPC g'.pc = true →
      g'.wopen = true ∧ g'.wpos = (if s.gc.dst = c₀ then ch' else s.base.chunks s.gc.dst).fsize)
    (hoff : ∀ o, curOff g'.pc = some o →
      o + pendC g' s.gc.dst = (if s.gc.dst = c₀ then ch' else s.base.chunks s.gc.dst).writingHead)
    (hrem : ∀ r ∈ rem g', r ∈ (if s.gc.src = c₀ then ch' else s.base.chunks s.gc.src).file)
    (hmv : ∀ r o, g'.pc = .gMove r o →
      ({ r with off := o } : Rec) ∈ (if s.gc.dst = c₀ then ch' else s.base.chunks s.gc.dst).file) :
    GChk { s with base := s.base.setChunk c₀ ch', gc := g' } := by
  have e1 : g'.started = s.gc.started := by rw [hg]
  have e2 : g'.gend = s.gc.gend := by rw [hg]
  have e4 : g'.src = s.gc.src := by rw [hg]
  have e5 : g'.dst = s.gc.dst := by rw [hg]
  have hX : ∀ c, X { s with base := s.base.setChunk c₀ ch', gc := g' } c ↔ X s c := X_congr e1 e2
  have hch : ∀ c, (s.base.setChunk c₀ ch').chunks c = if c = c₀ then ch' else s.base.chunks c := fun _ => rfl
  refine ⟨fun c hx => ?_, fun c hx hne => ?_, fun hp => ?_, fun c hd => ?_, ?_, ?_, ?_, ?_⟩ <;> simp only [hch, e4, e5]
  · split
    · exact hcold
    · exact hk.cold c ((hX c).1 hx)
  · simp only [e4] at hne
    split
    · rename_i e; subst e; exact hwhf hne
    · rename_i e; rw [hpend c e]; exact hk.whf c ((hX c).1 hx) (fun hh => e (hh.1.trans (hrm hh.2).symm))
  · rw [if_pos (hclr hp).1.symm]; exact (hclr hp).2
  · exact hdead c hd
  · exact hwop
  · exact hoff
  · exact hrem
  · exact hmv

/-- at `gFlush` the offset handed out, the length of the destination file and the gc writer's position are one number -/
theorem flush_append {s : State} (hk : GChk s) (hxd : X s s.gc.dst) {r : Rec} {f : Bool} {off : Nat}
    (hpc : s.gc.pc = .gFlush r f off) :
    (s.base.chunks s.gc.dst).writingHead = (s.base.chunks s.gc.dst).fsize + r.size ∧ off = (s.base.chunks s.gc.dst).fsize ∧
    writeAt (s.base.chunks s.gc.dst) s.gc.wpos r = { s.base.chunks s.gc.dst with
      file := (s.base.chunks s.gc.dst).file ++ [{ r with off := off }], fsize := (s.base.chunks s.gc.dst).fsize + r.size } := by
  have w1 := hk.whf _ hxd (by simp [hpc])
  have o1 := hk.off off (by rw [hpc]; rfl)
  simp only [pendC, hpc, if_true] at w1 o1
  have hoff : off = (s.base.chunks s.gc.dst).fsize := by omega
  rw [(hk.wop (by rw [hpc]; rfl)).2, writeAt_end _ _ (hk.cold _ hxd).1.cfile, hoff]
  exact ⟨w1, rfl, rfl⟩

local macro "same_auto" hk:ident hpc:ident : tactic => `(tactic| (
  refine chk_same $hk rfl rfl rfl rfl rfl rfl ?_ ?_ ?_ ?_ ?_ ?_ ?_ ?_ <;>
    (simp [State.gcGoto, pendC, openPC, curOff, rem, $hpc:ident] <;> try (intro a ha; exact Or.inr ha))))

theorem chk_gmicro {cfg : GCfg} {s s' : State} (hc : GCtl s) (hk : GChk s) (hz : noHaz s')
    (h : gmicro cfg s = some s') : GChk s' := by
  have hst := gmicro_started hc h
  obtain ⟨hd, hsd, hs⟩ := gmicro_elim_nohaz hc hz h
  have hxd := hc.X_dst hst
  have hdead := gmicro_dead hc hk hz h
  generalize hpc : s.gc.pc = pc at hs
  cases hs with
  | tailKeep | tailCut => exact absurd hpc hc.notail
  | nextTail _ he => exact absurd he hsd
  | begin | reopen =>
    have c1 := hk.cold _ hxd
    have w1 := hk.whf _ hxd (by simp [hpc])
    refine chk_upd hk s.gc.dst _ _ rfl ⟨⟨c1.1.nobuf, c1.1.cfile⟩, rfl⟩ (fun c _ => by simp [pendC, hpc]) (fun _ => ?_) (by simp [hpc])
      nofun hdead (fun _ => ⟨rfl, by simp⟩) nofun ?_ nofun
    · simp only [pendC, hpc] at w1 ⊢
      omega
    · -- the program counter goes from `gBegin` to `gFile`, from `gBeginW r f` to `gHead r f`: `rem` is the same
      intro r' hr
      simp only [hsd, if_false]
      refine hk.remIn r' ?_
      simp only [rem, hpc] at hr ⊢
      exact hr
  | fileCancel | fileEnd | fileOpen => same_auto hk hpc
  | fileSkip | fileDone =>
    refine chk_gc hk rfl rfl rfl (fun c => by simp [pendC, hpc]) (by simp [hpc]) (by simp) hdead
      (fun _ => hk.wop (by rw [hpc]; rfl)) ?_ ?_ ?_
    · intro o ho; simp [curOff] at ho
    · intro r hr; simp [rem] at hr
    · intro r o hp; simp at hp
  | «open» =>
    refine chk_gc hk rfl rfl rfl (fun c => by simp [pendC, hpc]) (by simp [hpc]) (by simp) hdead
      (fun _ => hk.wop (by rw [hpc]; rfl)) ?_ ?_ ?_
    · intro o ho; simp [curOff] at ho
    · intro r hr; simpa [rem] using hr
    · intro r o hp; simp at hp
  | nextClear => same_auto hk hpc
  | nextRec r rest htodo =>
    same_auto hk hpc
    all_goals (simp [htodo]; intro a ha; exact Or.inr ha)
  | check r f pc' _ hpc' => rcases hpc' with rfl | rfl <;> same_auto hk hpc
  | checkSkip r => same_auto hk hpc
  | close r f =>
    refine chk_gc hk rfl rfl rfl (fun c => by simp [pendC, hpc]) (by simp [hpc]) (by simp) hdead ?_ ?_ ?_ ?_
    · intro ho; simp [openPC] at ho
    · intro o ho; simp [curOff] at ho
    · intro r' hr; exact hk.remIn r' (by simpa [rem, hpc] using hr)
    · intro r o hp; simp at hp
  | head r f =>
    have c1 := hk.cold _ hxd
    have w1 := hk.whf _ hxd (by simp [hpc])
    simp only [pendC, hpc] at w1
    have hge : (s.base.chunks s.gc.dst).writingHead + r.size ≥ (s.base.chunks s.gc.dst).size := by omega
    simp only [hge, if_true] at hdead ⊢
    refine chk_upd hk s.gc.dst _ { s.gc with pc := .gBuf r f (s.base.chunks s.gc.dst).writingHead } rfl
      ⟨⟨c1.1.nobuf, c1.1.cfile⟩, rfl⟩ (fun c hcd => by simp [pendC, hpc, hcd]) (fun _ => ?_)
      (by simp [hpc]) nofun hdead (fun _ => ?_) ?_ ?_ nofun
    · simp only [pendC, if_true]; omega
    · simp only [if_true]; exact hk.wop (by rw [hpc]; rfl)
    · intro o ho
      obtain rfl := Option.some.inj ho
      simp [pendC]
    · intro r' hr
      simp only [hsd, if_false]
      exact hk.remIn r' (by simpa [rem, hpc] using hr)
  | buf r f off => same_auto hk hpc
  | flush r f off =>
    have hxs := hc.X_src (Or.inl (by rw [hpc]; rfl))
    have c1 := hk.cold _ hxd
    obtain ⟨w1, hoff, hw⟩ := flush_append hk hxd hpc
    have p1 := hk.wop (by rw [hpc]; rfl)
    have hrs : 0 < r.size :=
      (contig_mem _ _ _ (hk.cold _ hxs).1.cfile r (hk.remIn r (by simp [rem, hpc]))).2.2
    rw [hw, p1.2] at hdead ⊢
    generalize hg' : ({ s.gc with pc := if f then GPC.gMove r off else .gNext, gbuf := [], wpos := (s.base.chunks s.gc.dst).fsize + r.size } : GC) = g' at hdead ⊢
    have hp' : ∀ c, pendC g' c = 0 := by intro c; subst hg'; cases f <;> rfl
    refine chk_upd hk s.gc.dst _ g' (by subst hg'; rfl)
      ⟨⟨c1.1.nobuf, (contig_append _ _ _ _).mpr ⟨_, c1.1.cfile, hoff, hrs, rfl⟩⟩, c1.2⟩
      (fun c hcd => by rw [hp' c]; simp [pendC, hpc, hcd]) (fun _ => ?_) (by simp [hpc]) (by subst hg'; cases f <;> nofun)
      hdead (fun _ => by subst hg'; exact ⟨p1.1, by simp⟩) (by subst hg'; cases f <;> nofun) ?_ ?_
    · rw [hp']; show (s.base.chunks s.gc.dst).writingHead = _; omega
    · subst hg'
      intro r' hr
      simp only [hsd, if_false]
      apply hk.remIn r'
      cases f <;> simp [rem, hpc] at hr ⊢
      · exact Or.inr hr
      · exact hr
    · subst hg'
      intro r' o hp
      cases f with
      | false => cases hp
      | true =>
        obtain ⟨rfl, rfl⟩ := GPC.gMove.inj hp
        simp only [if_true, hoff]
        exact List.mem_append_right _ (List.mem_singleton.mpr rfl)
  | move r off it | moveSkip r off => same_auto hk hpc
  | clearMem =>
    have c1 := hk.cold _ (hc.X_src (Or.inl (by rw [hpc]; rfl)))
    refine chk_upd hk s.gc.src _ { s.gc with pc := .gRemove } rfl ⟨⟨rfl, c1.1.cfile⟩, rfl⟩ (fun c _ => by simp [pendC, hpc])
      (fun h => absurd ⟨rfl, rfl⟩ h) (by simp [hpc]) (fun _ => ⟨rfl, rfl⟩) hdead (fun _ => ?_) nofun nofun nofun
    simp only [hsd.symm, if_false]; exact hk.wop (by rw [hpc]; rfl)
  | remove =>
    have c1 := hk.cold _ (hc.X_src (Or.inl (by rw [hpc]; rfl)))
    have k1 := hk.clr hpc
    refine chk_upd hk s.gc.src _ { s.gc with pc := .gFileDone } rfl ⟨⟨c1.1.nobuf, rfl⟩, c1.2⟩ (fun c _ => by simp [pendC, hpc])
      (fun _ => ?_) (fun _ => rfl) nofun hdead (fun _ => ?_) nofun nofun nofun
    · simp only [pendC]; exact k1
    · simp only [hsd.symm, if_false]; exact hk.wop (by rw [hpc]; rfl)
  | final => same_auto hk hpc

end ConcGC
