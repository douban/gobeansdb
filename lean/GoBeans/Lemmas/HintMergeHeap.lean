/- C14 hint merge: the array algorithms of Go's container/heap (`HintMerge.goHeap`: heap.Init / heap.Pop /
   heap.Push with up / down over `mergeHeap`) obey `HeapLaws` (`goLaws`).  `up` and `down` share one invariant,
   `HeapBut`. -/
import GoBeans.Lemmas.HintMergeLoop
namespace HintMergeLemmas
open Hint HintMerge

/-- the transposition (i j) at `k` -/
def tr (i j k : Nat) : Nat := if k = i then j else if k = j then i else k

theorem tr_left (i j : Nat) : tr i j i = j := by simp [tr]
theorem tr_right (i j : Nat) : tr i j j = i := by
  unfold tr; by_cases h : j = i <;> simp [h]
theorem tr_other {i j k : Nat} (h1 : k ≠ i) (h2 : k ≠ j) : tr i j k = k := by simp [tr, h1, h2]

theorem swap_perm (h : List Reader) (i j : Nat) : (swap h i j).Perm h := by
  unfold swap
  split
  · rename_i a b ha hb
    obtain ⟨hi, rfl⟩ := List.getElem?_eq_some_iff.mp ha
    obtain ⟨hj, rfl⟩ := List.getElem?_eq_some_iff.mp hb
    exact List.set_set_perm hi hj
  · exact .refl _

theorem swap_length (h : List Reader) (i j : Nat) : (swap h i j).length = h.length :=
  (swap_perm h i j).length_eq

theorem swap_get (h : List Reader) {i j : Nat} (hi : i < h.length) (hj : j < h.length) (k : Nat) :
    (swap h i j)[k]? = h[tr i j k]? := by
  unfold swap tr
  rw [List.getElem?_eq_getElem hi, List.getElem?_eq_getElem hj]
  simp only [List.getElem?_set, List.length_set]
  by_cases h2 : k = j
  · subst h2
    by_cases h1 : k = i
    · subst h1; simp [hj]
    · simp [hj, h1, List.getElem?_eq_getElem hi]
  · by_cases h1 : k = i
    · subst h1; simp [hi, Ne.symm h2, List.getElem?_eq_getElem hj]
    · simp [h1, h2, Ne.symm h1, Ne.symm h2]

/-- `h[a]` is not after `h[b]` -/
def LEat (h : List Reader) (a b : Nat) : Prop := lessAt h b a = false

theorem LEat_swap (h : List Reader) {i j : Nat} (hi : i < h.length) (hj : j < h.length) (a b : Nat) :
    LEat (swap h i j) a b ↔ LEat h (tr i j a) (tr i j b) := by
  unfold LEat lessAt
  rw [swap_get h hi hj, swap_get h hi hj]

theorem LEat_congr {h h' : List Reader} {a b : Nat} (ea : h'[a]? = h[a]?) (eb : h'[b]? = h[b]?) :
    LEat h' a b ↔ LEat h a b := by
  unfold LEat lessAt
  rw [ea, eb]

theorem LEat_iff {h : List Reader} {a b : Nat} :
    LEat h a b ↔ ∀ x y, h[a]? = some x → h[b]? = some y → ILe x.curr y.curr := by
  unfold LEat lessAt
  cases h[a]? <;> cases h[b]? <;> simp [less_false_iff]

theorem LEat_refl (h : List Reader) (a : Nat) : LEat h a a :=
  LEat_iff.mpr fun _ _ hx hy => Option.some.inj (hx.symm.trans hy) ▸ ILe_refl _

theorem LEat_of_lessAt {h : List Reader} {a b : Nat} (hl : lessAt h a b = true) : LEat h a b :=
  LEat_iff.mpr fun x y hx hy => by
    unfold lessAt at hl
    rw [hx, hy] at hl
    exact ILe_of_ILt ((less_iff _ _).mp hl)

theorem LEat_trans {h : List Reader} {a b c : Nat} (hb : b < h.length) (h1 : LEat h a b) (h2 : LEat h b c) :
    LEat h a c :=
  LEat_iff.mpr fun x z hx hz => ILe_trans (LEat_iff.mp h1 x h[b] hx (List.getElem?_eq_getElem hb))
    (LEat_iff.mp h2 h[b] z (List.getElem?_eq_getElem hb) hz)

abbrev Child (i j : Nat) : Prop := j = 2 * i + 1 ∨ j = 2 * i + 1 + 1

theorem Child.lt {i j : Nat} (h : Child i j) : i < j := by omega

theorem Child.not_le {i j : Nat} (h : Child i j) : ¬ j ≤ i := Nat.not_le.mpr h.lt

theorem Child.parent_eq {g i j : Nat} (h1 : Child g j) (h2 : Child i j) : g = i := by omega

theorem child_of_pos {j : Nat} (h : j ≠ 0) : Child ((j - 1) / 2) j := by omega

/-- heap order on the index range [0, n), for the links whose parent index is ≥ k -/
def HeapFrom (k n : Nat) (h : List Reader) : Prop :=
  ∀ i j, Child i j → k ≤ i → j < n → LEat h i j

/-- heap order except at `p`, the index of the element that `down` sinks or `up` raises: the links into and out of
    `p` are not asked for; instead the children of `p` are not before `p`'s parent, so that the order is whole
    again once `p` holds something between its parent and its children -/
structure HeapBut (k n p : Nat) (h : List Reader) : Prop where
  away : ∀ i j, Child i j → k ≤ i → j < n → i ≠ p → j ≠ p → LEat h i j
  across : ∀ g j, Child g p → Child p j → k ≤ g → j < n → LEat h g j

theorem HeapBut.heap {k n p : Nat} {h : List Reader} (hb : HeapBut k n p h)
    (hup : ∀ g, Child g p → k ≤ g → LEat h g p) (hdn : ∀ j, Child p j → j < n → LEat h p j) :
    HeapFrom k n h := by
  intro i j hc hk hjn
  by_cases hj : j = p
  · subst hj; exact hup i hc hk
  · by_cases hi : i = p
    · subst hi; exact hdn j hc hjn
    · exact hb.away i j hc hk hjn hi hj

def minChild (n : Nat) (h : List Reader) (p : Nat) : Nat :=
  if 2 * p + 1 + 1 < n ∧ lessAt h (2 * p + 1 + 1) (2 * p + 1) then 2 * p + 1 + 1 else 2 * p + 1

theorem down_succ (n fuel : Nat) (h : List Reader) (p : Nat) :
    down n (fuel + 1) h p =
      if 2 * p + 1 ≥ n then h else
      if !lessAt h (minChild n h p) p then h else down n fuel (swap h p (minChild n h p)) (minChild n h p) := by
  rw [down]
  rfl

theorem minChild_spec {n : Nat} (h : List Reader) {p : Nat} (hj1 : 2 * p + 1 < n) :
    Child p (minChild n h p) ∧ minChild n h p < n ∧ ∀ j, Child p j → j < n → LEat h (minChild n h p) j := by
  unfold minChild
  split
  · rename_i hh
    refine ⟨.inr rfl, hh.1, ?_⟩
    rintro j (rfl | rfl) _
    · exact LEat_of_lessAt hh.2
    · exact LEat_refl _ _
  · rename_i hh
    refine ⟨.inl rfl, hj1, ?_⟩
    rintro j (rfl | rfl) hjn
    · exact LEat_refl _ _
    · exact Bool.eq_false_iff.mpr (fun hq => hh ⟨hjn, hq⟩)

theorem down_cases (n fuel : Nat) (h : List Reader) (p : Nat) :
    (n ≤ 2 * p + 1 ∧ down n (fuel + 1) h p = h) ∨
    ∃ c, Child p c ∧ c < n ∧ (∀ j, Child p j → j < n → LEat h c j) ∧
      (LEat h p c ∧ down n (fuel + 1) h p = h ∨
       lessAt h c p = true ∧ down n (fuel + 1) h p = down n fuel (swap h p c) c) := by
  rw [down_succ]
  split
  · exact .inl ⟨by omega, rfl⟩
  · obtain ⟨hcp, hcn, hsib⟩ := minChild_spec h (show 2 * p + 1 < n by omega)
    refine .inr ⟨_, hcp, hcn, hsib, ?_⟩
    split
    · rename_i hstop; exact .inl ⟨by simpa [LEat] using hstop, rfl⟩
    · rename_i hgo; exact .inr ⟨by simpa using hgo, rfl⟩

theorem down_perm (n fuel : Nat) (h : List Reader) (p : Nat) : (down n fuel h p).Perm h := by
  induction fuel generalizing h p with
  | zero => exact .refl _
  | succ fuel ih =>
    obtain ⟨_, e⟩ | ⟨c, _, _, _, ⟨_, e⟩ | ⟨_, e⟩⟩ := down_cases n fuel h p <;> rw [e]
    exact (ih _ _).trans (swap_perm _ _ _)

theorem down_frame (n fuel : Nat) (h : List Reader) (p : Nat) (hn : n ≤ h.length) (m : Nat) (hm : n ≤ m) :
    (down n fuel h p)[m]? = h[m]? := by
  induction fuel generalizing h p with
  | zero => rfl
  | succ fuel ih =>
    obtain ⟨_, e⟩ | ⟨c, hcp, hcn, _, ⟨_, e⟩ | ⟨_, e⟩⟩ := down_cases n fuel h p <;> rw [e]
    have hpc := hcp.lt
    rw [ih _ _ (by rw [swap_length]; exact hn), swap_get h (by omega) (by omega), tr_other (by omega) (by omega)]

/-- `hf`: the index grows with every round and `down` stops once it has no child below `n`, so `n - p` rounds do -/
theorem down_heap (k n fuel : Nat) (h : List Reader) (p : Nat) (hb : HeapBut k n p h)
    (hup : ∀ g, Child g p → k ≤ g → LEat h g p) (hkp : k ≤ p) (hn : n ≤ h.length) (hf : n ≤ fuel + p) :
    HeapFrom k n (down n fuel h p) := by
  induction fuel generalizing h p with
  | zero => exact hb.heap hup (fun j hc hjn => by have := hc.lt; omega)
  | succ fuel ih =>
    obtain ⟨hnp, e⟩ | ⟨c, hcp, hcn, hsib, ⟨hpc', e⟩ | ⟨hgo, e⟩⟩ := down_cases n fuel h p <;> rw [e]
    · exact hb.heap hup (fun j hc hjn => by omega)
    · -- `p` is not after its least child, so after neither child
      exact hb.heap hup (fun j hc hjn => LEat_trans (Nat.lt_of_lt_of_le hcn hn) hpc' (hsib j hc hjn))
    · have hpc := hcp.lt
      have hpl : p < h.length := by omega
      have hcp' : LEat h c p := LEat_of_lessAt hgo
      have hcl : c < h.length := Nat.lt_of_lt_of_le hcn hn
      refine ih (swap h p c) c ⟨?_, ?_⟩ ?_ (by omega) (by rw [swap_length]; exact hn) (by omega)
      · intro i j hc hk hjn hic hjc
        rw [LEat_swap h hpl hcl]
        by_cases hip : i = p
        · -- the other child of `p`
          subst hip
          rw [tr_left, tr_other (Nat.ne_of_gt hc.lt) hjc]
          exact hsib j hc hjn
        · by_cases hjp : j = p
          · subst hjp
            rw [tr_other hip hic, tr_left]
            exact hb.across i c hc hcp hk hcn
          · rw [tr_other hip hic, tr_other hjp hjc]
            exact hb.away i j hc hk hjn hip hjp
      · intro g j hgc hcj hk hjn
        obtain rfl := hgc.parent_eq hcp
        have hcj' := hcj.lt
        rw [LEat_swap h hpl hcl, tr_left, tr_other (by omega) (Nat.ne_of_gt hcj')]
        exact hb.away c j hcj (by omega) hjn (Nat.ne_of_gt hpc) (by omega)
      · intro g hgc hk
        obtain rfl := hgc.parent_eq hcp
        rw [LEat_swap h hpl hcl, tr_left, tr_right]
        exact hcp'

theorem up_succ (fuel : Nat) (h : List Reader) (j : Nat) :
    up (fuel + 1) h j =
      if (j - 1) / 2 = j ∨ lessAt h j ((j - 1) / 2) = false then h
      else up fuel (swap h ((j - 1) / 2) j) ((j - 1) / 2) := by
  rw [up]
  simp only [Bool.not_eq_true']

theorem up_cases (fuel : Nat) (h : List Reader) (j : Nat) :
    (j = 0 ∧ up (fuel + 1) h j = h) ∨
    ∃ i, Child i j ∧ (LEat h i j ∧ up (fuel + 1) h j = h ∨
      lessAt h j i = true ∧ up (fuel + 1) h j = up fuel (swap h i j) i) := by
  rw [up_succ]
  by_cases hj0 : j = 0
  · subst hj0; exact .inl ⟨rfl, if_pos (.inl rfl)⟩
  · have hij := child_of_pos hj0
    refine .inr ⟨_, hij, ?_⟩
    split
    · rename_i hstop; exact .inl ⟨hstop.resolve_left (Nat.ne_of_lt hij.lt), rfl⟩
    · rename_i hgo; exact .inr ⟨by simpa using fun e => hgo (.inr e), rfl⟩

theorem up_perm (fuel : Nat) (h : List Reader) (j : Nat) : (up fuel h j).Perm h := by
  induction fuel generalizing h j with
  | zero => exact .refl _
  | succ fuel ih =>
    obtain ⟨_, e⟩ | ⟨i, _, ⟨_, e⟩ | ⟨_, e⟩⟩ := up_cases fuel h j <;> rw [e]
    exact (ih _ _).trans (swap_perm _ _ _)

/-- `hf`: the index falls with every round and `up` stops at the root, so `j + 1` rounds do -/
theorem up_heap (n fuel : Nat) (h : List Reader) (j : Nat) (hb : HeapBut 0 n j h)
    (hdn : ∀ l, Child j l → l < n → LEat h j l) (hjn : j < n) (hn : n ≤ h.length) (hf : j < fuel) :
    HeapFrom 0 n (up fuel h j) := by
  induction fuel generalizing h j with
  | zero => omega
  | succ fuel ih =>
    obtain ⟨hj0, e⟩ | ⟨i, hij, ⟨hstop, e⟩ | ⟨hgo, e⟩⟩ := up_cases fuel h j <;> rw [e]
    · -- the root has no parent
      exact hb.heap (fun g hg _ => by omega) hdn
    · refine hb.heap (fun g hg _ => ?_) hdn
      obtain rfl := hg.parent_eq hij
      exact hstop
    · have hlt := hij.lt
      have hji : LEat h j i := LEat_of_lessAt hgo
      have hil : i < h.length := by omega
      have hjl : j < h.length := by omega
      -- what was not after `h[i]` is not after what a child `l` of `i` holds once `i` and `j` are swapped:
      -- its own element, or (`l = j`) that of `i`
      have hchild : ∀ a, LEat h a i → ∀ l, Child i l → l < n → LEat h a (tr i j l) := by
        intro a ha l hil' hln
        by_cases hlj : l = j
        · subst hlj; rw [tr_right]; exact ha
        · rw [tr_other (Nat.ne_of_gt hil'.lt) hlj]
          exact LEat_trans hil ha (hb.away i l hil' (Nat.zero_le _) hln (Nat.ne_of_lt hlt) hlj)
      refine ih (swap h i j) i ⟨?_, ?_⟩ ?_ (by omega) (by rw [swap_length]; exact hn) (by omega)
      · intro a b hc _ hbn hai hbi
        rw [LEat_swap h hil hjl]
        have hbj : b ≠ j := fun e => hai (by subst e; exact hc.parent_eq hij)
        by_cases haj : a = j
        · -- a child of `j`
          subst haj
          rw [tr_right, tr_other hbi hbj]
          exact hb.across i b hij hc (Nat.zero_le _) hbn
        · rw [tr_other hai haj, tr_other hbi hbj]
          exact hb.away a b hc (Nat.zero_le _) hbn haj hbj
      · intro g l hgi hil' _ hln
        have hgl := hgi.lt
        rw [LEat_swap h hil hjl, tr_other (by omega) (by omega)]
        exact hchild g (hb.away g i hgi (Nat.zero_le _) (by omega) (by omega) (by omega)) l hil' hln
      · intro l hil' hln
        rw [LEat_swap h hil hjl, tr_left]
        exact hchild j hji l hil' hln

/-- the heap invariant of container/heap -/
def GoInv (h : List Reader) : Prop := HeapFrom 0 h.length h

theorem heap_root {h : List Reader} (hh : GoInv h) : ∀ j, j < h.length → LEat h 0 j := by
  intro j
  induction j using Nat.strongRecOn with
  | _ j ih =>
    intro hjn
    by_cases hj0 : j = 0
    · subst hj0; exact LEat_refl _ _
    · have hc := child_of_pos hj0
      generalize (j - 1) / 2 = i at hc
      have hij := hc.lt
      exact LEat_trans (by omega) (ih i hij (by omega)) (hh i j hc (Nat.zero_le _) hjn)

theorem heapInit_fold (n m : Nat) (h : List Reader) (hl : h.length = n) (hh : HeapFrom m n h) :
    HeapFrom 0 n ((List.range m).reverse.foldl (fun a i => down n n a i) h) ∧
    ((List.range m).reverse.foldl (fun a i => down n n a i) h).Perm h := by
  induction m generalizing h with
  | zero => simpa using hh
  | succ m ih =>
    rw [List.range_succ, List.reverse_append, List.reverse_singleton, List.singleton_append, List.foldl_cons]
    -- `HeapFrom (m + 1)` is `HeapBut m n m`: of the links with parent index ≥ `m` none goes into `m`, and those
    -- that do not go out of `m` have a parent index > `m`
    have hd : HeapFrom m n (down n n h m) :=
      down_heap m n n h m ⟨fun i j hc hk hjn hne _ => hh i j hc (Nat.lt_of_le_of_ne hk (Ne.symm hne)) hjn,
          fun g j hg _ hk _ => absurd hk hg.not_le⟩
        (fun g hg hk => absurd hk hg.not_le) (Nat.le_refl _) (Nat.le_of_eq hl.symm) (Nat.le_add_right _ _)
    obtain ⟨r1, r2⟩ := ih (down n n h m) (by rw [(down_perm _ _ _ _).length_eq]; exact hl) hd
    exact ⟨r1, r2.trans (down_perm _ _ _ _)⟩

theorem heapInit_spec (h : List Reader) : GoInv (heapInit h) ∧ (heapInit h).Perm h := by
  -- from `length / 2` on no index has a child, so `HeapFrom (length / 2)` holds of any list
  obtain ⟨r1, r2⟩ := heapInit_fold h.length (h.length / 2) h rfl (fun i j _ _ _ => by omega)
  unfold GoInv heapInit
  simp only
  rw [r2.length_eq]
  exact ⟨r1, r2⟩

theorem heapPush_spec (h : List Reader) (r : Reader) (hh : GoInv h) :
    GoInv (heapPush h r) ∧ (heapPush h r).Perm (r :: h) := by
  have hperm : (heapPush h r).Perm (r :: h) := (up_perm _ _ _).trans (List.perm_append_singleton r h)
  refine ⟨?_, hperm⟩
  unfold GoInv
  rw [hperm.length_eq, List.length_cons]
  refine up_heap (h.length + 1) (h.length + 1) (h ++ [r]) h.length
    ⟨?_, fun g j _ hc _ hjn => absurd (Nat.le_of_lt_succ hjn) hc.not_le⟩
    (fun l hc hln => absurd (Nat.le_of_lt_succ hln) hc.not_le) (Nat.lt_succ_self _) (by simp)
    (Nat.lt_succ_self _)
  intro i j hc _ hjn _ hj
  exact (LEat_congr (List.getElem?_append_left (by omega)) (List.getElem?_append_left (by omega))).mpr
    (hh i j hc (Nat.zero_le _) (by omega))

/-- `heap.Pop` swaps the root to the last slot, and `down` on the slots before it leaves it there -/
theorem pop_last (a : Reader) (t : List Reader) :
    (down t.length t.length (swap (a :: t) 0 t.length) 0)[t.length]? = some a := by
  rw [down_frame _ _ _ _ (by rw [swap_length]; exact Nat.le_succ _) _ (Nat.le_refl _),
    swap_get _ (Nat.zero_lt_succ _) (Nat.lt_succ_self _), tr_right]
  rfl

theorem heapPop_cons (a : Reader) (t : List Reader) :
    heapPop (a :: t) = some (a, (down t.length t.length (swap (a :: t) 0 t.length) 0).take t.length) := by
  rw [heapPop]
  simp only [List.length_cons, Nat.add_sub_cancel, pop_last]

theorem heapPop_spec (h : List Reader) (x : Reader) (h' : List Reader) (hh : GoInv h)
    (e : heapPop h = some (x, h')) : h.Perm (x :: h') ∧ GoInv h' ∧ ∀ y ∈ h', less y x = false := by
  cases h with
  | nil => simp [heapPop] at e
  | cons a t =>
    rw [heapPop_cons] at e
    cases e
    have hlast := pop_last x t
    have hl0 : 0 < (x :: t).length := Nat.zero_lt_succ _
    have hlt : t.length < (x :: t).length := Nat.lt_succ_self _
    -- `down` from the root restores the order of the first `t.length` slots: the swap only moved the root
    have hheap1 : HeapFrom 0 t.length (down t.length t.length (swap (x :: t) 0 t.length) 0) := by
      refine down_heap 0 t.length t.length _ 0 ⟨?_, fun g j hg _ _ _ => absurd (Nat.zero_le _) hg.not_le⟩
        (fun g hg _ => absurd (Nat.zero_le _) hg.not_le)
        (Nat.le_refl _) (by rw [swap_length]; exact Nat.le_succ _) (by omega)
      intro i j hc _ hjn hi0 hj0
      rw [LEat_swap (x :: t) hl0 hlt, tr_other hi0 (by omega), tr_other hj0 (by omega)]
      exact hh i j hc (Nat.zero_le _) (Nat.lt_succ_of_lt hjn)
    have hperm1 : (down t.length t.length (swap (x :: t) 0 t.length) 0).Perm (x :: t) :=
      (down_perm _ _ _ _).trans (swap_perm _ _ _)
    generalize down t.length t.length (swap (x :: t) 0 t.length) 0 = h1 at *
    have h1l : h1.length = t.length + 1 := hperm1.length_eq
    have hsplit : h1.take t.length ++ [x] = h1 := by
      obtain ⟨hlt, e⟩ := List.getElem?_eq_some_iff.mp hlast
      rw [← e, List.take_append_getElem hlt, List.take_of_length_le (by omega)]
    have hperm : (x :: t).Perm (x :: h1.take t.length) := by
      refine hperm1.symm.trans ?_
      rw [← hsplit, List.take_left' (by rw [List.length_take]; omega)]
      exact List.perm_append_singleton _ _
    refine ⟨hperm, ?_, ?_⟩
    · unfold GoInv
      rw [List.length_take, Nat.min_eq_left (by omega)]
      intro i j hc hk hjn
      exact (LEat_congr (List.getElem?_take_of_lt (Nat.lt_trans hc.lt hjn)) (List.getElem?_take_of_lt hjn)).mpr
        (hheap1 i j hc hk hjn)
    · -- the root was not after anything
      intro y hy
      obtain ⟨j, hj⟩ := List.mem_iff_getElem?.mp (hperm.mem_iff.mpr (List.mem_cons_of_mem _ hy))
      have := heap_root hh j (List.getElem?_eq_some_iff.mp hj).1
      exact (less_false_iff _ _).mpr (LEat_iff.mp this x y rfl hj)

def goLaws : HeapLaws goHeap where
  inv := GoInv
  init_inv := fun l => (heapInit_spec l).1
  init_perm := fun l => (heapInit_spec l).2
  pop_none := fun h _ => by cases h with
    | nil => simp [goHeap, heapPop]
    | cons a t => simp [goHeap, heapPop_cons]
  pop_some := fun h r h' hh e => heapPop_spec h r h' hh e
  push := fun h r hh => heapPush_spec h r hh

end HintMergeLemmas
