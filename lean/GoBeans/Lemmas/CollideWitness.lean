/-
  C13, part (c): for each mechanism behind the KNOWN FINDINGS a minimal concrete history on which the collision-path
  model `Collide.run` deviates from the reference map `Spec.run` — exactly as the real store does (the same histories
  are corpus/C13/collide-witnesses.txt; harness/cmd/collide replays them on the real code and CollideCheck.lean finds
  model and implementation in agreement on every reply).  Keys a, b, c share one key hash; x is an ordinary key.
-/
import GoBeans.Model.Collide

namespace CollideWitness
open Collide Store Spec

def hW (k : Key) : Nat := if k = [120] then 1 else 7
def kA : Key := [97]
def kB : Key := [98]
def kC : Key := [99]
def kX : Key := [120]
def T : Nat := 1500000000
def cmds (ops : List Collide.Op) : List Spec.Cmd := ops.filterMap Collide.cmdOf
def mdl (ops : List Collide.Op) : List Reply := (Collide.run hW {} {} ops).2
def ref (ops : List Collide.Op) : List Reply := (Spec.run {} [] (cmds ops)).2
def gcAll (b e : Int) (merge : Bool) : Collide.Op := .gc { start := b, stop := e, noGCDays := 0, now := 1600000000 } merge

/-! ### the write path reads the slot of the key HASH (`checkAndSet` → `get(memOnly)`: "omit collision") -/

/-- W1: the delete of a key never written is accepted because the slot belongs to the other key; a delete marker is
    written -/
def w1 : List Collide.Op := [.set kA [1] 0 0 T 256, .delete kB 256 T, .get kB]
theorem W1_delete_of_unwritten_key_accepted :
    mdl w1 = [.stored, .deleted, .miss] ∧ ref w1 = [.stored, .notFound, .miss] := by decide +kernel

/-- W2: the delete of a LIVE key is refused because the slot holds the other key's delete marker; the key stays readable -/
def w2 : List Collide.Op := [.set kA [1] 0 0 T 256, .set kB [2] 0 0 T 256, .delete kB 256 T, .delete kA 256 T, .get kA]
theorem W2_delete_of_live_key_refused :
    mdl w2 = [.stored, .stored, .deleted, .notFound, .value 0 [1]]
    ∧ ref w2 = [.stored, .stored, .deleted, .deleted, .miss] := by decide +kernel

/-- W3: an explicit revision is compared with the OTHER key's version: STORED, nothing written, the key reads as
    missing -/
def w3 : List Collide.Op := [.set kA [1] 0 5 T 256, .set kB [2] 0 3 T 256, .get kB]
theorem W3_explicit_revision_compared_with_other_key :
    mdl w3 = [.stored, .stored, .miss] ∧ ref w3 = [.stored, .stored, .value 0 [2]] := by decide +kernel

/-- W10: incr continues from the wrong base (it reads through the same lookup as get) -/
def w10 : List Collide.Op := [.set kA [49, 48] 516 5 T 256, .set kB [55] 516 3 T 256, .incr kB 1 256 T]
theorem W10_incr_from_wrong_base :
    mdl w10 = [.stored, .stored, .num 1] ∧ ref w10 = [.stored, .stored, .num 8] := by decide +kernel

/-- W4: the replayed delete marker of b removes the slot shared with a (`tree.remove` by key hash); the read path
    consults the hints only on a key MISMATCH, not on an absent slot: the live key a is gone -/
def w4 : List Collide.Op := [.set kA [1] 0 0 T 256, .set kB [2] 0 0 T 256, .delete kB 256 T, .reopen false, .get kA]
theorem W4_replayed_delete_marker_removes_shared_slot :
    mdl w4 = [.stored, .stored, .deleted, .miss] ∧ ref w4 = [.stored, .stored, .deleted, .value 0 [1]] := by decide +kernel

/-! ### `maxChunkID` is 0 in a new process: `hintMgr.getItem` looks at data file 0 only until the first write -/

/-- W5: after a restart (tree dump kept) the hint lookup of the key the slot does not own sees only file 0: miss -/
def w5 : List Collide.Op := [.set kX [9] 0 0 T 256, .reopen true, .set kA [1] 0 0 T 256, .set kB [2] 0 0 T 256, .reopen true, .get kA]
theorem W5_hint_lookup_sees_only_file_0_after_restart :
    mdl w5 = [.stored, .stored, .stored, .miss] ∧ ref w5 = [.stored, .stored, .stored, .value 0 [1]] := by decide +kernel

/-- W6: … or finds the key's SUPERSEDED record in file 0: an older value is served (and entered into the collision table) -/
def w6 : List Collide.Op := [.set kA [1] 0 0 T 256, .reopen true, .set kA [17] 0 0 T 256, .set kB [2] 0 0 T 256, .reopen true, .get kA, .get kA]
theorem W6_older_value_after_restart :
    mdl w6 = [.stored, .stored, .stored, .value 0 [1], .value 0 [1]]
    ∧ ref w6 = [.stored, .stored, .stored, .value 0 [17], .value 0 [17]] := by decide +kernel

/-- W7: GC (merge off) discards the record of a key the tree does not know — the slot belongs to the other key, the
    key hash is not in the collision table, and after the restart no in-memory hint buffer covers it -/
def w7 : List Collide.Op := [.set kA [1] 0 0 T 256, .set kB [2] 0 0 T 256, .reopen true, .set kX [9] 0 0 T 256, .flush,
  gcAll 0 0 false, .get kA, .get kB]
theorem W7_gc_discards_record_of_key_unknown_to_tree :
    mdl w7 = [.stored, .stored, .stored, .miss, .value 0 [2]]
    ∧ ref w7 = [.stored, .stored, .stored, .value 0 [1], .value 0 [2]] := by decide +kernel

/-- W12 (the same history with merge on): the hint merge before the pass reports the collision, both keys enter the
    collision table and both records are kept -/
def w12 : List Collide.Op := [.set kA [1] 0 0 T 256, .set kB [2] 0 0 T 256, .reopen true, .set kX [9] 0 0 T 256, .flush,
  gcAll 0 0 true, .get kA, .get kB]
theorem W12_gc_with_merge_keeps_both : mdl w12 = ref w12 := by decide +kernel

/-- W8: after a rebuild removed the shared slot (W4), a pass starting at file 0 discards every record of the hash
    class although the collision table still lists the keys: the table points at a removed file and reads fail -/
def w8 : List Collide.Op := [.set kA [1] 0 0 T 256, .set kB [2] 0 0 T 256, .get kA, .delete kB 256 T, .reopen false,
  .set kX [9] 0 0 T 256, .flush, gcAll 0 0 false, .get kA]
theorem W8_gc_leaves_collision_table_pointing_at_removed_file :
    mdl w8 = [.stored, .stored, .value 0 [1], .deleted, .stored, .error]
    ∧ ref w8 = [.stored, .stored, .value 0 [1], .deleted, .stored, .value 0 [1]] := by decide +kernel

/-- W9: the hash is in the collision table, key c is not; GC finds no in-memory hint of c, "guesses" that c's
    SUPERSEDED record is newest, relocates it and `hints.set(…, "gc")` enters it into the table: c reads its older value -/
def w9 : List Collide.Op := [.set kC [1] 0 0 T 256, .reopen true, .set kC [17] 0 0 T 256, .set kA [2] 0 0 T 256, .set kB [3] 0 0 T 256,
  .get kA, .reopen true, .set kX [9] 0 0 T 256, .flush, gcAll 0 0 false, .get kC]
theorem W9_gc_guess_registers_superseded_record :
    mdl w9 = [.stored, .stored, .stored, .stored, .value 0 [2], .stored, .value 0 [1]]
    ∧ ref w9 = [.stored, .stored, .stored, .stored, .value 0 [2], .stored, .value 0 [17]] := by decide +kernel

/-- W11: GC discards the delete marker of a (unknown to the tree, not covered) while a's older record in an earlier
    file survives: the deleted key is back -/
def w11 : List Collide.Op := [.set kA [1] 0 0 T 256, .reopen true, .delete kA 256 T, .set kB [2] 0 0 T 256, .reopen true,
  .set kX [9] 0 0 T 256, .flush, gcAll 1 1 false, .get kA]
theorem W11_deleted_key_back_after_gc :
    mdl w11 = [.stored, .deleted, .stored, .stored, .value 0 [1]]
    ∧ ref w11 = [.stored, .deleted, .stored, .stored, .miss] := by decide +kernel

end CollideWitness
