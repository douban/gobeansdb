/-
  Crash recovery through the hint files: the start (`Bucket.open`, model `openSt`) on the directory a kill
  leaves of ANY state that satisfies the invariant `Inv` (Lemmas/CrashHintInv.lean) and has no torn tail.  With or
  without a tree dump the LIVE part of every tree entry is `itemOfLast (last durable record)` (`open_tree_live`), and
  the state after the start satisfies the invariant again (`open_inv`: kills and starts can be repeated).
-/
import GoBeans.Lemmas.CrashHintInv
namespace CrashHintLemmas
open Store Spec StoreLemmas HintIndex HintBufferLemmas HintLoadLemmas HintIndexLemmas CrashHint

theorem numFiles_le : ∀ l : List DFile, numFiles l ≤ l.length := by
  intro l
  induction l with
  | nil => simp [numFiles]
  | cons f fs ih =>
    simp only [numFiles, List.length_cons]
    split
    · omega
    · split <;> omega

theorem numFiles_created : ∀ {l : List DFile} {j : Nat} {f : DFile}, l[j]? = some f → f.created = true → j < numFiles l
  | g :: gs, 0, f, h, hc => by
    cases h
    simp only [numFiles, hc, if_true]
    split <;> omega
  | g :: gs, j + 1, f, h, hc => by
    have := numFiles_created (l := gs) h hc
    simp only [numFiles]
    split <;> omega

theorem numFiles_drop (l : List DFile) : ∀ f ∈ l.drop (numFiles l), f.created = false := by
  intro f hf
  obtain ⟨j, hj⟩ := List.getElem?_of_mem hf
  rw [List.getElem?_drop] at hj
  cases hc : f.created with
  | false => rfl
  | true => have := numFiles_created hj hc; omega

section Open
variable (hash : Key → Nat) (K : Key → Prop) (cap : Nat)

theorem crash_files (s : St) : s.crash.files = s.all.map Chunk.crash := rfl

def durFiles (s : St) : List FileRecs := s.all.map (fun c => durOf c.recs c.onDisk)

theorem durLog_eq (s : St) : durLog s = logOf (durFiles s) := by
  unfold durLog durFiles
  rw [crash_files, List.map_map]
  rfl

theorem torn_iff (s : St) : s.torn = false ↔ ∀ c ∈ s.all, tornOf c.recs c.onDisk = false := by
  simp [St.torn, crash_files, crash_torn]

theorem keptFiles_eq (s : St) : keptFiles hash cap true s.crash =
    s.all.map (fun c => checkHintG hash cap true (durOf c.recs c.onDisk) c.onDisk c.files) := by
  unfold keptFiles
  rw [crash_files, List.map_map]
  rfl

theorem keptHints_eq (s : St) : keptHints hash cap true s.crash =
    s.all.map (fun c => (checkHintG hash cap true (durOf c.recs c.onDisk) c.onDisk c.files).map (·.items)) := by
  rw [keptHints, keptFiles_eq, List.map_map]
  rfl

theorem open_hints (hcap : 1 ≤ cap) {s : St} (inv : Inv hash K cap s) (ht : s.torn = false) :
    Forall2 (FileHintsOf hash) (durFiles s) (keptHints hash cap true s.crash) := by
  rw [keptHints_eq]
  unfold durFiles
  apply forall2_map_mem
  intro c hc
  have hok := inv.chunks c hc
  exact (chunk_recover hash cap hcap c.recs c.files c.onDisk hok.contig (chunk_diskOK hash K cap hcap hok)
    ((torn_iff s).mp ht c hc)).1

theorem durFiles_keys {s : St} (inv : Inv hash K cap s) : ∀ f ∈ durFiles s, ∀ p ∈ f, K p.2.key := by
  intro f hf p hp
  unfold durFiles at hf
  obtain ⟨c, hc, rfl⟩ := List.mem_map.mp hf
  exact (inv.chunks c hc).keys p (mem_durOf.mp hp).1

/-- no tree dump used (none on disk, or one beyond the data files): the entry itself, not only its live part -/
theorem open_tree_nodump (hInj : InjOn hash K) (hcap : 1 ≤ cap) {s : St} (inv : Inv hash K cap s) (ht : s.torn = false)
    (hd : usedDump s.crash = none) (k : Key) (hk : K k) :
    AMap.get (openedTree hash cap true s.crash) (hash k) = itemOfLast (lastOf k (durLog s)) := by
  unfold openedTree
  rw [hd]
  simp only
  rw [openTree_nodump, durLog_eq]
  exact hintReplay_get hash K hInj _ (durFiles_keys hash K cap inv) _ (open_hints hash K cap hcap inv ht) k hk

theorem open_tree_entry (hInj : InjOn hash K) (hcap : 1 ≤ cap) {s : St} (inv : Inv hash K cap s) (ht : s.torn = false)
    (t : TreeDump) (hd : usedDump s.crash = some t) (k : Key) (hk : K k) :
    AMap.get (openedTree hash cap true s.crash) (hash k) =
      (match lastOf k (openLog t.tc t.ts 0 (durFiles s) (keptHints hash cap true s.crash)) with
       | some x => itemOfLast (some x)
       | none => AMap.get t.tree (hash k)) := by
  unfold openedTree
  rw [hd]
  exact openTree_get hash K hInj t.tc t.ts (durFiles s) (durFiles_keys hash K cap inv) _
    (open_hints hash K cap hcap inv ht) t.tree k hk

theorem usedDump_some {d : Disk} {t : TreeDump} (h : usedDump d = some t) : d.dump = some t ∧ t.tc < numFiles d.files := by
  unfold usedDump at h
  split at h
  · next t' hd =>
    split at h
    · cases h
    · cases h; exact ⟨hd, by omega⟩
  · cases h

theorem durFiles_take {s : St} (inv : Inv hash K cap s) {n : Nat} (hfl : ∀ c ∈ s.all.take n, Flushed c) :
    (durFiles s).take n = (s.all.take n).map (·.recs) := by
  rw [durFiles, ← List.map_take]
  exact List.map_congr_left fun c hc => by
    rw [hfl c hc]; exact filter_fits_full (inv.chunks c (List.mem_of_mem_take hc)).contig

theorem open_tree_live (hInj : InjOn hash K) (hcap : 1 ≤ cap) {s : St} (inv : Inv hash K cap s) (ht : s.torn = false) :
    TreeOf hash K (openedTree hash cap true s.crash) (durLog s) := by
  cases hd : usedDump s.crash with
  | none =>
    intro k hk
    rw [open_tree_nodump hash K cap hInj hcap inv ht hd k hk]
    exact live_itemOfLast _
  | some t =>
    -- the instance of `openTree_treeOf`: the durable files, and the number of files `DumpOK` says the dump knows
    obtain ⟨_, n, htc, _, _, hfl, htr⟩ := (dumpOK_take hash K).mp (inv.dump t (usedDump_some hd).1)
    rw [durLog_eq]
    unfold openedTree
    rw [hd]
    exact openTree_treeOf hash K hInj t.tc t.ts _ (durFiles_keys hash K cap inv) _ (open_hints hash K cap hcap inv ht) t.tree n htc
      (by rw [durFiles_take hash K cap inv hfl]; exact htr)

/-- `-1 ≤ ts`: the first split applied, `ts + 1`, is then no negative number, so a chunk whose files are applied has one.
    Only the chunk id of the result is used (`Inv.maxd`). -/
theorem openMaxGo_spec (tc : Nat) (ts : Int) (hts : -1 ≤ ts) : ∀ (kept : List (List SplitFile)) (i : Nat) (m : Nat × Int),
    openMaxGo tc ts i m kept = m ∨
      ∃ j fl, kept[j]? = some fl ∧ fl ≠ [] ∧ (openMaxGo tc ts i m kept).1 = i + j
  | [], _, _ => Or.inl rfl
  | f :: fs, i, m => by
    have hrec : ∀ m', openMaxGo tc ts (i + 1) m' fs = m' ∨
        ∃ j fl, (f :: fs)[j]? = some fl ∧ fl ≠ [] ∧ (openMaxGo tc ts (i + 1) m' fs).1 = i + j := fun m' =>
      (openMaxGo_spec tc ts hts fs (i + 1) m').imp_right fun ⟨j, fl, hj, hne, he⟩ =>
        ⟨j + 1, fl, hj, hne, by rw [he]; omega⟩
    simp only [openMaxGo]
    by_cases h1 : i < tc
    · simp only [h1, if_true]; exact hrec m
    · by_cases h2 : (if i = tc then ts + 1 else 0) ≥ (f.length : Int)
      · simp only [h1, h2, if_true, if_false]; exact hrec m
      · simp only [h1, h2, if_false]
        refine Or.inr ((hrec _).elim (fun h => ⟨0, f, rfl, ?_, by rw [h]; rfl⟩) id)
        rintro rfl
        simp only [List.length_nil, Int.natCast_zero] at h2
        split at h2 <;> omega

/-- the chunk of an existing data file after the start: the durable records, file-only splits -/
def openedChunk (c : CrashHint.Chunk) : CrashHint.Chunk :=
  { recs := durOf c.recs c.onDisk, onDisk := c.onDisk, created := c.created, hint := {},
    files := (checkHintG hash cap true (durOf c.recs c.onDisk) c.onDisk c.files).map some }

theorem open_prev (s : St) : (openSt hash cap true s.crash).prev =
    (s.all.take (numFiles s.crash.files)).map (openedChunk hash cap) := by
  unfold openSt
  simp only
  rw [crash_files, ← List.map_take, List.map_map]
  rfl

theorem openSt_tree (s : St) : (openSt hash cap true s.crash).tree = openedTree hash cap true s.crash := rfl
theorem openSt_maxDumped (s : St) : (openSt hash cap true s.crash).maxDumped = openedMax hash cap true s.crash := rfl

theorem openedChunk_ok (hcap : 1 ≤ cap) {c : CrashHint.Chunk} (hok : ChunkOK hash K cap c) (ht : tornOf c.recs c.onDisk = false) :
    ChunkOK hash K cap (openedChunk hash cap c) ∧ Flushed (openedChunk hash cap c) := by
  have hsz := size_of_not_torn hok.contig ht
  exact ⟨⟨contig_filter hok.contig _, fun p hp => hok.keys p (mem_durOf.mp hp).1, Nat.le_of_eq hsz, hok.nocreate,
    Or.inl ⟨rfl, rfl,
      (chunk_recover hash cap hcap c.recs c.files c.onDisk hok.contig (chunk_diskOK hash K cap hcap hok) ht).2⟩⟩, hsz⟩

theorem dur_dropped {s : St} (inv : Inv hash K cap s) : ∀ f ∈ (durFiles s).drop (numFiles s.crash.files), f = [] := by
  intro f hf
  rw [durFiles, ← List.map_drop] at hf
  obtain ⟨c, hc, rfl⟩ := List.mem_map.mp hf
  have h1 : c.crash ∈ s.crash.files.drop (numFiles s.crash.files) := by
    rw [crash_files, ← List.map_drop]
    exact List.mem_map_of_mem hc
  have hok := inv.chunks c (List.mem_of_mem_drop hc)
  show durOf c.recs c.onDisk = []
  rw [hok.nocreate (numFiles_drop _ _ h1)]
  exact dur_zero hok.contig

theorem numFiles_le_all (s : St) : numFiles s.crash.files ≤ s.all.length := by
  simpa [crash_files] using numFiles_le s.crash.files

theorem durLog_take {s : St} (inv : Inv hash K cap s) : logOf ((durFiles s).take (numFiles s.crash.files)) = durLog s := by
  have h := logOf_take_min (dur_dropped hash K cap inv) (durFiles s).length
  rwa [List.take_length, Nat.min_eq_right (by simpa [durFiles] using numFiles_le_all s), ← durLog_eq] at h

theorem open_all (s : St) : (openSt hash cap true s.crash).all =
    (s.all.take (numFiles s.crash.files)).map (openedChunk hash cap) ++ [({} : CrashHint.Chunk)] := by
  rw [St.all, open_prev]; rfl

theorem open_take (s : St) {m : Nat} (hm : m ≤ numFiles s.crash.files) :
    (openSt hash cap true s.crash).all.take m = (s.all.take m).map (openedChunk hash cap) ∧
    ((openSt hash cap true s.crash).all.take m).map (·.recs) = (durFiles s).take m := by
  have h : (openSt hash cap true s.crash).all.take m = (s.all.take m).map (openedChunk hash cap) := by
    have := numFiles_le_all s
    rw [open_all, List.take_append_of_le_length (by rw [List.length_map, List.length_take]; omega), ← List.map_take,
      List.take_take, Nat.min_eq_left hm]
  refine ⟨h, ?_⟩
  rw [h, List.map_map, durFiles, ← List.map_take]
  rfl

theorem open_memLog {s : St} (inv : Inv hash K cap s) : memLog (openSt hash cap true s.crash) = durLog s := by
  rw [memLog, open_all, List.map_append, logOf_append_empties _ _ (by simp), List.map_map, ← durLog_take hash K cap inv,
    durFiles, ← List.map_take]
  rfl

theorem kept_nonempty_lt {s : St} (inv : Inv hash K cap s) {j : Nat} {fl : List SplitFile}
    (hj : (keptFiles hash cap true s.crash)[j]? = some fl) (hne : fl ≠ []) : j < numFiles s.crash.files := by
  rw [keptFiles_eq, List.getElem?_map] at hj
  cases hc : s.all[j]? with
  | none => rw [hc] at hj; cases hj
  | some c =>
    rw [hc] at hj
    cases hj
    refine numFiles_created (f := c.crash) (by rw [crash_files, List.getElem?_map, hc]; rfl) ?_
    cases hcc : c.created with
    | true => exact hcc
    | false =>
      exact absurd (by simp only [(inv.chunks c (List.mem_of_getElem? hc)).nocreate hcc]; simp [checkHintG]) hne

theorem openedMax_spec {s : St} (inv : Inv hash K cap s) :
    openedMax hash cap true s.crash = (match usedDump s.crash with | some t => (t.tc, t.ts) | none => (0, -1)) ∨
    (openedMax hash cap true s.crash).1 < numFiles s.crash.files := by
  have key : ∀ (tc : Nat) (ts : Int), -1 ≤ ts →
      openMaxGo tc ts 0 (tc, ts) (keptFiles hash cap true s.crash) = (tc, ts) ∨
      (openMaxGo tc ts 0 (tc, ts) (keptFiles hash cap true s.crash)).1 < numFiles s.crash.files := fun tc ts hts =>
    (openMaxGo_spec tc ts hts _ 0 _).imp id fun ⟨j, fl, hj, hne, he⟩ => by
      have := kept_nonempty_lt hash K cap inv hj hne
      omega
  unfold openedMax
  cases hd : usedDump s.crash with
  | none => exact key 0 (-1) (by omega)
  | some t =>
    have hts := (inv.dump t (usedDump_some hd).1).1
    exact key t.tc t.ts (by omega)

theorem open_inv (hInj : InjOn hash K) (hcap : 1 ≤ cap) {s : St} (inv : Inv hash K cap s) (ht : s.torn = false) :
    Inv hash K cap (openSt hash cap true s.crash) := by
  have hnle := numFiles_le_all s
  have hplen : (openSt hash cap true s.crash).prev.length = numFiles s.crash.files := by
    rw [open_prev, List.length_map, List.length_take]
    omega
  have hlen : (openSt hash cap true s.crash).all.length = numFiles s.crash.files + 1 := by
    rw [St.all, List.length_append, hplen]; rfl
  have hconv : ∀ c ∈ s.all, ChunkOK hash K cap (openedChunk hash cap c) ∧ Flushed (openedChunk hash cap c) := fun c hc =>
    openedChunk_ok hash K cap hcap (inv.chunks c hc) ((torn_iff s).mp ht c hc)
  have hflush : ∀ m, m ≤ numFiles s.crash.files → ∀ c ∈ (openSt hash cap true s.crash).all.take m, Flushed c := by
    intro m hm c hc
    rw [(open_take hash cap s hm).1] at hc
    obtain ⟨c0, hc0, rfl⟩ := List.mem_map.mp hc
    exact (hconv c0 (List.mem_of_mem_take hc0)).2
  have hmax := openedMax_spec hash K cap inv
  refine ⟨?_, cur_fresh hash cap, ?_, ?_, fun h => (by cases h), ?_⟩
  · intro c hc
    rw [open_all] at hc
    rcases List.mem_append.mp hc with hc | hc
    · obtain ⟨c0, hc0, rfl⟩ := List.mem_map.mp hc
      exact (hconv c0 (List.mem_of_mem_take hc0)).1
    · rw [List.mem_singleton.mp hc]; exact chunkOK_fresh hash K cap
  · intro k hk
    rw [open_memLog hash K cap inv]
    exact open_tree_live hash K cap hInj hcap inv ht k hk
  · rw [openSt_maxDumped, hplen]
    rcases hmax with h | h
    · rw [h]
      cases hu : usedDump s.crash with
      | none => exact Nat.zero_le _
      | some t => exact Nat.le_of_lt (usedDump_some hu).2
    · exact Nat.le_of_lt h
  · intro d hd
    refine (dumpOK_take hash K).mpr ?_
    cases hu : usedDump s.crash with
    | some t =>
      -- the dump that was on disk: it knew `n` files; of these, the ones beyond `newHead` have no record
      have hd' : (openSt hash cap true s.crash).dump = some t := by simp [openSt, hu]
      rw [hd'] at hd
      cases hd
      obtain ⟨hdump, htn⟩ := usedDump_some hu
      obtain ⟨hts, n, htc, hn, _, hfl, htr⟩ := (dumpOK_take hash K).mp (inv.dump d hdump)
      have hm : min n (numFiles s.crash.files) ≤ numFiles s.crash.files := Nat.min_le_right _ _
      refine ⟨hts, _, Nat.lt_min.mpr ⟨htc, htn⟩, by omega, fun h => by omega, hflush _ hm, fun k hk => ?_⟩
      rw [htr k hk, (open_take hash cap s hm).2, logOf_take_min (dur_dropped hash K cap inv),
        durFiles_take hash K cap inv hfl]
    | none =>
      -- the dump written by the start itself: the tree just built, which knows every file that exists
      have hd' : (openSt hash cap true s.crash).dump =
          (if numFiles s.crash.files = 0 ∨ (openedMax hash cap true s.crash).2 < 0 then none
           else some { tc := (openedMax hash cap true s.crash).1, ts := (openedMax hash cap true s.crash).2,
                       tree := openedTree hash cap true s.crash }) := by simp [openSt, hu]
      rw [hd'] at hd
      split at hd
      · cases hd
      · next hg =>
        cases hd
        have hlt : (openedMax hash cap true s.crash).1 < numFiles s.crash.files := by
          rcases hmax with h | h
          · rw [hu] at h; exact absurd (Or.inr (by rw [h]; decide)) hg
          · exact h
        refine ⟨by simp only; omega, numFiles s.crash.files, hlt, by omega, fun h => by omega,
          hflush _ (Nat.le_refl _), fun k hk => ?_⟩
        rw [(open_take hash cap s (Nat.le_refl _)).2, durLog_take hash K cap inv]
        exact open_tree_live hash K cap hInj hcap inv ht k hk

end Open
end CrashHintLemmas
