/-
  The last record of a key file by file (`lastIn`; `lastDown b k n`: in the files `n-1, …, 0`), the shape in which
  `hintMgr.getItem` finds it (data files from the newest down), and its agreement with `lastOf k b.log`.
-/
import GoBeans.Model.Collide
import GoBeans.Lemmas.Log
namespace CollideLemmas
open Store Spec HintIndex Collide StoreLemmas

def lastIn (k : Key) (recs : List (Nat × Rec)) : Option (Nat × Rec) := (recs.filter (fun p => p.2.key = k)).getLast?

def lastDown (b : Bucket) (k : Key) : Nat → Option (Pos × Rec)
  | 0 => none
  | i + 1 =>
    match lastIn k (b.chunks i).recs with
    | some p => some (⟨i, p.1⟩, p.2)
    | none => lastDown b k i

theorem lastDown_succ (b : Bucket) (k : Key) (i : Nat) :
    lastDown b k (i + 1) = (match lastIn k (b.chunks i).recs with
      | some p => some (⟨i, p.1⟩, p.2)
      | none => lastDown b k i) := rfl

theorem lastOf_append (k : Key) (l1 l2 : List (Pos × Rec)) :
    lastOf k (l1 ++ l2) = (lastOf k l2).or (lastOf k l1) :=
  StoreLemmas.lastOf_append k l1 l2

theorem lastOf_mem {k : Key} {l : List (Pos × Rec)} {x : Pos × Rec} (h : lastOf k l = some x) : x ∈ l :=
  (StoreLemmas.lastOf_mem h).1

theorem lastOf_recsAt (b : Bucket) (k : Key) (i : Nat) :
    lastOf k (recsAt b i) = (lastIn k (b.chunks i).recs).map (fun p => (⟨i, p.1⟩, p.2)) := by
  unfold lastOf recsAt lastIn
  rw [List.filter_map, List.getLast?_map]
  rfl

theorem lastOf_range (b : Bucket) (k : Key) (n : Nat) :
    lastOf k ((List.range n).flatMap (recsAt b)) = lastDown b k n := by
  induction n with
  | zero => rfl
  | succ n ih =>
    rw [List.range_succ, List.flatMap_append, lastOf_append, ih]
    simp only [List.flatMap_cons, List.flatMap_nil, List.append_nil]
    rw [lastOf_recsAt, lastDown_succ]
    cases lastIn k (b.chunks n).recs with
    | none => simp
    | some p => simp

theorem lastOf_log (b : Bucket) (k : Key) : lastOf k b.log = lastDown b k (b.head + 1) := by
  rw [log_eq]; exact lastOf_range b k _

theorem lastDown_extend (b : Bucket) (k : Key) (n m : Nat) (hnm : n ≤ m) (he : ∀ c, n ≤ c → (b.chunks c).recs = []) :
    lastDown b k m = lastDown b k n := by
  induction hnm with
  | refl => rfl
  | step hle ih =>
    rw [lastDown_succ, he _ hle]
    exact ih

theorem lastDown_none {b : Bucket} {k : Key} (h : ∀ c, lastIn k (b.chunks c).recs = none) : ∀ n, lastDown b k n = none
  | 0 => rfl
  | n + 1 => by rw [lastDown_succ, h n]; exact lastDown_none h n

theorem lastIn_append (k : Key) (a b : List (Nat × Rec)) : lastIn k (a ++ b) = (lastIn k b).or (lastIn k a) := by
  unfold lastIn
  rw [List.filter_append, List.getLast?_append]

theorem lastIn_append_single (k : Key) (recs : List (Nat × Rec)) (x : Nat × Rec) :
    lastIn k (recs ++ [x]) = if x.2.key = k then some x else lastIn k recs := by
  rw [lastIn_append]
  by_cases h : x.2.key = k <;> simp [lastIn, List.filter, h]

theorem lastIn_mem {k : Key} {recs : List (Nat × Rec)} {p : Nat × Rec} (h : lastIn k recs = some p) : p ∈ recs ∧ p.2.key = k := by
  unfold lastIn at h
  have := List.mem_of_getLast? h
  rw [List.mem_filter] at this
  exact ⟨this.1, by simpa using this.2⟩

theorem lastIn_none {k : Key} {recs : List (Nat × Rec)} : lastIn k recs = none ↔ ∀ p ∈ recs, p.2.key ≠ k := by
  unfold lastIn
  rw [List.getLast?_eq_none_iff, List.filter_eq_nil_iff]
  simp only [decide_eq_true_eq, ne_eq]

section
variable (hash : Key → Nat)

/-- the hint lookup of a data file against the last record of the key in that file -/
def HintAt (k : Key) : Option Item → Option (Nat × Rec) → Prop
  | none, none => True
  | some it, some p => it.off = p.1 ∧ it.ver = p.2.ver ∧ it.key = k ∧ it.khash = hash k
  | _, _ => False

theorem hintAt_none {k : Key} {g : Option Item} (h : HintAt hash k g none) : g = none := by
  cases g with
  | none => rfl
  | some _ => exact h.elim

theorem hintAt_some {k : Key} {g : Option Item} {p : Nat × Rec} (h : HintAt hash k g (some p)) :
    ∃ it, g = some it ∧ it.off = p.1 ∧ it.ver = p.2.ver ∧ it.key = k ∧ it.khash = hash k := by
  cases g with
  | none => exact h.elim
  | some it => exact ⟨it, rfl, h⟩

theorem hintAt_mk (scan : Bool) (p : Nat × Rec) : HintAt hash p.2.key (some (mkItem hash scan p)) (some p) := by
  cases scan <;> exact ⟨rfl, rfl, rfl, rfl⟩

theorem hintAt_or {k : Key} {a b : Option Item} {a' b' : Option (Nat × Rec)} (h1 : HintAt hash k a a') (h2 : HintAt hash k b b') :
    HintAt hash k (a.or b) (a'.or b') := by
  cases a <;> cases a'
  · exact h2
  · exact h1.elim
  · exact h1.elim
  · exact h1

end

theorem mem_log_of_mem_recs {b : Bucket} (hp : PosInv b) {c o : Nat} {r : Rec} (hm : (o, r) ∈ (b.chunks c).recs) :
    ((⟨c, o⟩ : Pos), r) ∈ b.log :=
  mem_log.2 ⟨hp.le_head (List.ne_nil_of_mem hm), hm⟩

theorem lastOf_isSome_of_mem {l : List (Pos × Rec)} {p : Pos} {r : Rec} (hm : (p, r) ∈ l) : (lastOf r.key l).isSome = true :=
  Option.isSome_iff_ne_none.mpr fun h => (lastOf_none_iff _ _).mp h _ hm rfl

theorem log_as_fileLog (b : Bucket) (m : Nat) (hm : m ≤ b.head + 1) (he : ∀ j, m ≤ j → (b.chunks j).recs = []) :
    b.log = (List.range m).flatMap (fun i => fileLog i (b.chunks i).recs) := by
  rw [log_eq_range b m hm he]
  rfl

theorem log_nil_of (b : Bucket) (h : ∀ i, (b.chunks i).recs = []) : b.log = [] := by
  rw [log_as_fileLog b 0 (Nat.zero_le _) (fun j _ => h j)]
  rfl

theorem tree_none_of_log_nil {hash : Key → Nat} {K : Key → Prop} {b : Bucket} (lr : LastRec hash K b) (hl : b.log = []) (k : Key)
    (hk : K k) : AMap.get b.tree (hash k) = none := by
  rcases lr.last k hk with ⟨it, r, _, e2, _⟩ | ⟨e1, _⟩
  · rw [hl] at e2; cases e2
  · exact e1

theorem append_chunks (cfg : Store.Cfg) (b : Bucket) (r : Rec) (hp : PosInv b) :
    ((b.append cfg r).1.chunks (b.append cfg r).2.chunk).recs = (b.chunks (b.append cfg r).2.chunk).recs ++ [((b.append cfg r).2.off, r)]
    ∧ (∀ c, c ≠ (b.append cfg r).2.chunk → ((b.append cfg r).1.chunks c).recs = (b.chunks c).recs)
    ∧ ((b.append cfg r).2.chunk = b.head ∨ (b.append cfg r).2.chunk = b.head + 1)
    ∧ (b.append cfg r).1.head = (b.append cfg r).2.chunk
    ∧ (b.append cfg r).2.off = (b.chunks (b.append cfg r).2.chunk).size
    ∧ (b.append cfg r).2.off ≤ cfg.dataFileMax := by
  obtain ⟨b0, ck, s⟩ := append_shape cfg b r hp
  have hfit := s.fits
  rw [s.eq]
  simp only [chunks_pushRec, if_true]
  exact ⟨by rw [(s.quiet.files ck).1], fun c hc => by rw [if_neg hc, (s.quiet.files c).1], s.file, rfl, (s.quiet.files ck).2, by omega⟩

theorem append_size (cfg : Store.Cfg) (b : Bucket) (r : Rec) (hp : PosInv b) (c : Nat) :
    ((b.append cfg r).1.chunks c).size = if c = (b.append cfg r).2.chunk then (b.append cfg r).2.off + r.size else (b.chunks c).size := by
  obtain ⟨b0, ck, s⟩ := append_shape cfg b r hp
  rw [s.eq]
  simp only [chunks_pushRec]
  split
  · rfl
  · exact (s.quiet.files c).2
end CollideLemmas
