/-
  A pass over a range in which every record is already current releases nothing (C18, the second pass): every record is
  found newest and kept, and the release counters do not move.
-/
import GoBeans.Lemmas.GCAux
namespace StoreLemmas
open Store Spec

/-- everything still to be read in the range is current, and nothing has been released so far -/
structure Again (hash : Key → Nat) (begin stop : Nat) (s : GcSt) (src : Nat) (rest : List (Nat × Rec)) : Prop where
  cur : ∀ y ∈ tag src rest ++ postV s.b src, y.1.chunk ≤ stop → CurT hash begin s.b.tree y
  released : s.stats.numReleased = 0 ∧ s.stats.sizeReleased = 0

section AgainStep
variable {hash : Key → Nat} {K : Key → Prop} {P : Key → Int → Nat → Rec → Prop} {N : Key → Prop} {cfg : Store.Cfg}
  {begin stop : Nat}

theorem Again.same {s s1 : GcSt} {src : Nat} {rest : List (Nat × Rec)} (g : Again hash begin stop s src rest)
    (e : SameVlog s s1 src) (hs : s1.stats.numReleased = 0 ∧ s1.stats.sizeReleased = 0) :
    Again hash begin stop s1 src rest :=
  ⟨fun y hy hc => by rw [e.post] at hy; rw [e.tree]; exact g.cur y hy hc, hs⟩

/-- every record still to be read sits behind the current one in the virtual log, where repointing does not reach -/
theorem Again.keep {s : GcSt} {src off : Nat} {r : Rec} {rest : List (Nat × Rec)}
    (hn : ((vlog s src ((off, r) :: rest)).map (·.1)).Nodup) (g : Again hash begin stop s src ((off, r) :: rest))
    (hcur : CurT hash begin s.b.tree (({ chunk := src, off := off } : Pos), r)) :
    Again hash begin stop (keepRec hash s r) src rest := by
  rw [vlog_cons] at hn
  refine ⟨fun y hy hc => ?_, g.released⟩
  refine curT_repointed hn hcur _ (List.mem_append_right _ hy) (g.cur y ?_ hc)
  rcases List.mem_append.mp hy with hy | hy
  · exact List.mem_append_left _ (List.mem_cons_of_mem _ hy)
  · exact List.mem_append_right _ hy

theorem Again.record {s : GcSt} {src off : Nat} {r : Rec} {rest : List (Nat × Rec)}
    (h : SInv cfg s src ((off, r) :: rest)) (hn : ((vlog s src ((off, r) :: rest)).map (·.1)).Nodup) (hsrc : src ≤ stop)
    (g : Again hash begin stop s src ((off, r) :: rest)) :
    Again hash begin stop (gcRecord hash cfg begin src s off r) src rest := by
  have hcur : CurT hash begin s.b.tree (({ chunk := src, off := off } : Pos), r) :=
    g.cur _ (List.mem_append_left _ (mem_tag.mpr ⟨rfl, by simp⟩)) hsrc
  rw [gcRecord_keep hcur]
  obtain ⟨_, f2, _⟩ := fit_spec (recStats s r true) h
  refine (g.same f2 ?_).keep (f2.vlog _ ▸ hn) (by rw [f2.tree]; exact hcur)
  rw [fitSt_stats]
  simp [recStats, g.released.1, g.released.2]

theorem Again.next {s : GcSt} {src : Nat} (hlt : src < s.b.head) (g : Again hash begin stop s src []) {b' : Bucket}
    (c : Cleared s src b') : Again hash begin stop { s with b := b' } (src + 1) (b'.chunks (src + 1)).recs := by
  refine ⟨fun y hy hc => ?_, g.released⟩
  show CurT hash begin b'.tree y
  rw [c.tree]
  exact g.cur y (unread_next hlt c.head c.other ▸ hy) hc

theorem Again.start {b : Bucket} (hb : begin ≤ b.head) (d : Nat) (hcur : RangeCur hash begin stop b) :
    Again hash begin stop (gcBegin b d begin {}) begin ((gcBegin b d begin {}).b.chunks begin).recs := by
  refine ⟨fun y hy hc => ?_, by rw [gcBegin_stats]; exact ⟨rfl, rfl⟩⟩
  rw [gcBegin_tree]
  refine hcur y ?_ (le_chunk_of_mem_unread hy) hc
  rw [← vlog_gcBegin b d {} hb]
  exact List.mem_append_right _ hy

theorem gcRun_releases_nothing (hInj : InjOn hash K) (cfg : Store.Cfg) {b : Bucket} (w : WF cfg b) (begin stop : Nat) (hbs : begin ≤ stop)
    (hs : stop < b.head) (hv : VInv hash K P N b.log b.tree) (hcur : RangeCur hash begin stop b) :
    (gcRun hash cfg b begin stop).2.numReleased = 0 ∧ (gcRun hash cfg b begin stop).2.sizeReleased = 0 := by
  rw [gcRun_eq]
  have hb : begin ≤ b.head := by omega
  exact (files_induct
    (I := fun s src rest => PInv hash K P N cfg begin b (gcDst cfg b begin) s src rest ∧ Again hash begin stop s src rest)
    hbs (fun _ _ _ h => h.1.sinv) (fun _ _ _ _ _ hsrc h => ⟨h.1.record hInj, h.2.record h.1.sinv h.1.vinv.nodup hsrc⟩)
    (fun _ _ _ hsrc h c => ⟨h.1.next (by rw [h.1.head]; omega) c, h.2.next (by rw [h.1.head]; omega) c⟩)
    ⟨PInv.start w hb (gcDst_spec cfg b begin).1 (gcDst_spec cfg b begin).2 hv {}, Again.start hb _ hcur⟩).1.2.released

end AgainStep

end StoreLemmas
