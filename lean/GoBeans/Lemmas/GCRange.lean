/-
  Range resolution of a GC request (`gcCheckRange`): every accepted request resolves to  start ≤ end < head,  so the
  file receiving appends is never inside the range.  The first destination (`gcDst`) lies at or below the range, with
  nothing but empty files between.
-/
import GoBeans.Model.GC
namespace StoreLemmas
open Store

theorem gcBack_le (b : Bucket) (start : Nat) : ∀ fuel e, gcBack b start fuel e ≤ e := by
  intro fuel
  induction fuel with
  | zero => intro e; exact Int.le_refl e
  | succ f ih =>
    intro e
    unfold gcBack
    split
    · exact Int.le_trans (ih (e - 1)) (by omega)
    · exact Int.le_refl e

theorem gcScan_le (b : Bucket) (start : Nat) (now days : Int) :
    ∀ fuel next r, gcScan b start now days fuel next = .ok r → r ≤ next - 1 := by
  intro fuel
  induction fuel with
  | zero => intro next r h; simp [gcScan] at h
  | succ f ih =>
    intro next r h
    unfold gcScan at h
    split at h
    · cases h
    · simp only [] at h
      split at h
      · exact Int.le_trans (ih _ _ h) (by omega)
      · split at h
        · cases h
        · split at h
          · cases h; exact gcBack_le b start _ _
          · exact Int.le_trans (ih _ _ h) (by omega)

theorem gcCheckRange_range (cfg : Cfg) (b : Bucket) (g : GcArgs) (s e : Nat)
    (h : gcCheckRange cfg b g = .ok (s, e)) : s ≤ e ∧ e < b.head := by
  unfold gcCheckRange at h
  split at h
  · cases h
  · rename_i s' hs
    split at h
    · cases h
    · rename_i e' he
      split at h
      · cases h
      · rename_i hlt
        simp only [Except.ok.injEq, Prod.mk.injEq] at h
        obtain ⟨rfl, rfl⟩ := h
        unfold gcCheckEnd at he
        have hle := gcScan_le b s' g.now _ _ _ _ he
        have hge : (s' : Int) ≤ e' := by omega
        constructor
        · omega
        · split at hle <;> omega

theorem gcDst_go_spec (cfg : Cfg) (b : Bucket) (start : Nat) :
    ∀ (fuel i : Nat), i < start → (∀ j, i < j → j < start → (b.chunks j).size = 0) →
      gcDst.go cfg b start fuel i ≤ start
      ∧ ∀ j, gcDst.go cfg b start fuel i < j → j < start → (b.chunks j).size = 0
  | 0, i, hi, hb => by
    unfold gcDst.go
    exact ⟨Nat.le_refl _, fun j h1 h2 => by omega⟩
  | f + 1, i, hi, hb => by
    unfold gcDst.go
    simp only
    by_cases hsz : (b.chunks i).size > 0
    · simp only [hsz, if_true]
      split
      · exact ⟨by omega, hb⟩
      · split
        · exact ⟨by omega, fun j h1 h2 => hb j (by omega) h2⟩
        · exact ⟨Nat.le_refl _, fun j h1 h2 => by omega⟩
    · simp only [hsz, if_false]
      split
      · exact ⟨Nat.le_refl _, fun j h1 h2 => by omega⟩
      · rename_i hi0
        apply gcDst_go_spec cfg b start f (i - 1) (by omega)
        intro j h1 h2
        by_cases hj : j = i
        · subst hj; omega
        · exact hb j (by omega) h2

theorem gcDst_spec (cfg : Cfg) (b : Bucket) (start : Nat) :
    gcDst cfg b start ≤ start ∧ ∀ j, gcDst cfg b start < j → j < start → (b.chunks j).size = 0 := by
  unfold gcDst
  by_cases h0 : start = 0
  · simp only [h0, if_true]
    exact ⟨Nat.le_refl _, fun j h1 h2 => by omega⟩
  · simp only [h0, if_false]
    exact gcDst_go_spec cfg b start start (start - 1) (by omega) (fun j h1 h2 => by omega)

end StoreLemmas
