/-
  The trackers `Trk` / `TrkR` of the classes `Safe` / `SafeR` by themselves; a history of `Safe` is one of `SafeR`
  (`trkR_run_of_run`).
-/
import GoBeans.Lemmas.CollideSafeR
namespace CollideLemmas
open Store Spec HintIndex Collide

section
variable (hash : Key → Nat)

theorem afterGet_reg (t : Trk) (k : Key) (h : k ∈ t.reg) : t.afterGet hash k = t := by
  unfold Trk.afterGet
  rw [if_neg (fun c => c.2 h)]

theorem afterGet_unwritten (t : Trk) (k : Key) (h : k ∉ t.written) : t.afterGet hash k = t := by
  unfold Trk.afterGet
  rw [if_neg (fun c => h c.1)]

theorem afterGet_m (t : Trk) (k : Key) : (t.afterGet hash k).m = t.m := by
  unfold Trk.afterGet
  split
  · split
    · split <;> rfl
    · rfl
  · rfl

theorem trk_eta (t : Trk) : ({ m := t.m, written := t.written, reg := t.reg, owner := t.owner } : Trk) = t := by cases t; rfl

theorem mem_others {t : Trk} {o k : Key} : o ∈ t.others hash k ↔ o ∈ t.written ∧ hash o = hash k ∧ o ≠ k := by
  simp only [Trk.others, List.mem_filter, Bool.and_eq_true, beq_iff_eq, bne_iff_ne]

theorem eq_of_others_nil {t : Trk} {o k : Key} (how : o ∈ t.written) (hh : hash o = hash k) (hn : t.others hash k = []) : o = k := by
  by_cases e : o = k
  · exact e
  · have := (mem_others hash).mpr ⟨how, hh, e⟩
    rw [hn] at this; cases this

theorem reg_afterWrite (t : Trk) (k0 : Key) (m' : KV) {k : Key} (hk : k ∈ t.reg) : k ∈ (t.afterWrite hash k0 m').reg := by
  unfold Trk.afterWrite
  simp only
  split
  · exact List.mem_cons_of_mem _ hk
  · exact hk

/-- `Trk.allDetected` as a proposition -/
def Trk.AllDet (t : Trk) : Prop := ∀ k o, k ∈ t.written → o ∈ t.written → hash o = hash k → o ≠ k → k ∈ t.reg

theorem allDetected_spec (t : Trk) (h : t.allDetected hash = true) : t.AllDet hash := by
  intro k o hk ho hh hne
  unfold Trk.allDetected at h
  rw [List.all_eq_true] at h
  have := h k hk
  simp only [Bool.or_eq_true, List.isEmpty_iff, List.contains_eq_mem, decide_eq_true_eq] at this
  rcases this with e | e
  · exact absurd (eq_of_others_nil hash ho hh e) hne
  · simpa using e

theorem alld_afterWrite (t : Trk) (k0 : Key) (m' : KV) (hall : t.AllDet hash)
    (hregw : ∀ k, k ∈ t.reg → k ∈ t.written) (hwok : t.writeOK hash k0 = true) : (t.afterWrite hash k0 m').AllDet hash := by
  intro k o hk ho hoh hok
  have hk' : k ∈ k0 :: t.written := hk
  have ho' : o ∈ k0 :: t.written := ho
  -- a written hash-mate of the new key: its hash is known to the table, so the new key is registered
  have hD : ∀ o', o' ∈ t.written → hash o' = hash k0 → o' ≠ k0 →
      k0 ∈ (t.afterWrite hash k0 m').reg ∧ ∃ k1 ∈ t.reg, hash k1 = hash k0 := by
    intro o' h1 h2 h3
    have hd : t.det hash (hash k0) = true := by
      unfold Trk.writeOK at hwok
      rcases (Bool.or_eq_true _ _).mp hwok with h | h
      · exact absurd (eq_of_others_nil hash h1 h2 (List.isEmpty_iff.mp h)) h3
      · exact h
    refine ⟨by unfold Trk.afterWrite; simp [hd], ?_⟩
    unfold Trk.det at hd
    rw [List.any_eq_true] at hd
    obtain ⟨k1, hk1, hk1h⟩ := hd
    exact ⟨k1, hk1, by simpa using hk1h⟩
  rcases List.mem_cons.mp hk' with rfl | hkw
  · exact (hD o ((List.mem_cons.mp ho').resolve_left hok) hoh hok).1
  · rcases List.mem_cons.mp ho' with rfl | how
    · -- the new key is the hash-mate: the table knows the hash through a key that is `k` or a written hash-mate of `k`
      obtain ⟨_, k1, hk1, hk1h⟩ := hD k hkw hoh.symm (Ne.symm hok)
      by_cases e : k1 = k
      · subst e; exact reg_afterWrite hash t _ m' hk1
      · exact reg_afterWrite hash t _ m' (hall k k1 hkw (hregw k1 hk1) (by rw [hk1h, hoh]) e)
    · exact reg_afterWrite hash t _ m' (hall k o hkw how hoh hok)

theorem writeOK_of_delete_ok (t : Trk) (k : Key) (hok : k ∈ t.reg ∨ t.others hash k = []) : t.writeOK hash k = true := by
  unfold Trk.writeOK
  rcases hok with h | h
  · have : t.det hash (hash k) = true := by
      unfold Trk.det; rw [List.any_eq_true]; exact ⟨k, h, by simp⟩
    simp [this]
  · simp [h]

theorem writeOK_afterGet (t : Trk) (k : Key) (h : t.writeOK hash k = true) : (t.afterGet hash k).writeOK hash k = true := by
  unfold Trk.afterGet
  split
  · split
    · split
      · exact h
      · unfold Trk.writeOK Trk.others Trk.det at *
        simp only [Bool.or_eq_true, List.isEmpty_iff, List.any_eq_true, List.any_cons] at h ⊢
        rcases h with h | ⟨y, hy, hyh⟩
        · exact Or.inl h
        · exact Or.inr (Or.inr (Or.inr ⟨y, hy, hyh⟩))
    · exact h
  · exact h

/-- the guard `TrkR.step` puts on a set and on an incr -/
theorem guard_some {x x' : TrkR} {k : Key} {o : Option TrkR}
    (h : (if (x.restarted && !(x.t.writeOK hash k)) = true then none else o) = some x') :
    o = some x' ∧ (x.restarted = true → x.t.writeOK hash k = true) := by
  split at h
  · cases h
  · rename_i hc
    refine ⟨h, fun hr => ?_⟩
    cases hwk : x.t.writeOK hash k with
    | true => rfl
    | false => exact absurd (by simp [hr, hwk]) hc

theorem trkR_run_of_run : ∀ (ops : List Collide.Op) (t t' : Trk), Trk.run hash t ops = some t' →
    TrkR.run hash { t := t, restarted := false } ops = some { t := t', restarted := false } := by
  intro ops
  induction ops with
  | nil => intro t t' h; cases h; rfl
  | cons op ops ih =>
    intro t t' h
    unfold Trk.run at h
    cases hs : t.step hash op with
    | none => rw [hs] at h; cases h
    | some t1 =>
      rw [hs] at h
      have hstep : TrkR.step hash { t := t, restarted := false } op = some { t := t1, restarted := false } := by
        cases op with
        | reopen kt => simp [Trk.step] at hs
        | hintMerge => simp [Trk.step] at hs
        | gc g m => simp [Trk.step] at hs
        | _ => simp [TrkR.step, hs]
      unfold TrkR.run
      rw [hstep]
      exact ih t1 t' h

end
end CollideLemmas
