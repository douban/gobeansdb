/-
  Lemmas about Model/Tree.lean (C08).  Leaf bookkeeping: `Leaf.set` and `Leaf.remove` keep `LeafInv` (count and hash of
  a `Leaf` are the sums over its live items).  Specification: `nodeSum` is invariant under permutation of the content,
  and its count is the number of live entries under the prefix (`node_count`, over the hex-digit arithmetic from
  `mul16_add_div` on).  At the end `digitsVal` and `listBucket_at`, for Lemmas/HTreeImpl*.lean.
-/
import GoBeans.Model.Tree
namespace TreeLemmas
open Tree

def liveCount (l : List Ent) : Nat := (l.filter (fun e => decide (e.ver > 0))).length
def hashSum (l : List Ent) : Nat := ((l.filter (fun e => decide (e.ver > 0))).map contrib).sum

theorem liveCount_cons (e : Ent) (l : List Ent) : liveCount (e :: l) = (if e.ver > 0 then 1 else 0) + liveCount l := by
  unfold liveCount
  rw [List.filter_cons]
  split
  · rename_i h; rw [if_pos (of_decide_eq_true h), List.length_cons, Nat.add_comm]
  · rename_i h; rw [if_neg (fun h' => h (decide_eq_true h')), Nat.zero_add]

theorem hashSum_cons (e : Ent) (l : List Ent) :
    hashSum (e :: l) = (if e.ver > 0 then contrib e else 0) + hashSum l := by
  unfold hashSum
  rw [List.filter_cons]
  split
  · rename_i h; rw [if_pos (of_decide_eq_true h), List.map_cons, List.sum_cons]
  · rename_i h; rw [if_neg (fun h' => h (decide_eq_true h')), Nat.zero_add]

theorem liveCount_perm {a b : List Ent} (h : a.Perm b) : liveCount a = liveCount b := (h.filter _).length_eq

theorem hashSum_perm {a b : List Ent} (h : a.Perm b) : hashSum a = hashSum b := ((h.filter _).map contrib).sum_nat

theorem leafSum_fold (l : List Ent) (c h : Nat) :
    l.foldl (fun (acc : Nat × Nat) e => if e.ver > 0 then (acc.1 + 1, (acc.2 + contrib e) % M16) else acc) (c, h % M16)
      = (c + liveCount l, (h + hashSum l) % M16) := by
  induction l generalizing c h with
  | nil => rfl
  | cons e l ih =>
    rw [List.foldl_cons, liveCount_cons, hashSum_cons]
    split
    · rw [Nat.mod_add_mod, ih, Nat.add_assoc, Nat.add_assoc]
    · rw [ih, Nat.zero_add, Nat.zero_add]

theorem leafSum_eq (l : List Ent) : leafSum l = (liveCount l, hashSum l % M16) := by
  have := leafSum_fold l 0 0
  rwa [Nat.zero_add, Nat.zero_add] at this

def isLive (e : Ent) : Bool := decide (e.ver > 0)

/-- `nodup` is part of the invariant because `setToLeaf` / `remvoeFromLeaf` replace or drop items BY KEY HASH: only with
    distinct key hashes do they act on the one item `find` returned (`find_split`) -/
structure LeafInv (lf : Leaf) : Prop where
  count : lf.count = liveCount lf.items
  hash : lf.hash = hashSum lf.items % M16
  nodup : (lf.items.map (·.khash)).Nodup

theorem leaf_init : LeafInv {} := ⟨rfl, rfl, List.nodup_nil⟩

theorem LeafInv.summary {lf : Leaf} (inv : LeafInv lf) : (lf.count, lf.hash) = leafSum lf.items := by
  rw [leafSum_eq, ← inv.count, ← inv.hash]

theorem find_none_iff (lf : Leaf) (kh : Nat) : lf.find kh = none ↔ ∀ x ∈ lf.items, x.khash ≠ kh := by
  unfold Leaf.find
  rw [List.find?_eq_none]
  simp only [beq_iff_eq]

theorem find_khash (lf : Leaf) (kh : Nat) (it : Ent) (h : lf.find kh = some it) : it.khash = kh ∧ it ∈ lf.items := by
  unfold Leaf.find at h
  have h1 := List.find?_some h
  exact ⟨beq_iff_eq.mp h1, List.mem_of_find?_eq_some h⟩

theorem filter_ne_self (l : List Ent) (kh : Nat) (h : ∀ x ∈ l, x.khash ≠ kh) : l.filter (fun x => x.khash != kh) = l :=
  List.filter_eq_self.mpr (fun x hx => bne_iff_ne.mpr (h x hx))

theorem find_split (lf : Leaf) (kh : Nat) (o : Ent) (h : lf.find kh = some o) (hn : (lf.items.map (·.khash)).Nodup) :
    ∃ pre post, lf.items = pre ++ o :: post ∧
      lf.items.filter (fun x => x.khash != kh) = pre ++ post ∧
      ∀ e : Ent, e.khash = kh → lf.items.map (fun x => if x.khash == e.khash then e else x) = pre ++ e :: post := by
  unfold Leaf.find at h
  obtain ⟨hk, pre, post, hl, hpre⟩ := List.find?_eq_some_iff_append.mp h
  have hk : o.khash = kh := beq_iff_eq.mp hk
  have hpre : ∀ x ∈ pre, x.khash ≠ kh := fun x hx => bne_iff_ne.mp (by simpa using hpre x hx)
  have hpost : ∀ x ∈ post, x.khash ≠ kh := by
    intro x hx e
    rw [hl, List.map_append, List.map_cons] at hn
    exact (List.nodup_cons.mp (List.nodup_append.mp hn).2.1).1 (List.mem_map.mpr ⟨x, hx, by rw [e, hk]⟩)
  refine ⟨pre, post, hl, ?_, ?_⟩
  · rw [hl, List.filter_append, List.filter_cons, filter_ne_self pre kh hpre, filter_ne_self post kh hpost,
      if_neg (by rw [hk]; simp)]
  · intro e he
    have hid : ∀ l : List Ent, (∀ x ∈ l, x.khash ≠ kh) → l.map (fun x => if x.khash == e.khash then e else x) = l := by
      intro l hl
      conv => rhs; rw [← List.map_id l]
      exact List.map_congr_left (fun x hx => if_neg (by rw [he]; simpa using hl x hx))
    rw [hl, List.map_append, List.map_cons, hid pre hpre, hid post hpost, if_pos (by rw [hk, he]; simp)]

theorem remove_items (lf : Leaf) (kh : Nat) : (lf.remove kh).items = lf.items.filter (fun x => x.khash != kh) := by
  unfold Leaf.remove
  cases hf : lf.find kh with
  | none => exact (filter_ne_self _ _ ((find_none_iff lf kh).1 hf)).symm
  | some o => rfl

theorem set_items_perm (lf : Leaf) (e : Ent) (hn : (lf.items.map (·.khash)).Nodup) :
    (lf.set e).items.Perm (e :: lf.items.filter (fun x => x.khash != e.khash)) := by
  cases hf : lf.find e.khash with
  | none =>
    simp only [Leaf.set, hf]
    rw [filter_ne_self _ _ ((find_none_iff lf e.khash).1 hf)]
    exact List.perm_append_comm
  | some o =>
    obtain ⟨pre, post, _, hfil, hmap⟩ := find_split lf e.khash o hf hn
    simp only [Leaf.set, hf]
    rw [hfil, hmap e rfl]
    exact List.perm_middle

theorem set_items_self (lf : Leaf) (it : Ent) (hn : (lf.items.map (·.khash)).Nodup) (hf : lf.find it.khash = some it) :
    (lf.set it).items = lf.items := by
  obtain ⟨pre, post, hl, _, hmap⟩ := find_split lf it.khash it hf hn
  simp only [Leaf.set, hf]
  rw [hmap it rfl, hl]

theorem nodup_filter_ne (lf : Leaf) (kh : Nat) (hn : (lf.items.map (·.khash)).Nodup) :
    ((lf.items.filter (fun x => x.khash != kh)).map (·.khash)).Nodup :=
  List.Nodup.sublist (List.filter_sublist.map _) hn

/-- what an entry adds to its leaf's hash before the factor `lo16(khash >> 32)` -/
def wh (e : Ent) : Nat := if e.ver > 0 then e.vhash % M16 else 0

theorem wh_lt (e : Ent) : wh e < M16 := by
  unfold wh
  split
  · exact Nat.mod_lt _ (by decide)
  · decide

theorem contrib_wh (e : Ent) : (if e.ver > 0 then contrib e else 0) % M16 = (wh e * ((e.khash / 2^32) % M16)) % M16 := by
  unfold wh contrib
  split
  · rw [Nat.mod_mod, Nat.mul_mod, Nat.mod_mod]
  · rw [Nat.zero_mul]

/-- the uint16 update `hash += (new - old) * k` of `setToLeaf`: `S`, `A` are `wh` of the old and the new item, `So`, `Ae`
    ANY numbers congruent to `S * k`, `A * k` (in the use: `contrib` of the item, or 0), `R` the sum over the other items -/
theorem hash_update (R S A k So Ae : Nat) (hS : S < M16) (hSo : So % M16 = (S * k) % M16) (hAe : Ae % M16 = (A * k) % M16) :
    ((So + R) % M16 + ((A + M16 - S) % M16) * k) % M16 = (Ae + R) % M16 := by
  have hle : S * k ≤ (A + M16) * k := Nat.mul_le_mul_right k (by omega)
  rw [Nat.add_mod _ (_ % M16 * k), Nat.mul_mod, Nat.mod_mod, Nat.mod_mod, ← Nat.mul_mod, ← Nat.add_mod, Nat.add_assoc,
    Nat.add_mod_eq_add_mod_right _ hSo, Nat.add_mod_eq_add_mod_right _ hAe, Nat.sub_mul]
  have : S * k + (R + ((A + M16) * k - S * k)) = A * k + R + M16 * k := by
    rw [Nat.add_mul] at hle ⊢; omega
  rw [this, Nat.add_mul_mod_self_left]

theorem hash_remove (R X Y : Nat) (h : X % M16 = Y % M16) : ((X + R) % M16 + M16 - Y % M16) % M16 = R % M16 := by
  unfold M16 at *
  omega

theorem LeafInv.split {lf : Leaf} (inv : LeafInv lf) {kh : Nat} {o : Ent} (hf : lf.find kh = some o) :
    lf.count = (if o.ver > 0 then 1 else 0) + liveCount (lf.items.filter (fun x => x.khash != kh)) ∧
    lf.hash = ((if o.ver > 0 then contrib o else 0) + hashSum (lf.items.filter (fun x => x.khash != kh))) % M16 := by
  obtain ⟨pre, post, hl, hfil, _⟩ := find_split lf kh o hf inv.nodup
  have hp : lf.items.Perm (o :: lf.items.filter (fun x => x.khash != kh)) := by
    rw [hfil, hl]; exact List.perm_middle
  exact ⟨by rw [inv.count, liveCount_perm hp, liveCount_cons], by rw [inv.hash, hashSum_perm hp, hashSum_cons]⟩

/-- Up to order the new items are `e` followed by the old items with other key hashes (`set_items_perm`), and the old
    count and hash split the same way at the item found (`LeafInv.split`).  The model's `lf.count + addC - subC` does
    not truncate: the split gives `lf.count ≥ 1` when a live item is replaced. -/
theorem leaf_set_inv (lf : Leaf) (e : Ent) (inv : LeafInv lf) : LeafInv (lf.set e) := by
  have hp := set_items_perm lf e inv.nodup
  have hn : ((lf.set e).items.map (·.khash)).Nodup := by
    rw [(hp.map _).nodup_iff, List.map_cons, List.nodup_cons]
    refine ⟨fun h => ?_, nodup_filter_ne lf _ inv.nodup⟩
    obtain ⟨x, hx, hk⟩ := List.mem_map.mp h
    exact bne_iff_ne.mp (List.mem_filter.mp hx).2 hk
  cases hf : lf.find e.khash with
  | none =>
    rw [filter_ne_self _ _ ((find_none_iff lf e.khash).1 hf)] at hp
    refine ⟨?_, ?_, hn⟩
    · rw [liveCount_perm hp, liveCount_cons, ← inv.count]
      simp only [Leaf.set, hf]
      omega
    · rw [hashSum_perm hp, hashSum_cons]
      simp only [Leaf.set, hf]
      have := hash_update (hashSum lf.items) 0 (wh e) ((e.khash / 2 ^ 32) % M16) 0 _ (by decide) (by rw [Nat.zero_mul])
        (contrib_wh e)
      rw [Nat.zero_add, ← inv.hash] at this
      exact this
  | some o =>
    obtain ⟨hc, hh⟩ := inv.split hf
    have hk := (find_khash _ _ _ hf).1
    refine ⟨?_, ?_, hn⟩
    · rw [liveCount_perm hp, liveCount_cons]
      simp only [Leaf.set, hf, apply_ite Prod.fst]
      omega
    · rw [hashSum_perm hp, hashSum_cons]
      simp only [Leaf.set, hf, apply_ite Prod.snd]
      rw [hh]
      exact hash_update _ (wh o) (wh e) ((e.khash / 2 ^ 32) % M16) _ _ (wh_lt o) (by rw [← hk]; exact contrib_wh o)
        (contrib_wh e)

theorem leaf_remove_inv (lf : Leaf) (kh : Nat) (inv : LeafInv lf) : LeafInv (lf.remove kh) := by
  cases hf : lf.find kh with
  | none => unfold Leaf.remove; rw [hf]; exact inv
  | some o =>
    obtain ⟨hc, hh⟩ := inv.split hf
    have hk := (find_khash _ _ _ hf).1
    have hw := contrib_wh o
    rw [hk] at hw
    unfold wh at hw
    refine ⟨?_, ?_, ?_⟩ <;> rw [remove_items]
    · simp only [Leaf.remove, hf]
      by_cases hv : o.ver > 0
      · -- `hc` gives `lf.count ≥ 1`: the model's `lf.count - 1` does not truncate
        rw [if_pos hv] at hc ⊢; omega
      · rw [if_neg hv] at hc ⊢; omega
    · simp only [Leaf.remove, hf]
      by_cases hv : o.ver > 0
      · simp only [if_pos hv] at hh hw ⊢
        rw [hh]; exact hash_remove _ _ _ hw
      · rw [if_neg hv, Nat.zero_add] at hh
        rw [if_neg hv]; exact hh
    · exact nodup_filter_ne lf kh inv.nodup

-- the histories of `C08_leaf_summary`
inductive LeafOp | set (e : Ent) | remove (kh : Nat)
def applyOp (lf : Leaf) : LeafOp → Leaf
  | .set e => lf.set e
  | .remove kh => lf.remove kh

theorem leaf_reachable_inv (ops : List LeafOp) : LeafInv (ops.foldl applyOp {}) :=
  List.foldlRecOn ops applyOp leaf_init fun lf h op _ => by
    cases op with
    | set e => exact leaf_set_inv lf e h
    | remove kh => exact leaf_remove_inv lf kh h

theorem nodeSum_perm {a b : Content} (h : a.Perm b) : ∀ (below n p : Nat), nodeSum a n p below = nodeSum b n p below := by
  intro below
  induction below with
  | zero =>
    intro n p
    have hf : (under a n p).Perm (under b n p) := h.filter _
    show leafSum _ = leafSum _
    rw [leafSum_eq, leafSum_eq, liveCount_perm hf, hashSum_perm hf]
  | succ k ih =>
    intro n p
    unfold nodeSum
    have : (List.range 16).map (fun i => nodeSum a (n + 1) (p * 16 + i) k) = (List.range 16).map (fun i => nodeSum b (n + 1) (p * 16 + i) k) :=
      List.map_congr_left (fun i _ => ih (n + 1) (p * 16 + i))
    rw [this]

theorem foldl_add_sum (l : List (Nat × Nat)) (a : Nat) : l.foldl (fun a x => a + x.1) a = a + (l.map (·.1)).sum := by
  induction l generalizing a with
  | nil => rfl
  | cons x l ih => rw [List.foldl_cons, ih, List.map_cons, List.sum_cons, Nat.add_assoc]

theorem mul16_add_div (a d : Nat) (hd : d < 16) : (a * 16 + d) / 16 = a := by
  rw [Nat.mul_comm, Nat.mul_add_div (by decide), Nat.div_eq_of_lt hd, Nat.add_zero]

/-- the digit is `pathDigit` of Model/HTreeImpl.lean -/
theorem topDigits_step (kh n : Nat) (hn : n < 16) : topDigits kh (n + 1) = topDigits kh n * 16 + (kh / 16 ^ (15 - n)) % 16 := by
  unfold topDigits
  rw [show 16 - (n + 1) = 15 - n from Nat.add_sub_add_right 15 1 n,
    show 16 - n = (15 - n) + 1 from Nat.succ_sub (Nat.le_of_lt_succ hn), Nat.pow_succ, ← Nat.div_div_eq_div_mul]
  exact (Nat.div_add_mod' _ 16).symm

theorem topDigits_succ (kh n : Nat) (hn : n < 16) : topDigits kh (n + 1) / 16 = topDigits kh n := by
  rw [topDigits_step kh n hn, mul16_add_div _ _ (Nat.mod_lt _ (by decide))]

theorem topDigits_shift (kh n L : Nat) (h1 : n ≤ L) (h2 : L ≤ 16) : topDigits kh L / 16 ^ (L - n) = topDigits kh n := by
  unfold topDigits
  rw [Nat.div_div_eq_div_mul, ← Nat.pow_add, Nat.sub_add_sub_cancel h2 h1]

theorem if_iff {α : Type} {p q : Prop} [Decidable p] [Decidable q] (h : p ↔ q) (a b : α) :
    (if p then a else b) = if q then a else b :=
  ite_congr (propext h) (fun _ => rfl) (fun _ => rfl)

theorem sum_one_hot (k r v : Nat) : ((List.range k).map (fun i => if r = i then v else 0)).sum = if r < k then v else 0 := by
  induction k with
  | zero => rfl
  | succ k ih =>
    rw [List.range_succ, List.map_append, List.sum_append, ih]
    simp only [List.map_cons, List.map_nil, List.sum_cons, List.sum_nil]
    rcases Nat.lt_trichotomy r k with h | h | h
    · rw [if_pos h, if_neg (Nat.ne_of_lt h), if_pos (Nat.lt_succ_of_lt h)]; rfl
    · rw [if_neg (h ▸ Nat.lt_irrefl r), if_pos h, if_pos (h ▸ Nat.lt_succ_self r), Nat.zero_add]; rfl
    · rw [if_neg (Nat.lt_asymm h), if_neg (Nat.ne_of_gt h), if_neg (Nat.not_lt.mpr (Nat.succ_le_of_lt h))]; rfl

theorem digit_split (t p i : Nat) (hi : i < 16) : t = p * 16 + i ↔ t / 16 = p ∧ t % 16 = i := by
  constructor
  · rintro rfl
    exact ⟨mul16_add_div p i hi, by rw [Nat.mul_comm, Nat.mul_add_mod, Nat.mod_eq_of_lt hi]⟩
  · rintro ⟨rfl, rfl⟩
    exact (Nat.div_add_mod' t 16).symm

theorem child_indicator (t p v : Nat) :
    ((List.range 16).map (fun i => if t == p * 16 + i then v else 0)).sum = (if t / 16 == p then v else 0) := by
  -- index 16, outside the range, stands for "no child"
  have hcongr : (List.range 16).map (fun i => if t == p * 16 + i then v else 0)
      = (List.range 16).map (fun i => if (if t / 16 = p then t % 16 else 16) = i then v else 0) := by
    apply List.map_congr_left
    intro i hi
    have hs := digit_split t p i (List.mem_range.mp hi)
    by_cases hp : t / 16 = p
    · rw [if_pos hp]
      exact if_iff (beq_iff_eq.trans (hs.trans ⟨fun h => h.2, fun h => ⟨hp, h⟩⟩)) _ _
    · rw [if_neg hp, if_neg (fun h => hp (hs.mp (beq_iff_eq.mp h)).1), if_neg (Nat.ne_of_gt (List.mem_range.mp hi))]
  rw [hcongr, sum_one_hot]
  by_cases hp : t / 16 = p
  · rw [if_pos hp, if_pos (Nat.mod_lt _ (by decide)), if_pos (beq_iff_eq.mpr hp)]
  · rw [if_neg hp, if_neg (by decide), if_neg (fun h' => hp (beq_iff_eq.mp h'))]

theorem sum_map_add (f g : Nat → Nat) (l : List Nat) : (l.map (fun i => f i + g i)).sum = (l.map f).sum + (l.map g).sum := by
  induction l with
  | nil => rfl
  | cons x l ih => rw [List.map_cons, List.map_cons, List.map_cons, List.sum_cons, List.sum_cons, List.sum_cons, ih]; omega

theorem liveCount_under_cons (e : Ent) (c : Content) (m q : Nat) :
    liveCount (under (e :: c) m q)
      = (if topDigits e.khash m == q then (if e.ver > 0 then 1 else 0) else 0) + liveCount (under c m q) := by
  unfold under
  rw [List.filter_cons]
  split
  · rw [liveCount_cons]
  · rw [Nat.zero_add]

theorem liveCount_children (c : Content) (n p : Nat) (hn : n < 16) :
    ((List.range 16).map (fun i => liveCount (under c (n + 1) (p * 16 + i)))).sum = liveCount (under c n p) := by
  induction c with
  | nil => exact (by decide : ((List.range 16).map (fun _ => 0)).sum = 0)
  | cons e c ih =>
    rw [liveCount_under_cons, ← ih, ← topDigits_succ e.khash n hn, ← child_indicator, ← sum_map_add]
    exact congrArg List.sum (List.map_congr_left (fun i _ => liveCount_under_cons e c (n + 1) (p * 16 + i)))

theorem leaf_count (c : Content) (n p : Nat) :
    (nodeSum c n p 0).1 = ((under c n p).filter (fun e => decide (e.ver > 0))).length := by
  rw [nodeSum, leafSum_eq]; rfl

theorem node_count (c : Content) : ∀ (below n p : Nat), n + below ≤ 16 → (nodeSum c n p below).1 = liveCount (under c n p) := by
  intro below
  induction below with
  | zero => intro n p _; exact leaf_count c n p
  | succ k ih =>
    intro n p h
    unfold nodeSum
    simp only []
    rw [foldl_add_sum, Nat.zero_add, List.map_map, ← liveCount_children c n p (by omega)]
    exact congrArg List.sum (List.map_congr_left (fun i _ => ih (n + 1) (p * 16 + i) (by omega)))

theorem digitsVal_fold (ds : List Nat) (a : Nat) :
    ds.foldl (fun a d => a * 16 + d) a = a * 16 ^ ds.length + digitsVal ds := by
  induction ds generalizing a with
  | nil => simp [digitsVal]
  | cons d ds ih =>
    unfold digitsVal
    rw [List.foldl_cons, List.foldl_cons, ih, ih (0 * 16 + d), List.length_cons, Nat.pow_succ, Nat.add_mul, Nat.zero_mul,
      Nat.zero_add, Nat.mul_assoc, Nat.mul_comm (16 ^ ds.length) 16, Nat.add_assoc]

theorem digitsVal_append (a b : List Nat) : digitsVal (a ++ b) = digitsVal a * 16 ^ b.length + digitsVal b := by
  unfold digitsVal
  rw [List.foldl_append, digitsVal_fold]
  rfl

theorem digitsVal_cons (d : Nat) (ds : List Nat) : digitsVal (d :: ds) = d * 16 ^ ds.length + digitsVal ds := by
  have := digitsVal_append [d] ds
  simpa [digitsVal] using this

theorem digitsVal_lt (ds : List Nat) (h : ∀ d ∈ ds, d < 16) : digitsVal ds < 16 ^ ds.length := by
  induction ds with
  | nil => simp [digitsVal]
  | cons d ds ih =>
    have h1 : d < 16 := h d (by simp)
    have h2 := ih (fun x hx => h x (by simp [hx]))
    rw [digitsVal_cons, List.length_cons, Nat.pow_succ]
    have : d * 16 ^ ds.length ≤ 15 * 16 ^ ds.length := Nat.mul_le_mul_right _ (by omega)
    omega

theorem digitsVal_take (ds : List Nat) (n : Nat) (h : ∀ d ∈ ds, d < 16) :
    digitsVal ds / 16 ^ (ds.length - n) = digitsVal (ds.take n) := by
  have hl : (ds.drop n).length = ds.length - n := List.length_drop
  have hlt := digitsVal_lt (ds.drop n) (fun d hd => h d (List.mem_of_mem_drop hd))
  rw [hl] at hlt
  have hv : digitsVal ds = digitsVal (ds.take n) * 16 ^ (ds.length - n) + digitsVal (ds.drop n) := by
    rw [← hl, ← digitsVal_append, List.take_append_drop]
  rw [hv, Nat.add_comm, Nat.add_mul_div_right _ _ (Nat.pow_pos (by decide)), Nat.div_eq_of_lt hlt, Nat.zero_add]

/-- `Tree.listBucket` seen from the level at which the path ends in the tree -/
theorem listBucket_at (c : Content) (depth height thr : Nat) (ds : List Nat) (level : Nat)
    (hl : depth + level = min ds.length (depth + height - 1)) :
    listBucket c depth height thr ds =
      if level ≥ height - 1 ∨ (nodeSum c (depth + level) (digitsVal (ds.take (depth + level))) (height - 1 - level)).1 < thr
      then .items (under c ds.length (digitsVal ds))
      else .nodes ((List.range 16).map (fun i =>
        ((nodeSum c (depth + (level + 1)) (digitsVal (ds.take (depth + level)) * 16 + i) (height - 1 - (level + 1))).2,
         (nodeSum c (depth + (level + 1)) (digitsVal (ds.take (depth + level)) * 16 + i) (height - 1 - (level + 1))).1))) := by
  unfold listBucket
  simp only [← hl, Nat.add_sub_cancel_left]
  clear hl
  rw [Nat.add_assoc depth level 1, show height - 2 - level = height - 1 - (level + 1) by omega]

end TreeLemmas
