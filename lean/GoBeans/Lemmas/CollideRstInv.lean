/-
  Injective hash with restarts: the restart invariant `RI` (what a restart needs of the state before it), its preservation
  by every operation that is not a restart and not a GC request (`ri_step`), and the restart itself (`reopen_ok`).
-/
import GoBeans.Lemmas.CollideOpen
import GoBeans.Lemmas.CollideExt
namespace CollideLemmas
open Store Spec HintIndex Collide HintBufferLemmas HintLoadLemmas HintIndexLemmas StoreLemmas

section
variable (hash : Key → Nat)

/-- `tid`: `close` then writes a tree dump, with id `maxDumpedHintID`; its second disjunct is the state `State.beforeGC`
    leaves (no dump, `TreeID` reset), which no operation admitted by `ri_step` establishes: a GC request ends the invariant.
    `top`: `Bucket.open` drops a tree dump whose data file lies behind the last existing one (`reLoaded`), so the id of the
    dump `close` writes must stay at or below an existing file.  `ctf`: a restart loads the collision table file, which
    must be as empty as the table (`NoColl`) -/
structure RI (st : State) : Prop where
  hg : HsG hash (fun c => (st.b.chunks c).recs) st.hs
  tid : isLarger st.treeID st.hs.maxDumped.1 st.hs.maxDumped.2 = true ∨ (st.treeFile = none ∧ st.treeID = (0, 0))
  top : st.hs.maxDumped.1 = 0 ∨ ∃ i, st.hs.maxDumped.1 ≤ i ∧ i ≤ st.b.head ∧ Exists' st.b i
  dsf : ∀ c, DsFull (st.hs.chunks c) (st.b.chunks c).size
  ctf : ∀ t, st.ctFile = some t → t.items = []

theorem top_of_mdTop {b : Bucket} (hp : PosInv b) {hs hs' : Hints}
    (top : hs.maxDumped.1 = 0 ∨ ∃ i, hs.maxDumped.1 ≤ i ∧ i ≤ b.head ∧ Exists' b i)
    (h : MdTop (fun c => (b.chunks c).recs) hs hs') :
    hs'.maxDumped.1 = 0 ∨ ∃ i, hs'.maxDumped.1 ≤ i ∧ i ≤ b.head ∧ Exists' b i := by
  rcases h with h | h
  · rw [h]; exact top
  · exact Or.inr ⟨_, Nat.le_refl _, hp.le_head h, Or.inl (Nat.pos_of_ne_zero fun hz => h (hp.nil_of_size hz))⟩

theorem ri_data {st : State} {b' : Bucket} (hrecs : ∀ i, (b'.chunks i).recs = (st.b.chunks i).recs)
    (hsize : ∀ i, (b'.chunks i).size = (st.b.chunks i).size) (hkeep : ∀ i, Exists' st.b i → Exists' b' i)
    (hhead : b'.head = st.b.head) (ri : RI hash st) : RI hash { st with b := b' } := by
  refine ⟨?_, ri.tid, ri.top.imp id fun ⟨i, h1, h2, h3⟩ => ⟨i, h1, hhead ▸ h2, hkeep i h3⟩, fun c => ?_, ri.ctf⟩
  · show HsG hash (fun c => (b'.chunks c).recs) st.hs
    rw [funext hrecs]; exact ri.hg
  · show DsFull (st.hs.chunks c) (b'.chunks c).size
    rw [hsize]; exact ri.dsf c

theorem append_keeps (cfg : Store.Cfg) (b : Bucket) (r : Rec) (hp : PosInv b) (hs : 0 < r.size) (i : Nat) (h : NonEmptyC (b.chunks i)) :
    NonEmptyC ((b.append cfg r).1.chunks i) := by
  obtain ⟨b0, ck, s⟩ := append_shape cfg b r hp
  rw [s.eq]
  unfold NonEmptyC at *
  rw [chunks_pushRec]
  split
  · exact Or.inl (by show _ + r.size > 0; omega)
  · rw [(s.quiet.files i).2]; exact h.imp id (s.created i)

theorem flush_keeps (cfg : Store.Cfg) (b : Bucket) (i : Nat) (h : NonEmptyC (b.chunks i)) :
    NonEmptyC ((Store.step hash cfg b .flush).1.chunks i) := by
  unfold NonEmptyC at *
  rw [(flush_files hash cfg b i).2]
  refine h.imp id fun hc => ?_
  show ((b.setChunk b.head _).chunks i).created = true
  rw [chunks_setChunk]
  split
  · next hi => rw [← hi]; exact hc
  · exact hc

theorem ri_put (cfg : Collide.Cfg) (hcap : 1 ≤ cfg.cap) {st : State} (ri : RI hash st) (w : WF cfg.s st.b) (r : Rec) (hs : 0 < r.size) :
    RI hash (st.put hash cfg r).1 := by
  obtain ⟨_, _, a3, a4, _, _⟩ := append_chunks cfg.s st.b r w.posInv
  obtain ⟨k, _⟩ := exact_append hash cfg.s cfg.cap hcap ri.hg ri.dsf w.lay r hs
  have hp' : PosInv (st.put hash cfg r).1.b := (w.lay.put hash cfg.s r hs).posInv
  rw [put_eq] at hp' ⊢
  refine ⟨k.hg, ri.tid.imp (k.mono _) id, ?_, k.dsf, ri.ctf⟩
  refine top_of_mdTop hp' (ri.top.imp id fun ⟨i, t1, t2, t3⟩ => ⟨i, t1, ?_, append_keeps cfg.s st.b r w.posInv hs i t3⟩) k.top
  show i ≤ (st.b.append cfg.s r).1.head
  rw [a4]; rcases a3 with a3 | a3 <;> omega

theorem ri_cas (cfg : Collide.Cfg) (hcap : 1 ≤ cfg.cap) {st : State} (ri : RI hash st) (w : WF cfg.s st.b)
    (k : Key) (body : Bytes) (flag : Nat) (rev : Int) (ts : Option Nat) (size wts : Nat) (hs : 0 < size) :
    RI hash (st.checkAndSet hash cfg k body flag rev ts size wts).1 := by
  rw [cas_eq]
  cases casPlan cfg.s.checkVHash (st.memMeta hash k) body rev with
  | keep res => exact ri
  | retree it => exact ⟨ri.hg, ri.tid, ri.top, ri.dsf, ri.ctf⟩   -- only a tree slot changes, which the invariant does not look at
  | write v => exact ri_put hash cfg hcap ri w _ hs

theorem ri_get {st : State} (ri : RI hash st) (k : Key) : RI hash (st.get hash k).1 := by
  obtain ⟨ct, e⟩ := get_ct hash st k
  rw [e]
  exact ⟨ri.hg, ri.tid, ri.top, ri.dsf, ri.ctf⟩

def SizeOK : Collide.Op → Prop
  | .set _ _ _ _ _ size => 0 < size
  | .delete _ size _ => 0 < size
  | .incr _ _ size _ => 0 < size
  | _ => True

theorem ri_step (cfg : Collide.Cfg) (hcap : 1 ≤ cfg.cap) {st : State} (ri : RI hash st) (w : WF cfg.s st.b) (op : Collide.Op)
    (hsz : SizeOK op) (hre : ¬ IsReopen op) (hgc : ¬ IsGC op) (hmg : op = .hintMerge → (st.merge false).ct.items = []) :
    RI hash (Collide.step hash cfg st op).1 := by
  cases op with
  | set k body flag rev ts size => rw [step_set]; exact ri_cas hash cfg hcap ri w k body flag rev (some ts) size ts hsz
  | delete k size wts => rw [step_delete]; exact ri_cas hash cfg hcap ri w k [] 0 (-1) none size wts hsz
  | incr k d size wts =>
    have rg := ri_get hash ri k
    rcases step_incr_fst hash cfg st k d size wts with e | ⟨v, val, e⟩ <;> rw [e]
    · exact rg
    · refine ri_put hash cfg hcap rg ?_ _ hsz
      obtain ⟨ct, e⟩ := get_ct hash st k
      rw [e]; exact w
  | get k => rw [step_get_fst]; exact ri_get hash ri k
  | info k => rw [step_info_fst]; exact ri_get hash ri k
  | flush =>
    rw [step_flush]
    exact ri_data hash (fun i => (flush_files hash cfg.s st.b i).1) (fun i => (flush_files hash cfg.s st.b i).2)
      (flush_keeps hash cfg.s st.b) rfl ri
  | reopen kt => exact absurd trivial hre
  | gc g mg => exact absurd trivial hgc
  | hintDump =>
    rw [step_hintDump]
    obtain ⟨k, _⟩ := exact_dumpAll hash (st.b.head + 1) ri.hg ri.dsf
    exact ⟨k.hg, ri.tid.imp (k.mono _) id, top_of_mdTop w.posInv ri.top k.top, k.dsf, ri.ctf⟩
  | hintMerge =>
    rw [step_hintMerge]
    -- a merge changes the collision table and `merged` only, and writes the table to its file
    refine ⟨hsG_congr hash (hs := st.hs) rfl rfl rfl ri.hg, ri.tid, ri.top, ri.dsf, fun t ht => ?_⟩
    have ht' : some (st.merge false).ct = some t := ht
    rw [← Option.some.inj ht']; exact hmg rfl

theorem ri_init : RI hash ({} : State) :=
  ⟨hsG_empty hash (fun _ => rfl) _, Or.inl rfl, Or.inl rfl, fun c h => absurd h (by show ¬ (0 > 0); omega), fun t ht => (by cases ht)⟩

/-
  `Collide.State.reopen` against `Store.step … (.reopen _)` (`reopen_ok`: `ReopenRes`).
  The new hint manager and the tree come from `reopen_as`; without a tree dump the tree agrees, on every key in use, with
  the replay of the data log (`hintLoop_slots` under an injective hash); with the tree dump written by `close` nothing is applied.
-/
variable (K : Key → Prop)

theorem hsNC_of_hsG {V : Nat → FileRecs} {hs : Hints} (g : HsG hash V hs)
    (hK : ∀ c, ∀ p ∈ V c, K p.2.key) : HsNC hash K hs := by
  intro c
  have hin : ∀ y, InCk (hs.chunks c) y → y.khash = hash y.key ∧ K y.key := by
    intro y hy
    obtain ⟨p, hp, sc, rfl⟩ := ckI_mem hash (g.ck c) (g.oldf c) hy
    rw [mkItem_khash, mkItem_key]
    exact ⟨rfl, hK c p hp⟩
  refine ⟨⟨(g.good hash c).last, fun y hy => hin y (Or.inl hy)⟩, fun sp hsp => ⟨fun b hb => ?_, fun f hf y hy => ?_⟩⟩
  · rw [(g.oldf c sp hsp).1] at hb; cases hb
  · exact hin y (Or.inr ⟨sp, hsp, by rw [spItems_file hf]; exact hy⟩)

/-- the restarted state `st'` against the restarted bucket `bs` of the non-colliding model -/
structure ReopenRes (st' : State) (bs : Bucket) : Prop where
  chunks : st'.b.chunks = bs.chunks
  head : st'.b.head = bs.head
  tree : ∀ k, K k → AMap.get st'.b.tree (hash k) = AMap.get bs.tree (hash k)
  nc : NoColl hash K st'
  ri : RI hash st'

def ReopenOK (cfg : Collide.Cfg) (st : State) (kt : Bool) : Prop :=
  ReopenRes hash K (st.reopen hash cfg kt) (Store.step hash cfg.s st.b (.reopen kt)).1

theorem reopen_none_ok (cfg : Collide.Cfg) {st : State} {m : KV} {n : Nat}
    (h : HInv hash K cfg.s n st.b m) (ri : RI hash st) (kt : Bool)
    (hnone : lastNonEmpty ((List.range (st.b.head + 1)).map (fun i => { st.b.chunks i with flushed := (st.b.chunks i).recs.length })) = none)
    (hall : ∀ j, j ≤ st.b.head → ¬ Exists' st.b j) : ReopenOK hash K cfg st kt := by
  have hrecs : ∀ i, (st.b.chunks i).recs = [] ∧ (st.b.chunks i).size = 0 := fun i => empty_of_not_nonEmptyC h.wf.posInv (hall i)
  have hlog : st.b.log = [] := log_nil_of st.b (fun i => (hrecs i).1)
  unfold ReopenOK
  rw [reopen_none hash cfg st kt hnone, StoreLemmas.step_reopen hash cfg.s st.b kt hnone]
  refine ⟨rfl, rfl, ?_, ?_, ?_⟩
  · intro k hk
    show AMap.get ([] : Tree) (hash k) = AMap.get (if kt then st.b.tree else replayTree hash st.b.log) (hash k)
    cases kt with
    | true => simp only [if_true]; rw [tree_none_of_log_nil h.lr hlog k hk]; rfl
    | false => simp only [Bool.false_eq_true, if_false]; rw [hlog]; rfl
  · refine ⟨?_, fun c => ckNC_empty hash K⟩
    show (st.ctFile.getD {}).items = []
    cases hc : st.ctFile with
    | none => rfl
    | some t => exact ri.ctf t hc
  · refine ⟨hsG_empty hash (fun c => (hrecs c).1) _, Or.inl rfl, Or.inl rfl, ?_, ri.ctf⟩
    intro c hsz
    have : (st.b.chunks c).size > 0 := hsz
    rw [(hrecs c).2] at this; omega

theorem isLarger_zero_of_idLe {c j : Nat} {md : Nat × Int} (h : idLe c j md) : isLarger ((0, 0) : Nat × Int) md.1 md.2 = true := by
  unfold idLe at h
  rw [isLarger_iff] at *
  omega

theorem reLoaded_cases {st : State} (ri : RI hash st) (kt : Bool) (mx : Nat) {hs1 : Hints}
    (cl : Closed hash (fun c => (st.b.chunks c).recs) (fun c => (st.b.chunks c).size) hs1) (hmono : MdMono st.hs hs1)
    (hmd1 : hs1.maxDumped.1 ≤ mx) :
    (reLoaded st mx kt hs1 = none ∧ (kt = true → ∀ c, (st.b.chunks c).recs = []))
    ∨ (reLoaded st mx kt hs1 = some (hs1.maxDumped, st.b.tree) ∧ kt = true) := by
  by_cases hdump : isLarger st.treeID hs1.maxDumped.1 hs1.maxDumped.2 = true
  · rw [reLoaded_dumped st mx kt hdump]
    cases kt with
    | false => exact Or.inl ⟨by simp, fun e => by cases e⟩
    | true => exact Or.inr ⟨if_pos ⟨rfl, hmd1⟩, rfl⟩
  · -- `close` writes no tree dump: only in the state `treeFile = none`, `treeID = (0, 0)`, and then no split is written
    left
    have htf := ri.tid.resolve_left (fun t => hdump (hmono _ t))
    refine ⟨by unfold reLoaded; cases kt <;> simp [hdump, htf.1], fun _ c => ?_⟩
    cases hr : (st.b.chunks c).recs with
    | nil => rfl
    | cons p l =>
      exfalso
      rcases ckI_splits_of_recs hash (cl.g.ck c) (by show (st.b.chunks c).recs ≠ []; rw [hr]; simp) with e | e
      · exact e (cl.empty c)
      · have hlen : 0 < (hs1.chunks c).old.length := by
          cases ho : (hs1.chunks c).old with
          | nil => exact absurd ho e
          | cons _ _ => simp
        have := isLarger_zero_of_idLe (cl.g.mdb c 0 hlen)
        rw [htf.2] at hdump
        exact hdump this

theorem reopen_some_ok (hInj : InjOn hash K) (cfg : Collide.Cfg) {st : State} {m : KV} {n : Nat} (nc : NoColl hash K st)
    (h : HInv hash K cfg.s n st.b m) (ri : RI hash st) (kt : Bool) (mx : Nat)
    (hmx : lastNonEmpty ((List.range (st.b.head + 1)).map (fun i => { st.b.chunks i with flushed := (st.b.chunks i).recs.length })) = some mx)
    (hmxle : mx ≤ st.b.head) (hex : Exists' st.b mx) (habove : ∀ j, mx < j → j ≤ st.b.head → ¬ Exists' st.b j) :
    ReopenOK hash K cfg st kt := by
  have w := h.wf
  have hemp : ∀ j, mx < j → (st.b.chunks j).recs = [] ∧ (st.b.chunks j).size = 0 :=
    fun j hj => empty_of_not_nonEmptyC w.posInv (habove j hj)
  have hKrecs := allrecs_K hash K h
  have hz : ∀ i, (st.b.chunks i).size = 0 → (st.b.chunks i).recs = [] := fun i => w.posInv.nil_of_size
  obtain ⟨cl, hmono, hmtop⟩ := closed_of hash ri.hg ri.dsf
  generalize hhs : closeAll st.hs (st.hs.maxChunk + 1) = hs1 at cl hmono hmtop
  have hmd1 : hs1.maxDumped.1 ≤ mx := by
    rcases top_of_mdTop w.posInv ri.top hmtop with t | ⟨i, t1, t2, t3⟩
    · omega
    · cases Nat.lt_or_ge mx i with
      | inl hlt => exact absurd t3 (habove i hlt t2)
      | inr hge => omega
  generalize hL : reLoaded st mx kt hs1 = L
  have hLcases := reLoaded_cases hash ri kt mx cl hmono hmd1
  rw [hL] at hLcases
  obtain ⟨x2, e, ro⟩ := reopen_as hash cfg st kt mx hmx hemp w.lay hhs cl hL (hLcases.imp (·.1) fun e => ⟨_, e.1⟩)
  have htidle : (reTid L).1 ≤ mx := by
    rcases hLcases with ⟨e, _⟩ | ⟨e, _⟩
    · rw [e]; exact Nat.zero_le _
    · rw [e]; exact hmd1
  unfold ReopenOK
  rw [e, StoreLemmas.step_reopen hash cfg.s st.b kt hmx]
  refine ⟨rfl, rfl, fun k hk => ?_, ⟨nc.ct, hsNC_of_hsG hash K ro.hg hKrecs⟩,
    ⟨ro.hg, Or.inl ro.tid, Or.inr ⟨mx, ro.mdle htidle, by show mx ≤ mx + 1; omega, hex⟩, ro.dsf, ?_⟩⟩
  · show AMap.get x2.2 (hash k) = AMap.get (if kt then st.b.tree else replayTree hash st.b.log) (hash k)
    rcases hLcases with ⟨e, hkt⟩ | ⟨e, hkt⟩
    · -- no tree dump: the hint replay is the replay of the data at the slot of every key in use
      rw [ro.rebuilt e, (hintLoop_slots hash (fun c => (st.b.chunks c).recs) _ (fun i => loaded_fileHints hash cl hz i) (mx + 1)).2 k
        (fun i p hp e' => hInj _ _ (hKrecs i p hp) hk e'),
        ← log_as_fileLog st.b (mx + 1) (by omega) (fun j hj => (hemp j (by omega)).1), ← replay_get hash K hInj st.b.log h.lr.keys k hk]
      cases kt with
      | false => rfl
      | true =>
        simp only [if_true]
        have hl0 : st.b.log = [] := log_nil_of st.b (hkt rfl)
        rw [tree_none_of_log_nil h.lr hl0 k hk, hl0]; rfl
    · rw [ro.kept _ e, hkt]; rfl
  · intro t ht
    have : t = st.ct := (Option.some.inj ht).symm
    rw [this]; exact nc.ct

theorem reopen_ok (hInj : InjOn hash K) (cfg : Collide.Cfg) {st : State} {m : KV} {n : Nat} (nc : NoColl hash K st)
    (h : HInv hash K cfg.s n st.b m) (ri : RI hash st) (kt : Bool) : ReopenOK hash K cfg st kt := by
  rcases lastNonEmpty_spec st.b with ⟨mx, hmx, hmxle, hex, habove⟩ | ⟨hnone, hall⟩
  · exact reopen_some_ok hash K hInj cfg nc h ri kt mx hmx hmxle hex habove
  · exact reopen_none_ok hash K cfg h ri kt hnone hall
end
end CollideLemmas
