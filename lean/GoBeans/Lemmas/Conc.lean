/-
  The atomic per-key register of Model/Conc.lean.  For C04: every atomic execution passes the history checks `checkA`
  and `checkB`.  For C05 (the theorem is in Props/C05.lean): what a client step, a GC copy and the conditional repoint do
  to the register and the data of one key, and the well-formed schedules `WF`.
-/
import GoBeans.Model.Conc

namespace Conc

def mkEv (r : Reg) (s : Step) : Ev := { op := s.op, inv := s.inv, resp := s.resp, out := (regStep r s.op).2, lin := s.lin }

def regAfter (r : Reg) (pre : List Step) : Reg := pre.foldl (fun r s => (regStep r s.op).1) r

theorem run_cons (r : Reg) (s : Step) (ss : List Step) : run r (s :: ss) = mkEv r s :: run (regStep r s.op).1 ss := rfl

theorem run_append (r : Reg) (pre post : List Step) : run r (pre ++ post) = run r pre ++ run (regAfter r pre) post := by
  induction pre generalizing r with
  | nil => rfl
  | cons s pre ih => simp only [List.cons_append, run_cons, ih, regAfter, List.foldl_cons]

theorem regStep_ver_le (r : Reg) (op : AOp) : r.ver ≤ (regStep r op).1.ver := by
  cases op <;> simp [regStep] <;> (try split) <;> simp

theorem regAfter_ver_le (r : Reg) (pre : List Step) : r.ver ≤ (regAfter r pre).ver := by
  induction pre generalizing r with
  | nil => exact Nat.le_refl _
  | cons s pre ih =>
    simp only [regAfter, List.foldl_cons]
    exact Nat.le_trans (regStep_ver_le r s.op) (ih _)

theorem regStep_acc (r : Reg) (op : AOp) (v : Nat) (h : accVer (regStep r op).2 = some v) :
    v = r.ver + 1 ∧ (regStep r op).1.ver = v ∧ (regStep r op).1.val = valOf op := by
  cases op with
  | write x => simp [regStep, accVer, valOf] at h ⊢; omega
  | delete =>
    by_cases hv : r.val ≠ 0
    · simp [regStep, accVer, hv, valOf] at h ⊢; omega
    · simp [regStep, accVer, hv] at h
  | read => simp [regStep, accVer] at h

theorem regStep_noacc (r : Reg) (op : AOp) (h : accVer (regStep r op).2 = none) : (regStep r op).1 = r := by
  cases op with
  | write x => simp [regStep, accVer] at h
  | delete =>
    by_cases hv : r.val ≠ 0
    · simp [regStep, accVer, hv] at h
    · simp [regStep, hv]
  | read => rfl

theorem regStep_got (r : Reg) (op : AOp) (val ver : Nat) (h : (regStep r op).2 = .got val ver) :
    op = .read ∧ val = r.val ∧ ver = r.ver := by
  cases op with
  | write x => simp [regStep] at h
  | delete => simp only [regStep] at h; split at h <;> simp at h
  | read => simp only [regStep, Out.got.injEq] at h; exact ⟨rfl, h.1.symm, h.2.symm⟩

theorem mem_run(r : Reg) (ss : List Step) (e : Ev) (h : e ∈ run r ss) :
    ∃ pre s post, ss = pre ++ s :: post ∧ e = mkEv (regAfter r pre) s := by
  induction ss generalizing r with
  | nil => simp [run] at h
  | cons s ss ih =>
    rw [run_cons] at h
    rcases List.mem_cons.mp h with h | h
    · exact ⟨[], s, ss, rfl, h⟩
    · obtain ⟨pre, s', post, h1, h2⟩ := ih _ h
      exact ⟨s :: pre, s', post, by rw [h1]; rfl, by rw [h2]; rfl⟩

theorem acc_above (r : Reg) (ss : List Step) (e : Ev) (he : e ∈ run r ss) (v : Nat) (hv : accVer e.out = some v) : r.ver < v := by
  obtain ⟨pre, s, post, _, rfl⟩ := mem_run r ss e he
  have := (regStep_acc _ s.op v hv).1
  have := regAfter_ver_le r pre
  omega

theorem acc_increasing (r : Reg) (ss : List Step) :
    (run r ss).Pairwise (fun x y => ∀ vx vy, accVer x.out = some vx → accVer y.out = some vy → vx < vy) := by
  induction ss generalizing r with
  | nil => exact List.Pairwise.nil
  | cons s ss ih =>
    rw [run_cons]
    refine List.Pairwise.cons ?_ (ih _)
    intro y hy vx vy hx hvy
    have h1 := acc_above _ ss y hy vy hvy
    have h2 := (regStep_acc r s.op vx hx).2.1
    simp only [mkEv] at hx
    omega

theorem regAfter_spec (r : Reg) (pre : List Step) :
    (∀ e ∈ run r pre, ∀ v, accVer e.out = some v → v ≤ (regAfter r pre).ver)
    ∧ ((regAfter r pre = r) ∨ ∃ w ∈ run r pre, accVer w.out = some (regAfter r pre).ver ∧ valOf w.op = (regAfter r pre).val) := by
  induction pre generalizing r with
  | nil => exact ⟨by simp [run], Or.inl rfl⟩
  | cons s pre ih =>
    obtain ⟨ih1, ih2⟩ := ih (regStep r s.op).1
    have hra : regAfter r (s :: pre) = regAfter (regStep r s.op).1 pre := rfl
    rw [hra, run_cons]
    refine ⟨?_, ?_⟩
    · intro e he v hv
      rcases List.mem_cons.mp he with h | h
      · subst h
        have := (regStep_acc r s.op v hv).2.1
        have := regAfter_ver_le (regStep r s.op).1 pre
        simp only [mkEv] at hv
        omega
      · exact ih1 e h v hv
    · rcases ih2 with h | ⟨w, hw, h1, h2⟩
      · rw [h]
        cases ha : accVer (regStep r s.op).2 with
        | none => exact Or.inl (regStep_noacc r s.op ha)
        | some v =>
          have := regStep_acc r s.op v ha
          refine Or.inr ⟨mkEv r s, List.mem_cons_self, ?_, ?_⟩
          · simp only [mkEv, ha, this.2.1]
          · simp only [mkEv, this.2.2]
      · exact Or.inr ⟨w, List.mem_cons_of_mem _ hw, h1, h2⟩

theorem mem_run_step (r : Reg) (ss : List Step) (e : Ev) (h : e ∈ run r ss) :
    ∃ s ∈ ss, e.inv = s.inv ∧ e.lin = s.lin ∧ e.resp = s.resp := by
  obtain ⟨pre, s, post, h1, h2⟩ := mem_run r ss e h
  exact ⟨s, by rw [h1]; simp, by rw [h2]; rfl, by rw [h2]; rfl, by rw [h2]; rfl⟩

theorem ev_times (r : Reg) (ss : List Step) (hv : Valid ss) (e : Ev) (h : e ∈ run r ss) : e.inv < e.lin ∧ e.lin < e.resp := by
  obtain ⟨s, hs, h1, h2, h3⟩ := mem_run_step r ss e h
  have := hv.1 s hs
  omega

theorem lin_increasing (r : Reg) (ss : List Step) (hv : ss.Pairwise (fun a b => a.lin < b.lin)) :
    (run r ss).Pairwise (fun x y => x.lin < y.lin) := by
  induction ss generalizing r with
  | nil => exact List.Pairwise.nil
  | cons s ss ih =>
    rw [run_cons]
    rw [List.pairwise_cons] at hv
    refine List.Pairwise.cons ?_ (ih _ hv.2)
    intro y hy
    obtain ⟨s', hs', _, h2, _⟩ := mem_run_step _ ss y hy
    have := hv.1 s' hs'
    simp only [mkEv]
    omega

theorem pairwise_cases {α} (R : α → α → Prop) (l : List α) (h : l.Pairwise R) (a b : α) (ha : a ∈ l) (hb : b ∈ l) :
    a = b ∨ R a b ∨ R b a :=
  List.Pairwise.forall_of_forall_of_flip (R := fun a b => a = b ∨ R a b ∨ R b a) (fun _ _ => .inl rfl)
    (h.imp fun h => .inr (.inl h)) (h.imp fun h => .inr (.inr h)) ha hb

theorem checkB_sound (ss : List Step) (hv : Valid ss) : checkB (run {} ss) = true := by
  -- along the run the linearisation times and the accepted versions increase together
  have hp := (lin_increasing {} ss hv.2).and (acc_increasing {} ss)
  unfold checkB
  rw [Bool.and_eq_true]
  refine ⟨?_, ?_⟩
  · rw [List.all_eq_true]; intro a ha
    rw [List.all_eq_true]; intro b hb
    cases hva : accVer a.out with
    | none => rfl
    | some va =>
      cases hvb : accVer b.out with
      | none => rfl
      | some vb =>
        simp only [Bool.or_eq_true, Bool.not_eq_true', decide_eq_false_iff_not, decide_eq_true_eq]
        by_cases hlt : a.resp < b.inv
        · right
          have ta := ev_times {} ss hv a ha
          have tb := ev_times {} ss hv b hb
          rcases pairwise_cases _ _ hp a b ha hb with h | h | h
          · subst h; omega
          · exact h.2 va vb hva hvb
          · have := h.1; omega
        · left; exact hlt
  · simp only [decide_eq_true_eq]
    have hinc : ((run {} ss).filterMap (fun e => accVer e.out)).Pairwise (· < ·) := by
      rw [List.pairwise_filterMap]
      exact (acc_increasing {} ss).imp (fun {x y} h vx hx vy hy => h vx vy hx hy)
    exact hinc.imp (fun h => Nat.ne_of_lt h)

/-- Cut the run at the read `e`.  `regAfter_spec` on the prefix gives the write whose value and version the read returns
    (or the initial register) and bounds every accepted version of the prefix by the version read; an accepted event of
    the suffix is linearised after `e`, so it cannot have responded before `e` was invoked. -/
theorem checkA_sound (ss : List Step) (hv : Valid ss) : checkA (run {} ss) = true := by
  unfold checkA
  rw [List.all_eq_true]
  intro e he
  obtain ⟨pre, s, post, hss, hev⟩ := mem_run {} ss e he
  unfold readOK
  cases hout : e.out with
  | acc v => rfl
  | rej => rfl
  | got val ver =>
    obtain ⟨_, hval, hver⟩ := regStep_got (regAfter {} pre) s.op val ver (by rw [hev] at hout; exact hout)
    obtain ⟨hub, hsrc⟩ := regAfter_spec {} pre
    have hrun : run {} ss = run {} pre ++ e :: run (regStep (regAfter {} pre) s.op).1 post := by
      rw [hss, run_append, run_cons, hev]
    have hlin := hv.2
    rw [hss, List.pairwise_append] at hlin
    have hs_mem : s ∈ ss := by rw [hss]; simp
    have hst := hv.1 s hs_mem
    have he_inv : e.inv = s.inv := by rw [hev]; rfl
    have he_resp : e.resp = s.resp := by rw [hev]; rfl
    rw [Bool.and_eq_true]
    refine ⟨?_, ?_⟩
    · rcases hsrc with h | ⟨w, hw, h1, h2⟩
      · rw [Bool.or_eq_true]; left
        rw [h] at hval hver
        simp [hval, hver]
      · rw [Bool.or_eq_true]; right
        rw [List.any_eq_true]
        refine ⟨w, by rw [hrun]; exact List.mem_append_left _ hw, ?_⟩
        obtain ⟨sw, hsw, i1, i2, i3⟩ := mem_run_step {} pre w hw
        have hpre_lt := hlin.2.2 sw hsw s (by simp)
        have hwt := hv.1 sw (by rw [hss]; exact List.mem_append_left _ hsw)
        simp only [Bool.and_eq_true, beq_iff_eq, decide_eq_true_eq]
        refine ⟨⟨by rw [h1, hver], by omega⟩, by rw [h2, hval]⟩
    · rw [List.all_eq_true]
      intro w hw
      cases hvw : accVer w.out with
      | none => rfl
      | some vw =>
        simp only [Bool.or_eq_true, Bool.not_eq_true', decide_eq_false_iff_not, decide_eq_true_eq]
        by_cases hlt : w.resp < e.inv
        · right
          rw [hrun] at hw
          rcases List.mem_append.mp hw with hw | hw
          · rw [hver]; exact hub w hw vw hvw
          · rcases List.mem_cons.mp hw with hw | hw
            · subst hw; rw [hout] at hvw; simp [accVer] at hvw
            · exfalso
              obtain ⟨sw, hsw, i1, i2, i3⟩ := mem_run_step _ post w hw
              have hpost := hlin.2.1
              rw [List.pairwise_cons] at hpost
              have := hpost.1 sw hsw
              have hwt := hv.1 sw (by rw [hss]; simp [hsw])
              omega
        · left; exact hlt

theorem client_step_reg (s : KeyState) (op : AOp) (p : Nat) :
    (gstep s (.client op p)).reg = (regStep s.reg op).1 := by
  cases op with
  | write v => simp [gstep, KeyState.reg, regStep, setData]
  | delete =>
    by_cases h : s.data s.item.pos ≠ 0
    · simp [gstep, KeyState.reg, regStep, setData, h]
    · simp [gstep, KeyState.reg, regStep, h]
  | read => simp [gstep, KeyState.reg, regStep]

theorem gcCopy_reg (s : KeyState) (old new : Nat) (h : new ≠ s.item.pos) : (gstep s (.gcCopy old new)).reg = s.reg := by
  simp [gstep, KeyState.reg, setData, Ne.symm h]

theorem gcCopy_data (s : KeyState) (old new : Nat) (h : new ≠ old) :
    (gstep s (.gcCopy old new)).data new = (gstep s (.gcCopy old new)).data old := by
  simp [gstep, setData, Ne.symm h]

theorem gcMove_reg (s : KeyState) (old new : Nat) (h : s.data new = s.data old) : (gstep s (.gcMove old new)).reg = s.reg := by
  by_cases hp : s.item.pos = old
  · simp [gstep, KeyState.reg, hp, h]
  · simp [gstep, hp]

/-- a well-formed schedule of client operations and GC steps on one key: records are appended at fresh positions,
    every repoint follows its copy, and only the conditional repoint is used -/
def WF : KeyState → List (Nat × Nat) → List GStep → Prop
  | _, _, [] => True
  | s, pend, st :: rest =>
    match st with
    | .client _ p => p ≠ s.item.pos ∧ (∀ q ∈ pend, p ≠ q.1 ∧ p ≠ q.2) ∧ WF (gstep s st) pend rest
    | .gcCopy o n => n ≠ s.item.pos ∧ n ≠ o ∧ (∀ q ∈ pend, n ≠ q.1 ∧ n ≠ q.2) ∧ WF (gstep s st) ((o, n) :: pend) rest
    | .gcMove o n => (o, n) ∈ pend ∧ WF (gstep s st) pend rest
    | .gcMoveBlind _ _ => False

/-- `pend`: the copies (old position, new position) not repointed yet -/
def PendOK (s : KeyState) (pend : List (Nat × Nat)) : Prop := ∀ q ∈ pend, s.data q.2 = s.data q.1

theorem client_data (s : KeyState) (op : AOp) (p x : Nat) (hx : x ≠ p) : (gstep s (.client op p)).data x = s.data x := by
  cases op with
  | write v => simp [gstep, setData, hx]
  | delete =>
    by_cases h : s.data s.item.pos ≠ 0
    · simp [gstep, setData, h, hx]
    · simp [gstep, h]
  | read => rfl

end Conc
