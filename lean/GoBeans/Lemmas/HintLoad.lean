/-
  From the code's hint machinery to "some cut of the record sequence, one split file per run": a hint chunk fed with
  ANY interleaving of `setItem` (one per record, in record order) and split closings (`HChunk.run`, capacity
  `SplitCap ≥ 1`) holds, split by split, the last item per key of consecutive runs of the records, with `maxoffset`
  between the end of its own records and the start of the next (`run_chunkInv`); what `checkHintWithData` makes of
  the split files on disk is `load_fileHints`.
  Both invariants are a `CutInv P` (a cut of the records, one object per run): the split buffers with `SplitInv` in
  memory, the split files with `FileOK` on disk (`DiskInv`, which `DiskOK` is made of, is `CutInv (FileOK ..)` written out).
  The clause `bound` (a `maxoffset` / `datasize` other than 0 is at most the end of some record of `all`) and the
  parameter `all` are read by the colliding-keys tower alone (Lemmas/CollideExact.lean: a record appended behind all of
  `all` lies behind every split).
-/
import GoBeans.Lemmas.HintIndexCore
namespace HintLoadLemmas
open Store Spec HintIndex HintBufferLemmas HintIndexLemmas

theorem dedupLast_subset : ∀ {l : List Item} {it : Item}, it ∈ dedupLast l → it ∈ l
  | x :: l, it, h => by
    unfold dedupLast at h
    split at h
    · exact List.mem_cons_of_mem _ (dedupLast_subset h)
    · exact (List.mem_cons.mp h).elim (fun e => e ▸ List.mem_cons_self) fun h =>
        List.mem_cons_of_mem _ (dedupLast_subset h)

theorem dedupLast_append_single (l : List Item) (x : Item) :
    dedupLast (l ++ [x]) = (dedupLast l).filter (fun y => !sameKey y x) ++ [x] := by
  induction l with
  | nil => simp [dedupLast]
  | cons y l ih =>
    simp only [List.cons_append, dedupLast, List.any_append, List.any_cons, List.any_nil, Bool.or_false, ih]
    cases h1 : l.any (sameKey y) <;> cases h2 : sameKey y x <;> simp [h2]

theorem dedupLast_eq_nil {l : List Item} (h : dedupLast l = []) : l = [] := by
  cases l with
  | nil => rfl
  | cons x l =>
    unfold dedupLast at h
    split at h
    · next hd => cases dedupLast_eq_nil h; simp at hd
    · cases h

theorem set_perm_filter {it : Item} : ∀ {items : List Item} {i : Nat}, NodupKey items →
    items.findIdx? (sameKey it) = some i → (items.set i it).Perm (items.filter (fun y => !sameKey y it) ++ [it])
  | y :: rest, i, hn, h => by
    rw [List.findIdx?_cons] at h
    have hn' := List.pairwise_cons.mp hn
    split at h
    · next hs =>
      cases h
      have hy : sameKey y it = true := sameKey_comm it y ▸ hs
      have hrest : rest.filter (fun z => !sameKey z it) = rest := List.filter_eq_self.mpr fun z hz => by
        cases h2 : sameKey z it with
        | false => rfl
        | true =>
          have := hn'.1 z hz
          rw [sameKey_trans hy (sameKey_comm z it ▸ h2)] at this
          cases this
      simp only [List.set_cons_zero, List.filter_cons, hy, Bool.not_true, Bool.false_eq_true, if_false, hrest]
      exact (List.perm_append_singleton it rest).symm
    · next hs =>
      cases hf : rest.findIdx? (sameKey it) with
      | none => rw [hf] at h; cases h
      | some j =>
        rw [hf] at h
        cases h
        have hy : sameKey y it = false := by rw [sameKey_comm]; simpa using hs
        simp only [List.set_cons_succ, List.filter_cons, hy, Bool.not_false, if_true, List.cons_append]
        exact (set_perm_filter hn'.2 hf).cons y

theorem slotSet_perm {cap : Nat} {items items' : List Item} {it : Item} (hn : NodupKey items)
    (h : slotSet cap items it = some items') :
    items'.Perm (items.filter (fun y => !sameKey y it) ++ [it]) := by
  unfold slotSet at h
  split at h
  · next i hf => cases h; exact set_perm_filter hn hf
  · next hf =>
    split at h
    · cases h
    · cases h
      rw [List.filter_eq_self.mpr fun z hz => by
        simpa [sameKey_comm] using List.findIdx?_eq_none_iff.mp hf z hz]

theorem insertSorted_perm (x : Item) (l : List Item) : (insertSorted x l).Perm (x :: l) := by
  induction l with
  | nil => exact List.Perm.refl _
  | cons y ys ih =>
    unfold insertSorted
    by_cases h : hintLess x y = true
    · simp [h]
    · simp only [h, Bool.false_eq_true, if_false]
      exact (ih.cons y).trans (List.Perm.swap x y ys)

theorem sortItems_perm (l : List Item) : (sortItems l).Perm l := by
  induction l with
  | nil => exact List.Perm.refl _
  | cons x l ih =>
    have e : sortItems (x :: l) = insertSorted x (sortItems l) := rfl
    rw [e]
    exact (insertSorted_perm x _).trans (ih.cons x)

/-- ascending without overlap (a record ends at or before the start of every later one; gaps are allowed), sizes positive:
    what is used of "`Store.Bucket.pushRec` writes every record at the end (offset + padded size) of the previous one" -/
def Contig (recs : FileRecs) : Prop :=
  recs.Pairwise (fun p q => p.1 + p.2.size ≤ q.1) ∧ ∀ p ∈ recs, 0 < p.2.size

theorem contig_tail {a b : FileRecs} (h : Contig (a ++ b)) : Contig b := by
  obtain ⟨h1, h2⟩ := h
  rw [List.pairwise_append] at h1
  exact ⟨h1.2.1, fun p hp => h2 p (by simp [hp])⟩

theorem contig_snoc {recs : FileRecs} (hc : Contig recs) {off : Nat} {r : Rec} (hoff : ∀ p ∈ recs, p.1 + p.2.size ≤ off)
    (hs : 0 < r.size) : Contig (recs ++ [(off, r)]) :=
  ⟨List.pairwise_append.mpr ⟨hc.1, by simp, fun a ha b hb => by simp at hb; subst hb; exact hoff a ha⟩,
   fun p hp => (List.mem_append.mp hp).elim (hc.2 p) fun hp => by simp at hp; subst hp; exact hs⟩

theorem contig_filter {recs : FileRecs} (hc : Contig recs) (p : Nat × Rec → Bool) : Contig (recs.filter p) :=
  ⟨hc.1.filter p, fun q hq => hc.2 q (List.mem_filter.mp hq).1⟩

theorem find_contig : ∀ (f : FileRecs), Contig f → ∀ (o : Nat) (r : Rec), (o, r) ∈ f →
    f.find? (fun q => q.1 = o) = some (o, r)
  | q :: l, hc, o, r, h => by
    rw [List.find?_cons]
    rcases List.mem_cons.mp h with h | h
    · simp [← h]
    · -- a later record starts behind this one
      have h2 := (List.pairwise_cons.mp hc.1).1 (o, r) h
      have h3 := hc.2 q (by simp)
      have hq : ¬ q.1 = o := by simp only at h2; omega
      simp only [hq, decide_false]
      exact find_contig l (contig_tail (a := [q]) hc) o r h

theorem dataSizeOf_bound (recs : FileRecs) (hc : Contig recs) : ∀ p ∈ recs, p.1 + p.2.size ≤ dataSizeOf recs := by
  intro p hp
  unfold dataSizeOf
  cases hl : recs.getLast? with
  | none =>
    rw [List.getLast?_eq_none_iff] at hl
    subst hl; simp at hp
  | some l =>
    obtain ⟨init, rfl⟩ := List.getLast?_eq_some_iff.mp hl
    have := hc.1
    rw [List.pairwise_append] at this
    rcases List.mem_append.mp hp with hp | hp
    · have := this.2.2 p hp l (by simp)
      simp only
      omega
    · simp at hp; subst hp; exact Nat.le_refl _

theorem dataSizeOf_cases (recs : FileRecs) : dataSizeOf recs = 0 ∨ ∃ p ∈ recs, dataSizeOf recs = p.1 + p.2.size := by
  unfold dataSizeOf
  cases h : recs.getLast? with
  | none => exact Or.inl rfl
  | some q => exact Or.inr ⟨q, List.mem_of_getLast? h, rfl⟩

theorem dataSizeOf_snoc (l : FileRecs) (p : Nat × Rec) : dataSizeOf (l ++ [p]) = p.1 + p.2.size := by
  simp [dataSizeOf]

/-- the record lies within the first `n` bytes of its file; `CrashHintLemmas.durOf recs n` is `recs.filter (fits n)` -/
def fits (n : Nat) (p : Nat × Rec) : Bool := decide (p.1 + p.2.size ≤ n)

theorem filter_fits_full {recs : FileRecs} (hc : Contig recs) : recs.filter (fits (dataSizeOf recs)) = recs :=
  List.filter_eq_self.mpr fun p hp => by simpa [fits] using dataSizeOf_bound recs hc p hp

theorem filter_fits_zero {recs : FileRecs} (hc : Contig recs) : recs.filter (fits 0) = [] :=
  List.filter_eq_nil_iff.mpr fun p hp => by have := hc.2 p hp; simp [fits]; omega

/-- A cut `segs` of a record sequence against a list `xs` of objects, one per run: `P s after x` for every run `s`, its
    object `x` and `after` = every record behind the run (the later runs, then `tail`). -/
def CutInv {β : Type} (P : FileRecs → FileRecs → β → Prop) : List FileRecs → List β → FileRecs → Prop
  | [], [], _ => True
  | s :: ss, x :: xs, tail => P s (ss.flatten ++ tail) x ∧ CutInv P ss xs tail
  | _, _, _ => False

theorem cutInv_induction {β : Type} {P : FileRecs → FileRecs → β → Prop} {tail : FileRecs}
    {motive : ∀ segs xs, CutInv P segs xs tail → Prop} (nil : motive [] [] trivial)
    (cons : ∀ s ss x xs (hx : P s (ss.flatten ++ tail) x) (h : CutInv P ss xs tail),
      motive ss xs h → motive (s :: ss) (x :: xs) ⟨hx, h⟩) :
    ∀ segs xs h, motive segs xs h
  | [], [], _ => nil
  | s :: ss, x :: xs, h => cons s ss x xs h.1 h.2 (cutInv_induction nil cons ss xs h.2)
  | [], _ :: _, h => h.elim
  | _ :: _, [], h => h.elim

theorem cutInv_map {β γ : Type} {P : FileRecs → FileRecs → β → Prop} {Q : FileRecs → FileRecs → γ → Prop} (f : β → γ)
    (hPQ : ∀ s after x, P s after x → Q s after (f x)) {tail : FileRecs} {segs : List FileRecs} {xs : List β}
    (h : CutInv P segs xs tail) : CutInv Q segs (xs.map f) tail := by
  induction segs, xs, h using cutInv_induction with
  | nil => trivial
  | cons s ss x xs hx _ ih => exact ⟨hPQ _ _ _ hx, ih⟩

theorem cutInv_imp {β : Type} {P Q : FileRecs → FileRecs → β → Prop} (hPQ : ∀ s after x, P s after x → Q s after x)
    {tail : FileRecs} {segs : List FileRecs} {xs : List β} (h : CutInv P segs xs tail) : CutInv Q segs xs tail := by
  simpa using cutInv_map id hPQ h

theorem cutInv_append {β : Type} {P : FileRecs → FileRecs → β → Prop} {tail : FileRecs} {segsB : List FileRecs}
    {xsB : List β} (hB : CutInv P segsB xsB tail) {segsA : List FileRecs} {xsA : List β}
    (hA : CutInv P segsA xsA (segsB.flatten ++ tail)) : CutInv P (segsA ++ segsB) (xsA ++ xsB) tail := by
  induction segsA, xsA, hA using cutInv_induction with
  | nil => exact hB
  | cons s ss x xs hx _ ih => exact ⟨by simpa using hx, ih⟩

theorem cutInv_snoc {β : Type} {P : FileRecs → FileRecs → β → Prop} {s tail : FileRecs} {x : β} {segs : List FileRecs}
    {xs : List β} (h : CutInv P segs xs (s ++ tail)) (hx : P s tail x) : CutInv P (segs ++ [s]) (xs ++ [x]) tail :=
  cutInv_append (segsB := [s]) (xsB := [x]) ⟨by simpa using hx, trivial⟩ (by simpa using h)

section
variable (hash : Key → Nat)

/-- what split buffer `b` knows about its run `seg` of the records `all`; `after` = every record behind the run -/
structure SplitInv (scan : Bool) (all seg after : FileRecs) (b : Buf) : Prop where
  binv : BufInv b
  perm : b.items.Perm (dedupLast (seg.map (mkItem hash scan)))
  lower : ∀ p ∈ seg, p.1 + p.2.size ≤ b.maxoffset
  upper : ∀ q ∈ after, b.maxoffset ≤ q.1
  bound : b.maxoffset = 0 ∨ ∃ p ∈ all, b.maxoffset ≤ p.1 + p.2.size

/-- state of a chunk after the records `pre`, before the records `rest` -/
def ChunkInv (scan : Bool) (all pre rest : FileRecs) (ck : HChunk) : Prop :=
  ∃ (segs : List FileRecs) (segLast : FileRecs), segs.flatten ++ segLast = pre ∧
    CutInv (SplitInv hash scan all) segs ck.closed (segLast ++ rest) ∧ SplitInv hash scan all segLast rest ck.last

theorem splitInv_empty (scan : Bool) (all rest : FileRecs) : SplitInv hash scan all [] rest {} :=
  ⟨bufInv_empty, by simp [dedupLast], by simp, by simp, Or.inl rfl⟩

theorem chunkInv_rotate (scan : Bool) {all pre rest : FileRecs} {ck : HChunk} (cap : Nat)
    (inv : ChunkInv hash scan all pre rest ck) : ChunkInv hash scan all pre rest (ck.step cap .rotate) := by
  obtain ⟨segs, segLast, hfl, hc, hl⟩ := inv
  exact ⟨segs ++ [segLast], [], by simpa using hfl, cutInv_snoc hc hl, splitInv_empty hash scan all rest⟩

theorem slotSet_nil (cap : Nat) (hcap : 1 ≤ cap) (it : Item) : slotSet cap [] it = some [it] := by
  unfold slotSet
  have : ¬ (([] : List Item).length ≥ cap) := by simp; omega
  simp only [List.findIdx?_nil, this, if_false, List.nil_append]

/-- refused: the items stay, `maxoffset` is raised to the START of `p` — still at or below every record behind the run -/
theorem splitInv_set (scan : Bool) {all seg rest : FileRecs} {b : Buf} (cap : Nat) (p : Nat × Rec) (hpa : p ∈ all)
    (hps : 0 < p.2.size) (hnext : ∀ q ∈ rest, p.1 + p.2.size ≤ q.1) (h : SplitInv hash scan all seg (p :: rest) b) :
    ((b.set cap (mkItem hash scan p) p.2.size).2 = true ∧
      SplitInv hash scan all (seg ++ [p]) rest (b.set cap (mkItem hash scan p) p.2.size).1) ∨
    ((b.set cap (mkItem hash scan p) p.2.size).2 = false ∧
      SplitInv hash scan all seg (p :: rest) (b.set cap (mkItem hash scan p) p.2.size).1) := by
  have hoff : (mkItem hash scan p).off = p.1 := by cases scan <;> rfl
  obtain ⟨hit, hacc⟩ := set_items cap b h.binv (mkItem hash scan p) p.2.size
  have hmo := set_maxoffset cap b (mkItem hash scan p) p.2.size
  have hbi := set_inv cap b h.binv (mkItem hash scan p) p.2.size
  have hup := h.upper p (by simp)
  rw [hoff] at hmo
  cases hss : slotSet cap b.items (mkItem hash scan p) with
  | some items' =>
    rw [hss] at hit hacc
    rw [hacc] at hmo
    simp only [Option.isSome_some, if_true] at hmo
    rw [if_pos (by omega)] at hmo
    refine Or.inl ⟨hacc, hbi, ?_, ?_, ?_, ?_⟩
    · rw [hit, List.map_append, List.map_singleton, dedupLast_append_single]
      exact (slotSet_perm h.binv.nodup hss).trans ((h.perm.filter _).append_right _)
    · intro q hq
      rcases List.mem_append.mp hq with hq | hq
      · have := h.lower q hq; omega
      · simp at hq; subst hq; omega
    · intro q hq
      have := hnext q hq; omega
    · exact Or.inr ⟨p, hpa, by omega⟩
  | none =>
    rw [hss] at hit hacc
    rw [hacc] at hmo
    simp only [Option.isSome_none, Bool.false_eq_true, if_false] at hmo
    have hmo : (b.set cap (mkItem hash scan p) p.2.size).1.maxoffset = p.1 := by rw [hmo]; split <;> omega
    refine Or.inr ⟨hacc, hbi, by rw [hit]; exact h.perm, ?_, ?_, ?_⟩
    · intro q hq
      have := h.lower q hq; omega
    · intro q hq
      rcases List.mem_cons.mp hq with rfl | hq
      · omega
      · have := hnext q hq; omega
    · exact Or.inr ⟨p, hpa, by omega⟩

/-- `hintChunk.setItem` with the item of the next record `p`, seen from the newest split alone -/
theorem splitInv_setItem (scan : Bool) {all seg rest : FileRecs} {b : Buf} (cap : Nat) (hcap : 1 ≤ cap) (p : Nat × Rec)
    (hpa : p ∈ all) (hps : 0 < p.2.size) (hnext : ∀ q ∈ rest, p.1 + p.2.size ≤ q.1)
    (h : SplitInv hash scan all seg (p :: rest) b) :
    ((b.set cap (mkItem hash scan p) p.2.size).2 = true ∧
      SplitInv hash scan all (seg ++ [p]) rest (b.set cap (mkItem hash scan p) p.2.size).1) ∨
    ((b.set cap (mkItem hash scan p) p.2.size).2 = false ∧
      SplitInv hash scan all seg (p :: rest) (b.set cap (mkItem hash scan p) p.2.size).1 ∧
      SplitInv hash scan all [p] rest (({} : Buf).set cap (mkItem hash scan p) p.2.size).1) := by
  rcases splitInv_set hash scan cap p hpa hps hnext h with h1 | ⟨hacc, h1⟩
  · exact Or.inl h1
  · rcases splitInv_set hash scan cap p hpa hps hnext (splitInv_empty hash scan all (p :: rest)) with ⟨_, h2⟩ | ⟨hr, _⟩
    · exact Or.inr ⟨hacc, h1, h2⟩
    · rw [(set_items cap {} bufInv_empty _ _).2] at hr
      exact absurd (hr.symm.trans (congrArg Option.isSome (slotSet_nil cap hcap _))) (by simp)

theorem setItem_accepted {cap : Nat} {ck : HChunk} {it : Item} {sz : Nat} (h : (ck.last.set cap it sz).2 = true) :
    ck.setItem cap it sz = { ck with last := (ck.last.set cap it sz).1 } := by
  simp [HChunk.setItem, h]

theorem setItem_refused {cap : Nat} {ck : HChunk} {it : Item} {sz : Nat} (h : (ck.last.set cap it sz).2 = false) :
    ck.setItem cap it sz = { closed := ck.closed ++ [(ck.last.set cap it sz).1], last := (({} : Buf).set cap it sz).1 } := by
  simp [HChunk.setItem, h]

theorem chunkInv_setItem (scan : Bool) {all pre rest : FileRecs} {ck : HChunk} (cap : Nat) (hcap : 1 ≤ cap) (p : Nat × Rec)
    (hpa : p ∈ all) (hps : 0 < p.2.size) (hnext : ∀ q ∈ rest, p.1 + p.2.size ≤ q.1)
    (inv : ChunkInv hash scan all pre (p :: rest) ck) :
    ChunkInv hash scan all (pre ++ [p]) rest (ck.step cap (.set (mkItem hash scan p) p.2.size)) := by
  obtain ⟨segs, segLast, hfl, hc, hl⟩ := inv
  show ChunkInv hash scan all (pre ++ [p]) rest (ck.setItem cap (mkItem hash scan p) p.2.size)
  rcases splitInv_setItem hash scan cap hcap p hpa hps hnext hl with ⟨ha, e⟩ | ⟨ha, e1, e2⟩
  · rw [setItem_accepted ha]
    exact ⟨segs, segLast ++ [p], by simp [← hfl], by simpa using hc, e⟩
  · rw [setItem_refused ha]
    exact ⟨segs ++ [segLast], [p], by simp [← hfl], cutInv_snoc hc e1, e2⟩

/-- the history of a hint chunk as a list: `some p` = `setItem` with the item of the record `p`, `none` = a split closing -/
def evOf (scan : Bool) : Option (Nat × Rec) → Ev
  | some p => .set (mkItem hash scan p) p.2.size
  | none => .rotate

theorem run_chunkInv (scan : Bool) (cap : Nat) (hcap : 1 ≤ cap) (all : FileRecs) (hall : Contig all) :
    ∀ (es : List (Option (Nat × Rec))) (pre : FileRecs) (ck : HChunk), pre ++ es.filterMap id = all →
      ChunkInv hash scan all pre (es.filterMap id) ck →
      ChunkInv hash scan all all [] ((es.map (evOf hash scan)).foldl (HChunk.step cap) ck) := by
  intro es
  induction es with
  | nil =>
    intro pre ck hpre inv
    obtain rfl : pre = all := by simpa using hpre
    exact inv
  | cons e es ih =>
    intro pre ck hpre inv
    cases e with
    | none => exact ih pre _ hpre (chunkInv_rotate hash scan cap inv)
    | some p =>
      have hct : Contig (p :: es.filterMap id) := contig_tail (a := pre) (hpre ▸ hall)
      exact ih (pre ++ [p]) _ (by rw [← hpre]; simp)
        (chunkInv_setItem hash scan cap hcap p (by rw [← hpre]; simp) (hct.2 p (by simp)) (List.pairwise_cons.mp hct.1).1 inv)

theorem run_closed (scan : Bool) (cap : Nat) (hcap : 1 ≤ cap) (es : List (Option (Nat × Rec)))
    (hall : Contig (es.filterMap id)) :
    let ck := HChunk.run cap (es.map (evOf hash scan))
    ∃ segs : List FileRecs, segs.flatten = es.filterMap id ∧
      CutInv (SplitInv hash scan (es.filterMap id)) segs (ck.closed ++ [ck.last]) [] := by
  obtain ⟨segs, segLast, hfl, hc, hl⟩ :=
    run_chunkInv hash scan cap hcap _ hall es [] {} (by simp)
      ⟨[], [], rfl, trivial, splitInv_empty hash scan _ _⟩
  exact ⟨segs ++ [segLast], by simpa using hfl, cutInv_snoc hc hl⟩

/-- the file of the run `s` (`none` = no such file): it holds the items of its non-empty run, and its `datasize` lies
    between the end of the run and the start of every record in `after` -/
def FileOK (all s after : FileRecs) : Option SplitFile → Prop
  | none => True
  | some f => SplitFileOf hash s f.items ∧ s ≠ [] ∧ (∀ p ∈ s, p.1 + p.2.size ≤ f.datasize) ∧
      (∀ q ∈ after, f.datasize ≤ q.1) ∧ (f.datasize = 0 ∨ ∃ p ∈ all, f.datasize ≤ p.1 + p.2.size)

/-- `CutInv (FileOK hash all)` written out (`diskInv_iff`) -/
def DiskInv (all : FileRecs) : List FileRecs → List (Option SplitFile) → FileRecs → Prop
  | [], [], _ => True
  | s :: ss, f :: fs, tail =>
    (match f with
     | none => True
     | some f => SplitFileOf hash s f.items ∧ s ≠ [] ∧ (∀ p ∈ s, p.1 + p.2.size ≤ f.datasize) ∧
        (∀ q ∈ ss.flatten ++ tail, f.datasize ≤ q.1) ∧ (f.datasize = 0 ∨ ∃ p ∈ all, f.datasize ≤ p.1 + p.2.size))
    ∧ DiskInv all ss fs tail
  | _, _, _ => False

theorem diskInv_iff {all tail : FileRecs} : ∀ {segs : List FileRecs} {disk : List (Option SplitFile)},
    DiskInv hash all segs disk tail ↔ CutInv (FileOK hash all) segs disk tail
  | [], [] => Iff.rfl
  | _ :: _, none :: _ => and_congr Iff.rfl diskInv_iff
  | _ :: _, some _ :: _ => and_congr Iff.rfl diskInv_iff
  | [], _ :: _ => Iff.rfl
  | _ :: _, [] => Iff.rfl

theorem fileOK_mono {all all' s after : FileRecs} (hall : ∀ p ∈ all, p ∈ all') :
    ∀ {f : Option SplitFile}, FileOK hash all s after f → FileOK hash all' s after f
  | none, _ => trivial
  | some _, ⟨h1, h2, h3, h4, h5⟩ => ⟨h1, h2, h3, h4, h5.imp id fun ⟨p, hp, hle⟩ => ⟨p, hall p hp, hle⟩⟩

theorem fileOK_hints {all tail : FileRecs} : ∀ {segs : List FileRecs} {files : List SplitFile},
    CutInv (FileOK hash all) segs (files.map some) tail → Forall2 (SplitFileOf hash) segs (files.map (·.items))
  | [], [], _ => Forall2.nil
  | _ :: _, _ :: _, h => Forall2.cons h.1.1 (fileOK_hints h.2)
  | [], _ :: _, h => h.elim
  | _ :: _, [], h => h.elim

def fileOfBuf (b : Buf) : Option SplitFile := if b.items.isEmpty then none else some b.dump

theorem disk_eq (ck : HChunk) : ck.disk = (ck.closed ++ [ck.last]).map fileOfBuf := rfl

theorem splitInv_fileOK {scan : Bool} {all s after : FileRecs} {b : Buf} (h : SplitInv hash scan all s after b) :
    FileOK hash all s after (fileOfBuf b) := by
  unfold fileOfBuf
  split
  · trivial
  · next he =>
    refine ⟨⟨scan, (sortItems_perm _).trans h.perm⟩, ?_, h.lower, h.upper, h.bound⟩
    rintro rfl
    exact he (by simpa [dedupLast] using h.perm)

theorem splitInv_nil {scan : Bool} {all s after : FileRecs} {b : Buf} (h : SplitInv hash scan all s after b)
    (he : b.items.isEmpty = true) : s = [] := by
  have hp := h.perm
  rw [List.isEmpty_iff.mp he] at hp
  simpa using dedupLast_eq_nil hp.nil_eq.symm

/-- a split without items has no file and no record -/
theorem closed_files {scan : Bool} {all tail : FileRecs} {segs : List FileRecs} {bufs : List Buf}
    (h : CutInv (SplitInv hash scan all) segs bufs tail) :
    ∃ segs' : List FileRecs, segs'.flatten = segs.flatten ∧
      CutInv (FileOK hash all) segs' (((bufs.map fileOfBuf).filterMap id).map some) tail := by
  induction segs, bufs, h using cutInv_induction with
  | nil => exact ⟨[], rfl, trivial⟩
  | cons s ss b bs hb _ ih =>
    obtain ⟨segs', h1, h2⟩ := ih
    have hf := splitInv_fileOK hash hb
    by_cases he : b.items.isEmpty = true
    · exact ⟨segs', by simp [h1, splitInv_nil hash hb he], by simpa [fileOfBuf, he] using h2⟩
    · have e : fileOfBuf b = some b.dump := by simp [fileOfBuf, he]
      rw [e, ← h1] at hf
      exact ⟨s :: segs', by simp [h1], by rw [List.map_cons, e]; exact ⟨hf, h2⟩⟩

/-- the second directory is the first with any subset of its files removed -/
inductive Masked : List (Option SplitFile) → List (Option SplitFile) → Prop
  | nil : Masked [] []
  | keep {a l₁ l₂} : Masked l₁ l₂ → Masked (a :: l₁) (a :: l₂)
  | drop {a l₁ l₂} : Masked l₁ l₂ → Masked (a :: l₁) (none :: l₂)

theorem fileOK_masked {all tail : FileRecs} {segs : List FileRecs} {d0 d : List (Option SplitFile)}
    (h : CutInv (FileOK hash all) segs d0 tail) (hm : Masked d0 d) : CutInv (FileOK hash all) segs d tail := by
  induction segs, d0, h using cutInv_induction generalizing d with
  | nil => cases hm; trivial
  | cons s ss f fs hf _ ih =>
    cases hm with
    | keep hm => exact ⟨hf, ih hm⟩
    | drop hm => exact ⟨trivial, ih hm⟩

/-- The kept prefix `loadPrefix ∘ validPrefix` against the cut, when `n` bytes of the data file are on disk: the files
    kept are the files of the first runs `segsA`, all of whose records are on disk; the running `datasize` ends between
    the end of those runs and the start of every record on disk `R` behind them.  `hn` is the clause `bound` for `n`
    itself: it gives that clause, for the records on disk, to the files kept (`datasize ≤ n`). -/
theorem load_prefix (all : FileRecs) (n : Nat) (hn : n = 0 ∨ ∃ p ∈ all.filter (fits n), n ≤ p.1 + p.2.size)
    {segs : List FileRecs} {disk : List (Option SplitFile)} (h : CutInv (FileOK hash all) segs disk []) :
    ∀ (d0 : Nat) (kept : List SplitFile) (d : Nat), loadPrefix n (validPrefix disk) d0 = (kept, d) →
      (∀ q ∈ segs.flatten, d0 ≤ q.1) →
      ∃ (segsA : List FileRecs) (R : FileRecs), segsA.flatten ++ R = segs.flatten.filter (fits n) ∧
        CutInv (FileOK hash (all.filter (fits n))) segsA (kept.map some) R ∧
        (∀ p ∈ segsA.flatten, p.1 + p.2.size ≤ d) ∧ (∀ q ∈ R, d ≤ q.1) ∧ d0 ≤ d := by
  induction segs, disk, h using cutInv_induction with
  | nil =>
    intro d0 kept d he hup
    cases he
    exact ⟨[], [], rfl, trivial, by simp, by simp, Nat.le_refl _⟩
  | cons s ss f fs hf hd ih =>
    intro d0 kept d he hup
    by_cases hkeep : ∃ f0, f = some f0 ∧ ¬ f0.datasize > n
    · obtain ⟨f, rfl, hle⟩ := hkeep
      obtain ⟨hsf, hne, hlo, hupf, _⟩ := hf
      rw [List.append_nil] at hupf
      simp only [validPrefix, loadPrefix, hle, if_false] at he
      cases he
      have hmax : f.datasize ≤ (if f.datasize < d0 then d0 else f.datasize) ∧
          d0 ≤ (if f.datasize < d0 then d0 else f.datasize) := by split <;> omega
      have hbf : f.datasize = 0 ∨ ∃ p ∈ all.filter (fits n), f.datasize ≤ p.1 + p.2.size :=
        hn.imp (by omega) fun ⟨p, hp, h⟩ => ⟨p, hp, by omega⟩
      obtain ⟨segsA, R, h2, h7, h3, h4, h5⟩ := ih (if f.datasize < d0 then d0 else f.datasize) _ _ rfl
        (fun q hq => by
          have := hupf q hq
          have := hup q (by simp [hq])
          split <;> omega)
      have hs : s.filter (fits n) = s :=
        List.filter_eq_self.mpr fun p hp => by have := hlo p hp; simp [fits]; omega
      refine ⟨s :: segsA, R, by simp [← h2, hs], ⟨⟨hsf, hne, hlo, fun q hq => hupf q ?_, hbf⟩, h7⟩, ?_, h4, by omega⟩
      · rw [h2] at hq
        exact (List.mem_filter.mp hq).1
      · intro p hp
        rw [List.flatten_cons] at hp
        rcases List.mem_append.mp hp with hp | hp
        · have := hlo p hp; omega
        · exact h3 p hp
    · have he' : loadPrefix n (validPrefix (f :: fs)) d0 = ([], d0) := by
        cases f with
        | none => rfl
        | some f0 =>
          have : f0.datasize > n := Decidable.by_contra fun h => hkeep ⟨f0, rfl, h⟩
          simp [validPrefix, loadPrefix, this]
      cases he.symm.trans he'
      exact ⟨[], (s :: ss).flatten.filter (fits n), rfl, trivial, by simp,
        fun q hq => hup q (List.mem_filter.mp hq).1, Nat.le_refl _⟩

theorem scanEvents_eq (recs : FileRecs) : scanEvents hash recs = (recs.map some).map (evOf hash true) := by
  simp [scanEvents, List.map_map, Function.comp_def, evOf, mkItem]

theorem writeEvents_eq (recs : FileRecs) : writeEvents hash recs = (recs.map some).map (evOf hash false) := by
  simp [writeEvents, List.map_map, Function.comp_def, evOf, mkItem]

theorem scanFrom_append {d : Nat} {A R : FileRecs} (hA : ∀ a ∈ A, a.1 < d) (hR : ∀ q ∈ R, d ≤ q.1) :
    scanFrom d (A ++ R) = R := by
  unfold scanFrom
  rw [List.dropWhile_append_of_pos fun a ha => by simpa using hA a ha]
  cases R with
  | nil => rfl
  | cons q l => exact List.dropWhile_cons_of_neg (by simpa using hR q (by simp))

theorem filterMap_map_some (recs : FileRecs) : (recs.map some).filterMap id = recs := by
  rw [List.filterMap_map]; exact List.filterMap_some

/-- A data file with the records `all` appended, `n` bytes of it on disk, ending at a record boundary (`hn`, which serves
    the clause `bound` of the result only), and ANY split files that describe a cut of `all` — some missing, some
    describing records that never reached the disk.  `checkHintWithData` ends up with split files that satisfy the same
    invariant for a cut of the records ON DISK: the files beyond the data are dropped ("hint beyond data"), the rest of
    the data file is rescanned. -/
theorem load_fileHints (cap : Nat) (hcap : 1 ≤ cap) (all : FileRecs) (hall : Contig all) (n : Nat)
    (hn : n = dataSizeOf (all.filter (fits n))) (segs : List FileRecs)
    (disk : List (Option SplitFile)) (hfl : segs.flatten = all) (hd : CutInv (FileOK hash all) segs disk []) :
    ∃ segs' : List FileRecs, segs'.flatten = all.filter (fits n) ∧
      CutInv (FileOK hash (all.filter (fits n))) segs'
        ((checkHintWithData hash cap (all.filter (fits n)) n disk).map some) [] := by
  have hcd := contig_filter hall (fits n)
  have hds : ∀ p ∈ all.filter (fits n), p.1 + p.2.size ≤ n := fun p hp => by simpa [fits] using (List.mem_filter.mp hp).2
  unfold checkHintWithData
  by_cases h0 : n = 0
  · rw [h0, filter_fits_zero hall]
    exact ⟨[], rfl, by simp [CutInv]⟩
  · obtain ⟨segsA, R, h2, h7, h3, h4, _⟩ := load_prefix hash all n
      ((dataSizeOf_cases (all.filter (fits n))).imp hn.trans fun ⟨p, hp, h⟩ => ⟨p, hp, Nat.le_of_eq (hn.trans h)⟩)
      hd 0 _ _ rfl (fun _ _ => Nat.zero_le _)
    rw [hfl] at h2
    simp only [h0, if_false]
    split
    · -- the scan starts exactly at the first record not covered by a kept file
      have hscan : scanFrom (loadPrefix n (validPrefix disk) 0).2 (all.filter (fits n)) = R := by
        rw [← h2]
        refine scanFrom_append (fun a ha => ?_) h4
        have h5 := h3 a ha
        have h6 := hcd.2 a (by rw [← h2]; simp [ha])
        omega
      rw [hscan, scanEvents_eq]
      have hfm := filterMap_map_some R
      obtain ⟨segsR, hr1, hr2⟩ := run_closed hash true cap hcap (R.map some)
        (by rw [hfm]; exact contig_tail (a := segsA.flatten) (by rw [h2]; exact hcd))
      rw [hfm] at hr1 hr2
      obtain ⟨segsR', hr3, hr5⟩ := closed_files hash hr2
      rw [hr1] at hr3
      refine ⟨segsA ++ segsR', by simp [hr3, h2], ?_⟩
      rw [disk_eq, List.map_append]
      exact cutInv_append
        (cutInv_imp (fun _ _ _ => fileOK_mono hash fun p hp => by rw [← h2]; simp [hp]) hr5)
        (by rw [hr3, List.append_nil]; exact h7)
    · cases R with
      | nil => exact ⟨segsA, by simpa using h2, h7⟩
      | cons q l =>
        have a1 := h4 q (by simp)
        have a2 := hds q (by rw [← h2]; simp)
        have a3 := hcd.2 q (by rw [← h2]; simp)
        omega

/-! `Bucket.open` dereferences `sp.file` of every split but the newest (bucket.go:224-225).  A split closed by a
    refused `Set` holds `cap ≥ 1` items, so it was dumped and has its file; with `SplitCap = 0` the rebuild leaves empty
    closed splits without a file and the start panics there (observed on the real store). -/

theorem scan_closed_nonempty (cap : Nat) (hcap : 1 ≤ cap) (recs : FileRecs) :
    ∀ b ∈ (HChunk.run cap (scanEvents hash recs)).closed, b.items ≠ [] := by
  unfold HChunk.run scanEvents
  suffices hgen : ∀ (ck : HChunk), (∀ b ∈ ck.closed, b.items ≠ []) →
      ∀ b ∈ ((recs.map (fun p => Ev.set (itemOfScan hash p) p.2.size)).foldl (HChunk.step cap) ck).closed, b.items ≠ [] by
    exact hgen {} (by intro b hb; simp at hb)
  induction recs with
  | nil => intro ck h; simpa using h
  | cons p l ih =>
    intro ck h
    simp only [List.map_cons, List.foldl_cons]
    apply ih
    intro b hb
    change b ∈ (ck.setItem cap (itemOfScan hash p) p.2.size).closed at hb
    cases hacc : (ck.last.set cap (itemOfScan hash p) p.2.size).2 with
    | true => rw [setItem_accepted hacc] at hb; exact h b hb
    | false =>
      rw [setItem_refused hacc] at hb
      rcases List.mem_append.mp hb with hb | hb
      · exact h b hb
      · rw [List.mem_singleton.mp hb]
        exact refused_nonempty cap hcap _ _ _ hacc

end
end HintLoadLemmas
