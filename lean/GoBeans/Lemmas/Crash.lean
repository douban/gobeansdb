/-
  Lemmas for C06.  What a kill leaves is laid out like any other store (`Lay.crashAt`): a durable data file is the file
  with records left out, which keeps `okFrom`, its size the end of the last surviving record.  So recovery (tree rebuilt
  by replay) serves every key's last durable record (`Lay.recover_get`).
-/
import GoBeans.Lemmas.Layout
import GoBeans.Model.Crash

namespace StoreLemmas
open Store Spec

def durableP (cut : Nat → Nat) (x : Pos × Rec) : Bool := decide (x.1.off + x.2.size ≤ cut x.1.chunk)

theorem crashAt_recs (b : Bucket) (cut : Nat → Nat) (present : Nat → Bool) (i : Nat) :
    ((b.crashAt cut present).chunks i).recs = (b.chunks i).recs.filter (fun p => decide (p.1 + p.2.size ≤ cut i)) := rfl

theorem crash_log (b : Bucket) (cut : Nat → Nat) (present : Nat → Bool) :
    (b.crashAt cut present).log = b.log.filter (durableP cut) := by
  rw [log_eq, log_eq]
  have hh : (b.crashAt cut present).head = b.head := rfl
  rw [hh, List.filter_flatMap]
  congr 1
  funext i
  unfold recsAt
  rw [crashAt_recs, List.filter_map]
  congr 1

theorem keys_of_filter {K : Key → Prop} {l l' : List (Pos × Rec)} {q : Pos × Rec → Bool} (e : l' = l.filter q)
    (hk : ∀ x ∈ l, K x.2.key) : ∀ x ∈ l', K x.2.key :=
  fun x hx => hk x (List.mem_filter.mp (e ▸ hx)).1

def ReadAll (b : Bucket) : Prop := ∀ x ∈ b.log, b.readAt x.1 = some x.2

/-- what a restart with a rebuilt tree needs of a state to serve every key's last record (`Good.rebuilt`).  It follows
    from `Lay` (`Lay.good`) and does not give it back; it is `Lay` that a kill keeps, so the crash theorems take `Lay`. -/
structure Good (K : Key → Prop) (b : Bucket) : Prop where
  pos : PosInv b
  read : ReadAll b
  keys : ∀ x ∈ b.log, K x.2.key

theorem Lay.good {K : Key → Prop} {b : Bucket} (l : Lay b) (hk : ∀ x ∈ b.log, K x.2.key) : Good K b :=
  ⟨l.posInv, fun _ hx => l.read_log hx, hk⟩

theorem Good.rebuilt (hash : Key → Nat) {K : Key → Prop} {b : Bucket} (g : Good K b) (hInj : InjOn hash K) (cfg : Store.Cfg) :
    LastRec hash K (Store.step hash cfg b (.reopen false)).1 :=
  lr_rebuilt hash K cfg hInj g.pos g.keys (fun _ _ _ h _ => g.read _ (lastOf_mem h).1)

theorem okFrom_filter (q : Nat × Rec → Bool) : ∀ {lo : Nat} {l : List (Nat × Rec)} {sz : Nat}, okFrom lo l sz → okFrom lo (l.filter q) sz
  | _, [], _, h => h
  | _, p :: rest, _, h => by
    rw [List.filter_cons]
    split
    · exact ⟨h.1, h.2.1, okFrom_filter q h.2.2⟩
    · exact okFrom_lo (okFrom_filter q h.2.2) (by have := h.1; omega)

theorem okFrom_getLast : ∀ {lo : Nat} {l : List (Nat × Rec)} {sz : Nat}, okFrom lo l sz →
    okFrom lo l (match l.getLast? with | some p => p.1 + p.2.size | none => lo)
  | _, [], _, _ => Nat.le_refl _
  | _, [_], _, h => ⟨h.1, h.2.1, Nat.le_refl _⟩
  | _, _ :: q :: r, _, h => by
    have ih := okFrom_getLast h.2.2
    rw [List.getLast?_cons_cons]
    cases hq : (q :: r).getLast? with
    | none => simp at hq
    | some x => rw [hq] at ih; exact ⟨h.1, h.2.1, ih⟩

theorem Lay.crashAt {b : Bucket} (l : Lay b) (cut : Nat → Nat) (present : Nat → Bool) : Lay (b.crashAt cut present) := by
  refine ⟨fun i => okFrom_getLast (okFrom_filter _ (l.ok i)), fun i hi => ?_⟩
  simp [Bucket.crashAt, Chunk.durable, (l.fresh i hi).1]

section Recover
variable (hash : Key → Nat) (K : Key → Prop)

/-- with it `Lay.recover_get` applies to a second life on what the next start gives, and so on (`C06_two_lives`;
    engine crash, mix c06, driver line `life2`) -/
theorem Lay.recover {b : Bucket} (l : Lay b) (cfg : Store.Cfg) (cut : Nat → Nat) (present : Nat → Bool) :
    Lay (b.recover hash cfg cut present) ∧ (b.recover hash cfg cut present).log = b.log.filter (durableP cut) := by
  obtain ⟨q, _⟩ := reopen_quiet hash cfg (b.crashAt cut present) (l.crashAt cut present).posInv false
  exact ⟨(l.crashAt cut present).quiet q, q.log.trans (crash_log b cut present)⟩

theorem Lay.recover_get (hInj : InjOn hash K) (cfg : Store.Cfg) {b : Bucket} (l : Lay b) (hkeys : ∀ x ∈ b.log, K x.2.key)
    (cut : Nat → Nat) (present : Nat → Bool) (k : Key) (hk : K k) :
    (Store.step hash cfg (b.recover hash cfg cut present) (.get k)).2.1 =
      (match lastOf k (b.log.filter (durableP cut)) with
       | some (_, r) => if r.ver > 0 then Reply.value r.flag r.body else Reply.miss
       | none => Reply.miss) := by
  have lr : LastRec hash K (b.recover hash cfg cut present) :=
    ((l.crashAt cut present).good (keys_of_filter (crash_log b cut present) hkeys)).rebuilt hash hInj cfg
  rw [get_of_lastRec hash K cfg lr k hk, liveRec, (l.recover hash cfg cut present).2]
  cases lastOf k (b.log.filter (durableP cut)) with
  | none => rfl
  | some x => by_cases hv : x.2.ver > 0 <;> simp [hv]

end Recover

end StoreLemmas
