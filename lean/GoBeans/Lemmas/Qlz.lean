/-
  QuickLZ (C10) — the Go port's `Decompress` / `DecompressSafe` (quicklz.go:291-431, cquicklz.go:62-82; `Model/Qlz.lean`) on
  ARBITRARY bytes.
  Termination.  Every pass of the main loop `for { … }` that neither returns nor panics advances `src` and ends with a
  successful read of `source[src+2]` (`step_cont`), so the bytes of `source` ahead of `src` bound the passes that remain.
  `decompressWork_le` bounds the iterations of the inner loops as well; `Gap` and what carries it serve that bound alone.
  Safe entry.  Whatever `Decompress` returns has the announced length (`decompress_size`), so the "bad sizeDecompressed"
  branch of `DecompressSafe` is dead code.
  Allocation.  What is allocated before any check is bounded by the header alone, and a nine-byte input that passes the
  length check attains the bound (`hostile9_alloc`).
  Namespaces.  `QlzLemmas` holds this file and the decoder's test vectors in `QlzExamples`; every other file of the tower
  (`Compress`, the round trip) is in `QlzRT`, which opens `QlzLemmas`.
-/
import GoBeans.Model.Qlz
namespace QlzLemmas
open Qlz

theorem wr_size {a a' : Buf} {i : Nat} {v : UInt8} (h : wr a i v = some a') : a'.size = a.size := by
  unfold wr at h
  split at h
  · cases h; simp
  · cases h

theorem wr_some_lt {a a' : Buf} {i : Nat} {v : UInt8} (h : wr a i v = some a') : i < a.size := by
  unfold wr at h
  split at h
  · assumption
  · cases h

theorem getElem?_some_lt {a : Buf} {i : Nat} {b : UInt8} (h : a[i]? = some b) : i < a.size :=
  (Array.getElem?_eq_some_iff.mp h).1

theorem fastRead_succ {a : Buf} {i n v : Nat} (h : fastRead a i (n + 1) = some v) :
    ∃ l b, fastRead a i n = some l ∧ a[i + n]? = some b ∧ v = l ||| (b.toNat <<< (8 * n)) := by
  unfold fastRead at h
  split at h
  · cases h
  · rename_i l hl
    split at h
    · cases h
    · rename_i b hb
      cases h
      exact ⟨l, b, hl, hb, rfl⟩

theorem fastRead_some_lt {a : Buf} {i n v : Nat} (h : fastRead a i (n + 1) = some v) : i + n < a.size := by
  obtain ⟨_, _, _, hb, _⟩ := fastRead_succ h
  exact getElem?_some_lt hb

/-- Go's 64-bit `int` holds every value the decoder builds (n ≤ 4), so `Nat` is exact for them -/
theorem fastRead_lt {a : Buf} {i : Nat} : ∀ {n v : Nat}, fastRead a i n = some v → v < 2 ^ (8 * n) := by
  intro n
  induction n with
  | zero => intro v h; simp [fastRead] at h; omega
  | succ n ih =>
    intro v h
    obtain ⟨l, b, hl, _, rfl⟩ := fastRead_succ h
    have h1 : l < 2 ^ (8 * (n + 1)) := Nat.lt_of_lt_of_le (ih hl) (Nat.pow_le_pow_right (by omega) (by omega))
    have h2 : b.toNat <<< (8 * n) < 2 ^ (8 * (n + 1)) := by
      rw [Nat.shiftLeft_eq]
      have hb : b.toNat < 2 ^ 8 := by have := b.toNat_lt; omega
      calc b.toNat * 2 ^ (8 * n) < 2 ^ 8 * 2 ^ (8 * n) := Nat.mul_lt_mul_of_pos_right hb (Nat.pow_pos (by omega))
        _ = 2 ^ (8 * (n + 1)) := by rw [← Nat.pow_add]; congr 1; omega
    exact Nat.or_lt_two_pow h1 h2

theorem copyFrom_size (dst : Nat) (off2 : Int) : ∀ (n i : Nat) (d d' : Buf), copyFrom dst off2 i n d = some d' → d'.size = d.size := by
  intro n
  induction n with
  | zero => intro i d d' h; simp [copyFrom] at h; rw [h]
  | succ n ih =>
    intro i d d' h
    unfold copyFrom at h
    split at h
    · cases h
    · split at h
      · cases h
      · rename_i b _ d1 hw
        rw [ih _ _ _ h, wr_size hw]

theorem tailLoop_size (s : Buf) : ∀ (n src dst cw : Nat) (d d' : Buf), tailLoop s n src dst cw d = some d' → d'.size = d.size := by
  intro n
  induction n with
  | zero => intro src dst cw d d' h; simp [tailLoop] at h; rw [h]
  | succ n ih =>
    intro src dst cw d d' h
    unfold tailLoop at h
    simp only at h
    split at h
    · cases h
    · split at h
      · cases h
      · rename_i hw
        rw [ih _ _ _ _ _ h, wr_size hw]

theorem hashUpdLit_succ (d : Buf) (n : Nat) (ht : Array Int) (lh : Int) :
    hashUpdLit d (n + 1) ht lh =
      match fastReadI d (lh + 1) 3 with
      | none => none
      | some f2 =>
        match wrI ht (hashOf f2) (lh + 1) with
        | none => none
        | some ht' => hashUpdLit d n ht' (lh + 1) := by
  conv => lhs; unfold hashUpdLit
  rfl

theorem hashUpdLit_get (d : Buf) : ∀ (n : Nat) (ht : Array Int) (lh : Int) (ht' : Array Int) (lh' : Int),
    hashUpdLit d n ht lh = some (ht', lh') →
      lh' = lh + n ∧ ht'.size = ht.size ∧ ∀ h : Nat, ht'[h]? = ht[h]? ∨ ∃ p : Int, lh < p ∧ p ≤ lh + n ∧ ht'[h]? = some p := by
  intro n
  induction n with
  | zero =>
    intro ht lh ht' lh' h
    simp only [hashUpdLit, Option.some.injEq, Prod.mk.injEq] at h
    obtain ⟨rfl, rfl⟩ := h
    exact ⟨by omega, rfl, fun h => Or.inl rfl⟩
  | succ n ih =>
    intro ht lh ht' lh' h
    rw [hashUpdLit_succ] at h
    split at h
    · cases h
    · rename_i f2 hf2
      split at h
      · cases h
      · rename_i ht1 hw
        obtain ⟨hl, hs, hg⟩ := ih _ _ _ _ h
        unfold wrI at hw
        split at hw
        · cases hw
          refine ⟨by omega, by rw [hs, Array.size_setIfInBounds], ?_⟩
          intro k
          rcases hg k with h1 | ⟨p, p1, p2, p3⟩
          · rw [h1, Array.getElem?_setIfInBounds]
            split
            · right; exact ⟨lh + 1, by omega, by omega, rfl⟩
            · left; rfl
          · right; exact ⟨p, by omega, by omega, p3⟩
        · cases hw

/-- level 1: the hash updates of a pass run from `lastHashed` up to `dst` (a match) or `dst − 2` (a literal); this
    bounds their number (`passWork_le`) -/
def Gap (st : St) : Prop := st.lastHashed < (st.dst : Int) ∧ (st.dst : Int) ≤ st.lastHashed + 3

theorem decodeMatch_props {s : Buf} {level : Nat} {st : St} {ml : Nat} {off2 : Int} {src' : Nat}
    (h : decodeMatch s level st = some (ml, off2, src')) : st.src < src' ∧ src' ≤ st.src + 4 ∧ ml ≤ 258 := by
  unfold decodeMatch at h
  simp only at h
  by_cases hl : level = 1
  · rw [if_pos hl] at h
    split at h
    · cases h
    · split at h
      · cases h
        have := @Nat.and_le_right st.fetch 0xf
        omega
      · split at h
        · cases h
        · rename_i b _
          cases h
          have := @Nat.and_le_right b.toNat 0xff
          omega
  · rw [if_neg hl] at h
    have := @Nat.and_le_right (st.fetch >>> 2) 15
    have := @Nat.and_le_right (st.fetch >>> 2) 0x1f
    have := @Nat.and_le_right (st.fetch >>> 7) 255
    by_cases c1 : st.fetch &&& 3 = 0
    · rw [if_pos c1] at h; cases h; omega
    rw [if_neg c1] at h
    by_cases c2 : st.fetch &&& 2 = 0
    · rw [if_pos c2] at h; cases h; omega
    rw [if_neg c2] at h
    by_cases c3 : st.fetch &&& 1 = 0
    · rw [if_pos c3] at h; cases h; omega
    rw [if_neg c3] at h
    by_cases c4 : st.fetch &&& 127 ≠ 3
    · rw [if_pos c4] at h; cases h; omega
    rw [if_neg c4] at h; cases h; omega

theorem matchStep_props {s : Buf} {level : Nat} {st st' : St} (h : matchStep s level st = some st') :
    st'.dest.size = st.dest.size ∧ st.src < st'.src ∧ st'.src + 2 < s.size ∧ Gap st' := by
  unfold matchStep at h
  simp only at h
  split at h
  · cases h
  · rename_i hdm
    split at h
    · cases h
    · rename_i hc3
      split at h
      · cases h
      · rename_i hcd
        have hdm := decodeMatch_props hdm
        have hc1 := copyFrom_size _ _ _ _ _ _ hc3
        have hc2 := copyFrom_size _ _ _ _ _ _ hcd
        by_cases hl : level = 1
        · rw [if_pos hl] at h
          split at h
          · cases h
          · split at h
            · cases h
            · split at h
              · cases h
              · rename_i hfr
                cases h
                have hfr := fastRead_some_lt hfr
                refine ⟨by simp only; rw [hc2, hc1], by simp only; omega, by simp only; omega, ?_⟩
                simp only [Gap]; omega
        · rw [if_neg hl] at h
          split at h
          · cases h
          · rename_i hfr
            cases h
            have hfr := fastRead_some_lt hfr
            refine ⟨by simp only; rw [hc2, hc1], by simp only; omega, by simp only; omega, ?_⟩
            simp only [Gap]; omega

theorem litStep_props {s : Buf} {level : Nat} {st st' : St} (h : litStep s level st = some st') :
    st'.dest.size = st.dest.size ∧ st'.src = st.src + 1 ∧ st'.src + 2 < s.size ∧ (level = 1 → Gap st → Gap st') := by
  unfold litStep at h
  split at h
  · cases h
  · split at h
    · cases h
    · rename_i d hw
      simp only at h
      have h1 := wr_size hw
      by_cases hl : level = 1
      · rw [if_pos hl] at h
        split at h
        · cases h
        · rename_i hupd
          split at h
          · cases h
          · rename_i hb2
            cases h
            have h3 := getElem?_some_lt hb2
            have h4 := (hashUpdLit_get _ _ _ _ _ _ hupd).1
            refine ⟨h1, rfl, by simp; omega, ?_⟩
            intro _ hg
            simp only [Gap] at hg ⊢
            omega
      · rw [if_neg hl] at h
        split at h
        · cases h
        · rename_i hb2
          split at h
          · cases h
          · cases h
            have h3 := getElem?_some_lt hb2
            exact ⟨h1, rfl, by simp; omega, fun h => absurd h hl⟩

theorem loadCword_props {s : Buf} {level : Nat} {lms : Int} {st st' : St} (h : loadCword s level lms st = some st') :
    st'.dest = st.dest ∧ st.src ≤ st'.src ∧ st'.dst = st.dst ∧ st'.lastHashed = st.lastHashed := by
  unfold loadCword at h
  by_cases h1 : st.cword = 1
  · rw [if_pos h1] at h
    split at h
    · cases h
    · simp only at h
      split at h
      · split at h
        · cases h
        · cases h; exact ⟨rfl, Nat.le_add_right _ _, rfl, rfl⟩
      · cases h; exact ⟨rfl, Nat.le_add_right _ _, rfl, rfl⟩
  · rw [if_neg h1] at h; cases h; exact ⟨rfl, Nat.le_refl _, rfl, rfl⟩

theorem loadCword_gap {s : Buf} {level : Nat} {lms : Int} {st st' : St} (h : loadCword s level lms st = some st') (hg : Gap st) : Gap st' := by
  obtain ⟨_, _, h3, h4⟩ := loadCword_props h
  simp only [Gap] at hg ⊢
  rw [h3, h4]; exact hg

theorem step_eq {s : Buf} {level size : Nat} {st st1 : St} (h : loadCword s level ((size : Int) - 11) st = some st1) :
    step s level size st =
      if st1.cword &&& 1 = 1 then (matchStep s level st1).map Step.cont
      else if (st1.dst : Int) ≤ (size : Int) - 11 then (litStep s level st1).map Step.cont
      else (tailLoop s (size - st1.dst) st1.src st1.dst st1.cword st1.dest).map Step.done := by
  simp only [step, h]

theorem step_some {s : Buf} {level size : Nat} {st : St} {r : Step} (h : step s level size st = some r) :
    ∃ st1, loadCword s level ((size : Int) - 11) st = some st1 ∧
      ((st1.cword &&& 1 = 1 ∧ ∃ st', matchStep s level st1 = some st' ∧ Step.cont st' = r)
      ∨ (¬ st1.cword &&& 1 = 1 ∧ (st1.dst : Int) ≤ (size : Int) - 11 ∧ ∃ st', litStep s level st1 = some st' ∧ Step.cont st' = r)
      ∨ (¬ st1.cword &&& 1 = 1 ∧ ¬ (st1.dst : Int) ≤ (size : Int) - 11
          ∧ ∃ out, tailLoop s (size - st1.dst) st1.src st1.dst st1.cword st1.dest = some out ∧ Step.done out = r)) := by
  cases hl : loadCword s level ((size : Int) - 11) st with
  | none => simp only [step, hl] at h; cases h
  | some st1 =>
    rw [step_eq hl] at h
    refine ⟨st1, rfl, ?_⟩
    split at h
    · rename_i hb
      exact .inl ⟨hb, Option.map_eq_some_iff.mp h⟩
    · rename_i hb
      split at h
      · rename_i hd
        exact .inr (.inl ⟨hb, hd, Option.map_eq_some_iff.mp h⟩)
      · rename_i hd
        exact .inr (.inr ⟨hb, hd, Option.map_eq_some_iff.mp h⟩)

theorem step_cont {s : Buf} {level size : Nat} {st st' : St} (h : step s level size st = some (.cont st')) :
    st'.dest.size = st.dest.size ∧ st.src < st'.src ∧ st'.src + 2 < s.size := by
  obtain ⟨st1, hl, hc⟩ := step_some h
  obtain ⟨hd, hs, _, _⟩ := loadCword_props hl
  rcases hc with ⟨_, _, hm, e⟩ | ⟨_, _, _, hm, e⟩ | ⟨_, _, _, _, e⟩ <;> cases e
  · obtain ⟨h1, h2, h3, _⟩ := matchStep_props hm
    exact ⟨by rw [h1, hd], by omega, h3⟩
  · obtain ⟨h1, h2, h3, _⟩ := litStep_props hm
    exact ⟨by rw [h1, hd], by omega, h3⟩

theorem step_done {s : Buf} {level size : Nat} {st : St} {out : Buf} (h : step s level size st = some (.done out)) :
    out.size = st.dest.size := by
  obtain ⟨st1, hl, hc⟩ := step_some h
  rcases hc with ⟨_, _, _, e⟩ | ⟨_, _, _, _, e⟩ | ⟨_, _, _, ht, e⟩ <;> cases e
  rw [tailLoop_size _ _ _ _ _ _ _ ht, (loadCword_props hl).1]

theorem loop_ne_fuel (s : Buf) (level size : Nat) : ∀ (fuel : Nat) (st : St), s.size - st.src < fuel → loop s level size fuel st ≠ .fuel := by
  intro fuel
  induction fuel with
  | zero => intro st h; omega
  | succ n ih =>
    intro st h
    unfold loop
    split
    · simp
    · simp
    · rename_i st' hs
      obtain ⟨_, h2, h3⟩ := step_cont hs
      apply ih
      omega

theorem loop_fuel_mono (s : Buf) (level size : Nat) : ∀ (fuel : Nat) (st : St) (k : Nat),
    loop s level size fuel st ≠ .fuel → loop s level size (fuel + k) st = loop s level size fuel st := by
  intro fuel
  induction fuel with
  | zero => intro st k h; simp [loop] at h
  | succ n ih =>
    intro st k h
    have : n + 1 + k = (n + k) + 1 := by omega
    rw [this]
    unfold loop at h ⊢
    split
    · rfl
    · rfl
    · rename_i st' hs
      rw [hs] at h
      exact ih st' k h

theorem loop_stable {s : Buf} {level size f₁ f₂ : Nat} {st : St} (h₁ : loop s level size f₁ st ≠ .fuel)
    (h₂ : loop s level size f₂ st ≠ .fuel) : loop s level size f₁ st = loop s level size f₂ st := by
  rcases Nat.le_total f₁ f₂ with hle | hle <;> obtain ⟨k, rfl⟩ := Nat.exists_eq_add_of_le hle
  · exact (loop_fuel_mono _ _ _ _ _ k h₁).symm
  · exact loop_fuel_mono _ _ _ _ _ k h₂

theorem loop_ok_of_lt {s : Buf} {level size n fuel : Nat} {st : St} {out : Buf} (h : loop s level size n st = .ok out)
    (hf : s.size - st.src < fuel) : loop s level size fuel st = .ok out := by
  rw [← h]
  exact loop_stable (loop_ne_fuel _ _ _ _ _ hf) (by rw [h]; nofun)

theorem loop_cont {s : Buf} {level size : Nat} {st st' : St} {out : Buf} (h : step s level size st = some (.cont st'))
    (h' : ∃ n, loop s level size n st' = .ok out) : ∃ n, loop s level size n st = .ok out :=
  h'.elim fun n hn => ⟨n + 1, by simp only [loop, h]; exact hn⟩

theorem loop_size (s : Buf) (level size : Nat) : ∀ (fuel : Nat) (st : St) (out : Buf),
    loop s level size fuel st = .ok out → out.size = st.dest.size := by
  intro fuel
  induction fuel with
  | zero => intro st out h; simp [loop] at h
  | succ n ih =>
    intro st out h
    unfold loop at h
    split at h
    · cases h
    · rename_i o hs
      cases h
      exact step_done hs
    · rename_i st' hs
      rw [ih _ _ h, (step_cont hs).1]

theorem headerLen_cases {s : Buf} {hl : Nat} (h : headerLen s = some hl) : (hl = 3 ∨ hl = 9) ∧ 0 < s.size := by
  unfold headerLen at h
  split at h
  · cases h
  · rename_i b hb
    have := getElem?_some_lt hb
    split at h <;> (cases h; omega)

theorem initSt_dest_size (hl size : Nat) : (initSt hl size).dest.size = size := by simp [initSt]

theorem storedCopy_size (s : Buf) (hl size : Nat) : (storedCopy s hl size).size = size := by simp [storedCopy]

theorem decompressFuel_eq {s : Buf} {size hl level cbit : Nat} (fuel : Nat) (h1 : sizeDecompressed s = some size)
    (h2 : headerLen s = some hl) (h3 : levelOf s = some level) (h13 : level = 1 ∨ level = 3) (h4 : cbitOf s = some cbit) :
    decompressFuel fuel s = if cbit ≠ 1 then .ok (storedCopy s hl size) else loop s level size fuel (initSt hl size) := by
  simp only [decompressFuel, h1, h2, h3, h4]
  rw [if_neg (by omega)]

theorem decompressFuel_cases (s : Buf) :
    (∀ fuel, decompressFuel fuel s = .panic)
    ∨ ∃ size hl level cbit, sizeDecompressed s = some size ∧ headerLen s = some hl
        ∧ ∀ fuel, decompressFuel fuel s = if cbit ≠ 1 then .ok (storedCopy s hl size) else loop s level size fuel (initSt hl size) := by
  cases h1 : sizeDecompressed s with
  | none => exact .inl fun _ => by simp only [decompressFuel, h1]
  | some size =>
  cases h2 : headerLen s with
  | none => exact .inl fun _ => by simp only [decompressFuel, h1, h2]
  | some hl =>
  cases h3 : levelOf s with
  | none => exact .inl fun _ => by simp only [decompressFuel, h1, h2, h3]
  | some level =>
  by_cases h13 : level ≠ 1 ∧ level ≠ 3
  · exact .inl fun _ => by simp only [decompressFuel, h1, h2, h3, if_pos h13]
  cases h4 : cbitOf s with
  | none => exact .inl fun _ => by simp only [decompressFuel, h1, h2, h3, h4, if_neg h13]
  | some cbit => exact .inr ⟨size, hl, level, cbit, rfl, rfl, fun fuel => decompressFuel_eq fuel h1 h2 h3 (by omega) h4⟩

theorem decompressFuel_ne_fuel (s : Buf) (fuel : Nat) (h : ∀ hl, headerLen s = some hl → s.size - hl < fuel) :
    decompressFuel fuel s ≠ .fuel := by
  rcases decompressFuel_cases s with hp | ⟨size, hl, level, cbit, _, h2, he⟩
  · rw [hp]; nofun
  · rw [he]
    split
    · nofun
    · exact loop_ne_fuel _ _ _ _ _ (h hl h2)

theorem decompress_terminates (s : Buf) : decompress s ≠ .fuel := by
  apply decompressFuel_ne_fuel
  intro hl h
  have := headerLen_cases h
  omega

/-- the fuel is not an artefact: any bound above `len(source) - headerLen` gives the same result -/
theorem decompressFuel_stable (s : Buf) (fuel : Nat) (h : ∀ hl, headerLen s = some hl → s.size - hl < fuel) :
    decompressFuel fuel s = decompress s := by
  unfold decompress
  rcases decompressFuel_cases s with hp | ⟨size, hl, level, cbit, _, h2, he⟩
  · rw [hp, hp]
  · rw [he, he]
    split
    · rfl
    · have := headerLen_cases h2
      exact loop_stable (loop_ne_fuel _ _ _ _ _ (h hl h2)) (loop_ne_fuel _ _ _ _ _ (by show s.size - hl < s.size; omega))

theorem decompress_size {s out : Buf} (h : decompress s = .ok out) : sizeDecompressed s = some out.size := by
  unfold decompress at h
  rcases decompressFuel_cases s with hp | ⟨size, hl, level, cbit, h1, _, he⟩
  · rw [hp] at h; cases h
  · rw [he] at h
    split at h
    · cases h; rw [h1, storedCopy_size]
    · rw [h1, loop_size _ _ _ _ _ _ h, initSt_dest_size]

theorem decompressSafe_of_ok {c x : Buf} (hc : sizeCompressed c = some c.size) (h : decompress c = .ok x) :
    decompressSafe c = .ok x := by
  unfold decompressSafe
  rw [hc, decompress_size h, h]
  simp

theorem decompressSafe_spec (s : Buf) :
    (∃ out, decompressSafe s = .ok out ∧ sizeCompressed s = some s.size ∧ sizeDecompressed s = some out.size)
    ∨ decompressSafe s = .error .badSizeC ∨ decompressSafe s = .error .recovered := by
  unfold decompressSafe
  cases hc : sizeCompressed s with
  | none => exact Or.inr (Or.inr rfl)
  | some sizeC =>
    by_cases hsz : s.size = sizeC
    · subst hsz
      simp only [ne_eq, not_true_eq_false, if_false]
      cases hd : sizeDecompressed s with
      | none => exact Or.inr (Or.inr rfl)
      | some sizeD =>
        cases hdec : decompress s with
        | panic => exact Or.inr (Or.inr rfl)
        | fuel => exact absurd hdec (decompress_terminates s)
        | ok out =>
          have h1 := decompress_size hdec
          rw [hd] at h1
          cases h1
          exact Or.inl ⟨out, by simp only [not_true_eq_false, if_false], trivial, rfl⟩
    · exact Or.inr (Or.inl (by simp only [ne_eq, hsz, not_false_eq_true, if_true]))

theorem decompressSafe_ok {s out : Buf} (h : decompressSafe s = .ok out) :
    sizeCompressed s = some s.size ∧ sizeDecompressed s = some out.size := by
  rcases decompressSafe_spec s with ⟨o, h1, h2, h3⟩ | h1 | h1 <;> rw [h] at h1 <;> cases h1
  exact ⟨h2, h3⟩

/-- inner-loop iterations of one pass: the counts that `matchStep` / `litStep` / `step` hand to `copyFrom`, `hashUpdMatch`,
    `hashUpdLit`, `tailLoop`, copied by hand from `Model/Qlz.lean`: no lemma ties them to those calls -/
def passWork (s : Buf) (level size : Nat) (st : St) : Nat :=
  match loadCword s level ((size : Int) - 11) st with
  | none => 0
  | some st =>
    if st.cword &&& 1 = 1 then
      match decodeMatch s level st with
      | none => 0
      | some (ml, _, _) => 3 + (ml - 3) + (if level = 1 then ((st.dst : Int) - st.lastHashed).toNat else 0)
    else if (st.dst : Int) ≤ (size : Int) - 11 then
      (if level = 1 then (((st.dst + 1 : Nat) : Int) - 3 - st.lastHashed).toNat else 0)
    else size - st.dst

def loopWork (s : Buf) (level size : Nat) : Nat → St → Nat
  | 0, _ => 0
  | n + 1, st =>
    passWork s level size st + 1 +
      match step s level size st with
      | some (.cont st') => loopWork s level size n st'
      | _ => 0

/-- 261: match copies ≤ 258, level-1 hash updates ≤ 3 by `Gap`; the pass that enters the final literal run makes at most
    `size` and does not continue -/
theorem passWork_le (s : Buf) (level size : Nat) (st : St) (hg : level = 1 → Gap st) :
    passWork s level size st ≤ 261
      ∨ (passWork s level size st ≤ size ∧ ∀ st', step s level size st ≠ some (.cont st')) := by
  unfold passWork
  cases hl : loadCword s level ((size : Int) - 11) st with
  | none => left; exact Nat.zero_le _
  | some st1 =>
    simp only
    have hg1 : level = 1 → Gap st1 := fun h => loadCword_gap hl (hg h)
    by_cases hb : st1.cword &&& 1 = 1
    · left
      rw [if_pos hb]
      split
      · omega
      · rename_i ml _ _ hdm
        have := (decodeMatch_props hdm).2.2
        split
        · rename_i h1
          have := hg1 h1
          simp only [Gap] at this
          omega
        · omega
    · by_cases hd : (st1.dst : Int) ≤ (size : Int) - 11
      · left
        rw [if_neg hb, if_pos hd]
        split
        · rename_i h1
          have := hg1 h1
          simp only [Gap] at this
          omega
        · omega
      · right
        rw [if_neg hb, if_neg hd]
        refine ⟨by omega, fun st' h => ?_⟩
        obtain ⟨_, hl', hc⟩ := step_some h
        cases hl.symm.trans hl'
        rcases hc with ⟨hb', _⟩ | ⟨_, hd', _⟩ | ⟨_, _, _, _, e⟩
        · exact hb hb'
        · exact hd hd'
        · cases e

theorem step_gap {s : Buf} {level size : Nat} {st st' : St} (h : step s level size st = some (.cont st')) (hl1 : level = 1)
    (hg : Gap st) : Gap st' := by
  obtain ⟨st1, hl, hc⟩ := step_some h
  rcases hc with ⟨_, _, hm, e⟩ | ⟨_, _, _, hm, e⟩ | ⟨_, _, _, _, e⟩ <;> cases e
  · exact (matchStep_props hm).2.2.2
  · exact (litStep_props hm).2.2.2 hl1 (loadCword_gap hl hg)

/-- 262 = 261 and the pass itself, per byte of `source` still ahead (`step_cont`); `size` for the final literal run -/
theorem loopWork_le (s : Buf) (level size : Nat) : ∀ (fuel : Nat) (st : St), (level = 1 → Gap st) →
    loopWork s level size fuel st ≤ 262 * (s.size - st.src) + 262 + size := by
  intro fuel
  induction fuel with
  | zero => intro st _; simp [loopWork]
  | succ n ih =>
    intro st hg
    unfold loopWork
    split
    · rename_i st' hs
      obtain ⟨_, h2, h3⟩ := step_cont hs
      have := ih st' (fun h => step_gap hs h (hg h))
      rcases passWork_le s level size st hg with h | ⟨_, h⟩
      · omega
      · exact absurd hs (h st')
    · rcases passWork_le s level size st hg with h | ⟨h, _⟩ <;> omega

def decompressWork (s : Buf) : Nat :=
  match sizeDecompressed s, headerLen s, levelOf s, cbitOf s with
  | some size, some hl, some level, some 1 => if level ≠ 1 ∧ level ≠ 3 then 0 else loopWork s level size s.size (initSt hl size)
  | _, _, _, _ => 0

/-- all loop iterations of `Decompress(source)`: main-loop passes, byte copies of matches, hash-table updates, final literals;
    in `DecompressSafe`, where `len(source) = SizeCompressed(source)` has been checked, linear in the two sizes of the header -/
theorem decompressWork_le (s : Buf) (size hl : Nat) (h1 : sizeDecompressed s = some size) (h2 : headerLen s = some hl) :
    decompressWork s ≤ 262 * (s.size - hl + 1) + size := by
  unfold decompressWork
  rw [h1, h2]
  split
  · rename_i heq1 heq2 _ _
    cases heq1; cases heq2
    split
    · omega
    · rename_i level _ _ _
      have := loopWork_le s level size s.size (initSt hl size) (fun _ => by simp [Gap, initSt])
      simp only [initSt] at this ⊢
      omega
  · omega

theorem allocBeforeChecks_eq (s : Buf) : allocBeforeChecks s = (sizeDecompressed s).map (· + 36864) := rfl

theorem sizeDecompressed_lt {s : Buf} {n : Nat} (h : sizeDecompressed s = some n) : n < 2 ^ 32 := by
  unfold sizeDecompressed at h
  split at h
  · cases h
  · split at h
    · exact fastRead_lt h
    · have := fastRead_lt h; omega

theorem sizeDecompressed_short {s : Buf} {n : Nat} (h3 : headerLen s = some 3) (h : sizeDecompressed s = some n) : n < 256 := by
  unfold sizeDecompressed at h
  rw [h3] at h
  simp only [show (3 : Nat) ≠ 9 by omega, if_false] at h
  have := fastRead_lt h
  omega

theorem allocBeforeChecks_some {s : Buf} {a : Nat} (h : allocBeforeChecks s = some a) :
    ∃ n, sizeDecompressed s = some n ∧ a = n + 36864 := by
  rw [allocBeforeChecks_eq] at h
  simp only [Option.map_eq_some_iff] at h
  obtain ⟨n, hn, rfl⟩ := h
  exact ⟨n, hn, rfl⟩

theorem allocBeforeChecks_le {s : Buf} {a : Nat} (h : allocBeforeChecks s = some a) : a ≤ 4294967295 + 36864 := by
  obtain ⟨n, hn, rfl⟩ := allocBeforeChecks_some h
  have := sizeDecompressed_lt hn
  omega

theorem allocBeforeChecks_short {s : Buf} {a : Nat} (h3 : headerLen s = some 3) (h : allocBeforeChecks s = some a) : a ≤ 255 + 36864 := by
  obtain ⟨n, hn, rfl⟩ := allocBeforeChecks_some h
  have := sizeDecompressed_short h3 hn
  omega

theorem allocTotal_le {s : Buf} {a : Nat} (h : allocTotal s = some a) : a ≤ 2 * 4294967295 + 36864 := by
  unfold allocTotal at h
  split at h
  · rename_i size cbit hs _
    cases h
    have := sizeDecompressed_lt hs
    split <;> omega
  · contradiction

/-- the stored form: nothing compares the payload length with the announced size; `storedCopy` truncates the payload or
    pads it with zeros -/
theorem decompress_stored {s : Buf} {size hl level : Nat} (h1 : sizeDecompressed s = some size) (h2 : headerLen s = some hl)
    (h3 : levelOf s = some level) (hl13 : level = 1 ∨ level = 3) (h4 : cbitOf s = some 0) :
    decompress s = .ok (storedCopy s hl size) := by
  rw [decompress, decompressFuel_eq _ h1 h2 h3 hl13 h4]
  rfl

/-- level 3, stored form, compressed size 9 (= its length), decompressed size 2^32 − 1 -/
def hostile9 : Buf := #[0x4e, 9, 0, 0, 0, 0xff, 0xff, 0xff, 0xff]

/-- `hostile9` passes the only check `DecompressSafe` makes before calling `Decompress` (length = announced compressed
    size), attains the bounds, and the call SUCCEEDS -/
theorem hostile9_alloc :
    hostile9.size = 9 ∧ sizeCompressed hostile9 = some 9 ∧ allocBeforeChecks hostile9 = some (4294967295 + 36864)
    ∧ allocTotal hostile9 = some (2 * 4294967295 + 36864)
    ∧ ∃ out, decompressSafe hostile9 = .ok out ∧ out.size = 4294967295 ∧ ∀ i (h : i < out.size), out[i] = 0 := by
  have hsz : hostile9.size = 9 := rfl
  have hc : sizeCompressed hostile9 = some 9 := by decide
  have hd : sizeDecompressed hostile9 = some 4294967295 := by decide
  have hh : headerLen hostile9 = some 9 := by decide
  have hlv : levelOf hostile9 = some 3 := by decide
  have hcb : cbitOf hostile9 = some 0 := by decide
  refine ⟨hsz, hc, by rw [allocBeforeChecks_eq, hd]; rfl, by unfold allocTotal; rw [hd, hcb]; rfl, ?_⟩
  have hdec := decompress_stored hd hh hlv (Or.inr rfl) hcb
  refine ⟨storedCopy hostile9 9 4294967295, decompressSafe_of_ok hc hdec, storedCopy_size _ _ _, ?_⟩
  · intro i hi
    simp only [storedCopy, Array.getElem_ofFn]
    rw [dif_neg (by rw [hsz]; omega)]

end QlzLemmas
