/-
  QuickLZ (C10) — LEVEL 3.  One pass of the first loop of `Compress(x, 3)` (`cstep3_run`) cannot panic: the candidate search
  reads only inside the source (`HtOK`).  What it emits is a literal, or a match token in one of the five forms whose
  length/offset the decoder's arithmetic `tok3` recovers (`emit3_spec`) and whose bytes really are a copy of earlier input:
  every candidate is verified against the source, whatever the hash tables hold (`cands3_run`).  With the two inductions of
  `QlzLoop` (`level3`): `compress3_roundtrip`, `compress3_total`.
-/
import GoBeans.Lemmas.QlzLoop
import GoBeans.Lemmas.QlzSearch
namespace QlzRT
open Qlz QlzLemmas

/-- a verified match candidate for position `src`: length `ml`, starting at `o`; `ml = 0`: none yet (the search starts so) -/
def GoodMatch (s : Buf) (src rem ml o : Nat) : Prop :=
  ml = 0 ∨ (3 ≤ ml ∧ (o : Int) < (src : Int) - 2 ∧ ml ≤ rem ∧ ∀ j, j < ml → s[o + j]? = s[src + j]?)

/-- every hash-table entry is a position at which three bytes can be read; 65536 = `HASH_VALUES * QLZ_POINTERS_3`, 4096
    slots of 16 candidates -/
structure HtOK (s : Buf) (ht : Array Nat) : Prop where
  size : ht.size = 65536
  pos : ∀ (i v : Nat), ht[i]? = some v → v + 2 < s.size

theorem HtOK_set {s : Buf} {ht : Array Nat} (h : HtOK s ht) (i v : Nat) (hv : v + 2 < s.size) : HtOK s (ht.setIfInBounds i v) := by
  refine ⟨by rw [Array.size_setIfInBounds]; exact h.size, ?_⟩
  intro j w hj
  rw [Array.getElem?_setIfInBounds] at hj
  split at hj
  · split at hj
    · cases hj; exact hv
    · cases hj
  · exact h.pos j w hj

/-- for any fuel (the model gives 17, for at most 16 candidates) -/
theorem cands3_run (s : Buf) (ht : Array Nat) (hash src fetch rem c : Nat) (hf : fastRead s src 3 = some fetch)
    (hht : HtOK s ht) (hh : hash < 4096) (h6 : 6 ≤ rem) (hr : src + rem + 4 ≤ s.size) :
    ∀ (fuel k ml o : Nat), GoodMatch s src rem ml o →
      ∃ ml' o', cands3 s ht hash src fetch rem c fuel k ml o = some (ml', o') ∧ GoodMatch s src rem ml' o' := by
  -- the bytes under the fetch are `byte(fetch)`, `byte(fetch>>8)`, `byte(fetch>>16)`, the values the loop compares with
  have g0 : s[src]? = some (fetch % 256).toUInt8 := fastRead_byte hf (Nat.zero_lt_succ 2)
  have g1 : s[src + 1]? = some ((fetch >>> 8) % 256).toUInt8 := fastRead_byte hf (by omega : 1 < 3)
  have g2 : s[src + 2]? = some ((fetch >>> 16) % 256).toUInt8 := fastRead_byte hf (by omega : 2 < 3)
  intro fuel
  induction fuel with
  | zero => intro k ml o hg; exact ⟨ml, o, rfl, hg⟩
  | succ f ih =>
    intro k ml o hg
    unfold cands3
    by_cases hk : k < 16 ∧ c > k
    · rw [if_pos hk]
      obtain ⟨cand, hcand⟩ := getElem?_ok ht (hash * 16 + k) (by rw [hht.size]; omega)
      have hc2 := hht.pos _ _ hcand
      rw [hcand]
      simp only
      obtain ⟨a0, ha0⟩ := getElem?_ok s cand (by omega)
      obtain ⟨a1, ha1⟩ := getElem?_ok s (cand + 1) (by omega)
      obtain ⟨a2, ha2⟩ := getElem?_ok s (cand + 2) (by omega)
      rw [ha0]
      simp only
      by_cases hne0 : (fetch % 256).toUInt8 ≠ a0
      · rw [if_pos hne0]; exact ih _ _ _ hg
      · rw [if_neg hne0, ha1]
        simp only
        by_cases hne1 : ((fetch >>> 8) % 256).toUInt8 ≠ a1
        · rw [if_pos hne1]; exact ih _ _ _ hg
        · rw [if_neg hne1, ha2]
          simp only
          by_cases hne2 : ((fetch >>> 16) % 256).toUInt8 ≠ a2 ∨ ¬ ((cand : Int) < (src : Int) - 2)
          · rw [if_pos hne2]; exact ih _ _ _ hg
          · rw [if_neg hne2]
            have hlt : (cand : Int) < (src : Int) - 2 := by
              have := not_or.mp hne2
              omega
            obtain ⟨m, hm, m3, mrem, mext⟩ := extend3_run s cand src rem (by omega) (by omega) 300 3 (by omega)
            rw [hm]
            simp only
            by_cases hbest : m > ml ∨ (m = ml ∧ cand > o)
            · -- the candidate replaces the best so far
              rw [if_pos hbest]
              apply ih
              right
              refine ⟨m3, hlt, mrem, ?_⟩
              intro j hj
              by_cases hj3 : 3 ≤ j
              · exact mext j hj3 hj
              · have : j = 0 ∨ j = 1 ∨ j = 2 := by omega
                rcases this with rfl | rfl | rfl
                · rw [Nat.add_zero, Nat.add_zero, ha0, g0, Decidable.not_not.mp hne0]
                · rw [ha1, g1, Decidable.not_not.mp hne1]
                · rw [ha2, g2, Decidable.not_not.mp (not_or.mp hne2).1]
            · rw [if_neg hbest]; exact ih _ _ _ hg
    · rw [if_neg hk]; exact ⟨ml, o, rfl, hg⟩

theorem fill3_total (s : Buf) (src : Nat) : ∀ (n u : Nat) (ht : Array Nat) (hc : Array UInt8), HtOK s ht → hc.size = 4096 →
    src + u + n + 2 ≤ s.size → ∃ ht' hc', fill3 s src n u ht hc = some (ht', hc') ∧ HtOK s ht' ∧ hc'.size = 4096 := by
  intro n
  induction n with
  | zero => intro u ht hc h1 h2 _; exact ⟨ht, hc, rfl, h1, h2⟩
  | succ n ih =>
    intro u ht hc h1 h2 hb
    unfold fill3
    obtain ⟨f, hf⟩ := fastRead_ok s (src + u) 3 (by omega)
    rw [hf]
    simp only
    have hh := hashOf_lt f
    obtain ⟨c, hcc⟩ := getElem?_ok hc (hashOf f) (by omega)
    rw [hcc]
    simp only
    have hidx : hashOf f * 16 + (c.toNat &&& 15) < ht.size := by
      have := @Nat.and_le_right c.toNat 15
      rw [h1.size]; omega
    unfold wrN
    rw [if_pos hidx]
    simp only
    exact ih (u + 1) _ _ (HtOK_set h1 _ _ (by omega)) (by rw [Array.size_setIfInBounds]; exact h2) (by omega)

/-- the form the compressor chooses for a match of length `ml` at distance `off` (quicklz.go:242-258): (token, bytes) -/
def emit3 (ml off : Nat) : Nat × Nat :=
  if ml = 3 ∧ off ≤ 63 then (off <<< 2, 1)
  else if ml = 3 ∧ off ≤ 16383 then ((off <<< 2) ||| 1, 2)
  else if ml ≤ 18 ∧ off ≤ 1023 then ((((ml - 3) <<< 2) ||| (off <<< 6)) ||| 2, 2)
  else if ml ≤ 33 then ((((ml - 2) <<< 2) ||| (off <<< 7)) ||| 3, 3)
  else ((((ml - 3) <<< 7) ||| (off <<< 15)) ||| 3, 4)

/-- every form is three bit fields (tag, length, distance) that fill its bytes: `TokEnc.of_fields` with the widths (2,0,6),
    (2,0,14), (2,4,10), (2,5,17), (7,8,17) -/
theorem emit3_spec {ml off : Nat} (h1 : 3 ≤ ml) (h2 : ml ≤ 258) (h : off < 131071) :
    TokEnc tok3 4 (emit3 ml off).1 (emit3 ml off).2 ml off ∧ (emit3 ml off).2 ≤ ml := by
  have t1 : off ≤ 63 → TokEnc tok3 4 (off <<< 2) 1 3 off := fun hf => by
    rw [show off <<< 2 = pack 2 0 0 0 off by rw [Nat.shiftLeft_eq]; simp only [pack, Nat.reducePow]; omega]
    refine TokEnc.of_fields 2 0 6 rfl (by omega) (by omega) (by omega) (by omega) (by omega) fun f _ f1 _ f3 => ?_
    have g : f % 4 = 0 := (fld_zero f 2).symm.trans f1
    unfold tok3
    rw [if_pos g, show f % 256 / 4 = fld f (2 + 0) 6 from fld_mod_div f 2 6, f3]
  have t2 : off ≤ 16383 → TokEnc tok3 4 ((off <<< 2) ||| 1) 2 3 off := fun hf => by
    rw [show (off <<< 2) ||| 1 = pack 2 0 1 0 off by
      rw [or_low _ 1 2 (by omega) (by rw [Nat.shiftLeft_eq]; omega), Nat.shiftLeft_eq]; simp only [pack, Nat.reducePow]; omega]
    refine TokEnc.of_fields 2 0 14 rfl (by omega) (by omega) (by omega) (by omega) (by omega) fun f _ f1 _ f3 => ?_
    have g : f % 4 = 1 := (fld_zero f 2).symm.trans f1
    unfold tok3
    rw [if_neg (by omega), if_pos (by omega), show f % 65536 / 4 = fld f (2 + 0) 14 from fld_mod_div f 2 14, f3]
  have t3 : ml ≤ 18 → off ≤ 1023 → TokEnc tok3 4 ((((ml - 3) <<< 2) ||| (off <<< 6)) ||| 2) 2 ml off := fun hm hf => by
    rw [show (((ml - 3) <<< 2) ||| (off <<< 6)) ||| 2 = pack 2 4 2 (ml - 3) off by
      rw [Nat.shiftLeft_eq (ml - 3), or_shl _ _ _ (by omega), or_low _ 2 2 (by omega) (by omega)]; simp only [pack, Nat.reducePow]; omega]
    refine TokEnc.of_fields 2 4 10 rfl (by omega) (by omega) (by omega) (by omega) (by omega) fun f _ f1 f2 f3 => ?_
    have g : f % 4 = 2 := (fld_zero f 2).symm.trans f1
    unfold tok3
    rw [if_neg (by omega), if_neg (by omega), if_pos (by omega), show f / 4 % 16 = fld f 2 4 from rfl, f2,
      show f % 65536 / 64 = fld f (2 + 4) 10 from fld_mod_div f 6 10, f3, Nat.sub_add_cancel h1]
  have t4 : ml ≤ 33 → TokEnc tok3 4 ((((ml - 2) <<< 2) ||| (off <<< 7)) ||| 3) 3 ml off := fun hm => by
    rw [show (((ml - 2) <<< 2) ||| (off <<< 7)) ||| 3 = pack 2 5 3 (ml - 2) off by
      rw [Nat.shiftLeft_eq (ml - 2), or_shl _ _ _ (by omega), or_low _ 3 2 (by omega) (by omega)]; simp only [pack, Nat.reducePow]; omega]
    refine TokEnc.of_fields 2 5 17 rfl (by omega) (by omega) (by omega) (by omega) (by omega) fun f _ f1 f2 f3 => ?_
    have g : f % 4 = 3 := (fld_zero f 2).symm.trans f1
    have g2 : f / 4 % 32 = ml - 2 := f2
    unfold tok3
    rw [if_neg (by omega), if_neg (by omega), if_neg (by omega), if_pos (by omega), g2,
      show f / 128 % 131072 = fld f (2 + 5) 17 from rfl, f3, Nat.sub_add_cancel (by omega)]
  have t5 : TokEnc tok3 4 ((((ml - 3) <<< 7) ||| (off <<< 15)) ||| 3) 4 ml off := by
    rw [show (((ml - 3) <<< 7) ||| (off <<< 15)) ||| 3 = pack 7 8 3 (ml - 3) off by
      rw [Nat.shiftLeft_eq (ml - 3), or_shl _ _ _ (by omega), or_low _ 3 2 (by omega) (by omega)]; simp only [pack, Nat.reducePow]; omega]
    refine TokEnc.of_fields 7 8 17 rfl (by omega) (by omega) (by omega) (by omega) (by omega) fun f hf f1 f2 f3 => ?_
    have g : f % 128 = 3 := (fld_zero f 7).symm.trans f1
    have g3 : f / 32768 % 131072 = off := f3
    unfold tok3
    rw [if_neg (by omega), if_neg (by omega), if_neg (by omega), if_neg (by omega), show f / 128 % 256 = fld f 7 8 from rfl, f2,
      show f / 32768 = off by omega, Nat.sub_add_cancel h1]
  unfold emit3
  split
  · rename_i hf; exact ⟨by rw [hf.1]; exact t1 hf.2, by omega⟩
  · split
    · rename_i hf; exact ⟨by rw [hf.1]; exact t2 hf.2, by omega⟩
    · split
      · rename_i hf; exact ⟨t3 hf.1 hf.2, by omega⟩
      · split
        · rename_i hf; exact ⟨t4 hf, by omega⟩
        · exact ⟨t5, by show 4 ≤ ml; omega⟩

theorem cstep3_emit (dest : Buf) (dst ml off : Nat) :
    (if ml = 3 ∧ off ≤ 63 then (fastWrite dest dst (off <<< 2) 1).map fun d => (d, dst + 1)
     else if ml = 3 ∧ off ≤ 16383 then (fastWrite dest dst ((off <<< 2) ||| 1) 2).map fun d => (d, dst + 2)
     else if ml ≤ 18 ∧ off ≤ 1023 then (fastWrite dest dst ((((ml - 3) <<< 2) ||| (off <<< 6)) ||| 2) 2).map fun d => (d, dst + 2)
     else if ml ≤ 33 then (fastWrite dest dst ((((ml - 2) <<< 2) ||| (off <<< 7)) ||| 3) 3).map fun d => (d, dst + 3)
     else (fastWrite dest dst ((((ml - 3) <<< 7) ||| (off <<< 15)) ||| 3) 4).map fun d => (d, dst + 4))
    = (fastWrite dest dst (emit3 ml off).1 (emit3 ml off).2).map fun d => (d, dst + (emit3 ml off).2) := by
  unfold emit3
  by_cases h1 : ml = 3 ∧ off ≤ 63
  · simp only [if_pos h1]
  by_cases h2 : ml = 3 ∧ off ≤ 16383
  · simp only [if_neg h1, if_pos h2]
  by_cases h3 : ml ≤ 18 ∧ off ≤ 1023
  · simp only [if_neg h1, if_neg h2, if_pos h3]
  by_cases h4 : ml ≤ 33
  · simp only [if_neg h1, if_neg h2, if_neg h3, if_pos h4]
  · simp only [if_neg h1, if_neg h2, if_neg h3, if_neg h4]

/-- the level-3 decoder rebuilds no table, so all the tables have to be is safe to search -/
structure TInv3 (s : Buf) (st : CSt) : Prop where
  ht : HtOK s st.ht
  hc : st.hc.size = 4096

theorem cstep3_run {s : Buf} {st : CSt} (hi : TInv3 s st) (hsrc : (st.src : Int) ≤ (s.size : Int) - 11) :
    (st.dst + 4 ≤ st.dest.size → ∃ st', cstep3 s st = some st') ∧
    ∀ st', cstep3 s st = some st' → ∃ t, Emits dl3 s st st' t ∧ TInv3 s st' ∧ Resolves dl3 s st.src () () t := by
  unfold cstep3
  simp only
  obtain ⟨fetch, hfetch⟩ := fastRead_ok s st.src 3 (by omega)
  rw [hfetch]
  simp only
  have hh := hashOf_lt fetch
  obtain ⟨c, hcc⟩ := getElem?_ok st.hc (hashOf fetch) (by rw [hi.hc]; exact hh)
  rw [hcc]
  simp only
  obtain ⟨hrem6, hrem255, hremb⟩ := remaining_spec hsrc
  obtain ⟨ml, o2, hcands, hgood⟩ := cands3_run s st.ht (hashOf fetch) st.src fetch _ c.toNat hfetch hi.ht hh
    hrem6 hremb 17 0 0 0 (Or.inl rfl)
  rw [hcands]
  simp only
  have hidx : hashOf fetch * 16 + (c.toNat &&& 15) < st.ht.size := by
    have := @Nat.and_le_right c.toNat 15
    rw [hi.ht.size]; omega
  rw [if_neg (by omega)]
  have hht1 : HtOK s (st.ht.setIfInBounds (hashOf fetch * 16 + (c.toNat &&& 15)) st.src) := HtOK_set hi.ht _ _ (by omega)
  have hhc1 : (st.hc.setIfInBounds (hashOf fetch) (c + 1)).size = 4096 := by rw [Array.size_setIfInBounds]; exact hi.hc
  by_cases hcond : ml ≥ 3 ∧ (st.src : Int) - (o2 : Int) < 131071
  · -- a match
    rw [if_pos hcond]
    rcases hgood with h0 | ⟨g1, g2, g3, g4⟩
    · omega
    have hml : st.src + ml + 4 ≤ s.size := by omega
    obtain ⟨ht', hc', hfill, hht', hhc'⟩ := fill3_total s st.src (ml - 1) 1 _ _ hht1 hhc1 (by omega)
    rw [hfill, cstep3_emit]
    simp only
    obtain ⟨o1, o2le, o3, o4⟩ : 1 ≤ st.src - o2 ∧ st.src - o2 ≤ st.src ∧ st.src - (st.src - o2) = o2 ∧ st.src - o2 < 131071 := by omega
    obtain ⟨htk, hlen⟩ := emit3_spec g1 (by omega : ml ≤ 258) o4
    refine ⟨fun hd => ?_, fun st' h => ?_⟩
    · obtain ⟨d, hd1⟩ := fastWrite_ok st.dest st.dst (emit3 ml (st.src - o2)).1 _
        (by have := htk.le; omega : st.dst + (emit3 ml (st.src - o2)).2 ≤ st.dest.size)
      rw [hd1]
      exact ⟨_, rfl⟩
    · split at h
      · cases h
      · rename_i d dst' hr
        simp only [Option.some.injEq] at h
        subst h
        have hxs : ∀ j, j < ml → s[st.src + j]? = s[st.src - (st.src - o2) + j]? := by
          intro j hj; rw [o3]; exact (g4 j hj).symm
        simp only [Option.map_eq_some_iff, Prod.mk.injEq] at hr
        obtain ⟨_, hw, rfl, rfl⟩ := hr
        exact ⟨.mat ml (st.src - o2) _ _, .of_write htk hlen g1 hml hw rfl rfl rfl rfl, ⟨hht', hhc'⟩,
          st.src - o2, rfl, o1, o2le, hxs⟩
  · -- a literal
    obtain ⟨b, hb⟩ := getElem?_ok s st.src (by omega)
    rw [if_neg hcond, hb]
    simp only
    refine ⟨fun hd => ?_, fun st' h => ?_⟩
    · obtain ⟨d, hw⟩ := wr_ok b (by omega : st.dst < st.dest.size)
      rw [hw]
      exact ⟨_, rfl⟩
    · split at h
      · cases h
      · rename_i d hw
        simp only [Option.some.injEq] at h
        subst h
        exact ⟨.lit b, .of_lit hb hw (by omega) rfl rfl rfl rfl, ⟨hht1, hhc1⟩, trivial⟩

theorem level3 (x : Buf) : Level 3 x dl3 (fun st _ => TInv3 x st) where
  ok := decOK3
  init h11 _ := by
    refine ⟨⟨by simp [cinit], ?_⟩, by simp [cinit]⟩
    intro i v hv
    simp [cinit, Array.getElem?_replicate] at hv
    omega
  flush h hT := by
    obtain ⟨_, e2, _, e4, _⟩ := flushed_tbl h
    exact ⟨by rw [e2]; exact hT.ht, by rw [e4]; exact hT.hc⟩
  pass hi hsrc h := let ⟨t, ht⟩ := (cstep3_run hi hsrc).2 _ h; ⟨t, (), ht⟩
  run hi hsrc := (cstep3_run hi hsrc).1

/-- `Compress` returning at all, i.e. not panicking on an index, is the hypothesis `h`; `compress3_total` discharges it -/
theorem compress3_roundtrip {x c : Buf} (hx : x.size ≠ 0) (hsz : x.size + 400 < 2 ^ 32) (h : compress x 3 = some c) :
    decompress c = .ok x ∧ decompressSafe c = .ok x :=
  compress_roundtrip (level3 x) hx hsz h

theorem compress3_header {x c : Buf} (hx : x.size ≠ 0) (hsz : x.size + 400 < 2 ^ 32) (h : compress x 3 = some c) :
    sizeCompressed c = some c.size ∧ sizeDecompressed c = some x.size :=
  compress_header (level3 x) hx hsz h

theorem compress3_total (x : Buf) : ∃ c, compress x 3 = some c :=
  compress_total (level3 x)

end QlzRT
