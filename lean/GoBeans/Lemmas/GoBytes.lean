/- Little-endian fields in a list of bytes, as the record header and the hint items are laid out; `drop_next` is the
   step of a cursor over a field that has been read. -/
import GoBeans.GoSem
namespace Go

theorem leBytes_length (n v : Nat) : (leBytes n v).length = n := by
  induction n generalizing v with
  | zero => rfl
  | succ n ih => simp [leBytes, ih]

theorem getLE_leBytes (n v : Nat) (rest : Bytes) : getLE n (leBytes n v ++ rest) = v % 256^n := by
  induction n generalizing v with
  | zero => simp [getLE, Nat.mod_one]
  | succ n ih =>
    simp only [leBytes, List.cons_append, getLE]
    rw [ih]
    have h1 : ((v % 256).toUInt8).toNat = v % 256 := by
      simp [Nat.toUInt8, UInt8.toNat_ofNat']
    rw [h1, Nat.pow_succ, Nat.mul_comm (256^n) 256, Nat.mod_mul]

theorem getLE_leBytes_of_lt {n v : Nat} (h : v < 256^n) (rest : Bytes) : getLE n (leBytes n v ++ rest) = v := by
  rw [getLE_leBytes, Nat.mod_eq_of_lt h]

theorem drop_next {l a x : Bytes} {i n : Nat} (h : l.drop i = a ++ x) (ha : a.length = n) : l.drop (i + n) = x := by
  rw [← List.drop_drop, h, List.drop_left' ha]

end Go
