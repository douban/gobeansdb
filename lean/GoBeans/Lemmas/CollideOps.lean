/-
  The operations of the collision-path model in closed form, before any invariant: a write (`Bucket.set`: append → tree
  slot of the key hash → `hints.set`) as one state (`put_eq`); `checkAndSet` as the decision `StoreLemmas.casPlan` on what
  `memMeta` finds (`cas_eq`), with its values for the requests of the class with any hash function (automatic revision,
  delete, check_vhash off); `Collide.step` operation by operation.
-/
import GoBeans.Lemmas.CollideTable
import GoBeans.Lemmas.CollideLog
import GoBeans.Lemmas.Version
namespace CollideLemmas
open Store Spec HintIndex Collide StoreLemmas

section
variable (hash : Key → Nat)

theorem memMeta_eq (st : State) (k : Key) :
    st.memMeta hash k = (match tget st.ct (hash k) k with
      | some it => some { pos := { chunk := it.chunk, off := it.off }, ver := it.ver, vhash := it.vhash }
      | none => AMap.get st.b.tree (hash k)) := by
  unfold State.memMeta
  rw [ctGet_eq]
  rfl

/-- `mkItem hash false (pos.off, r)` with the full position: the item of a write as it goes into the collision table -/
def wItemC (r : Rec) (pos : Pos) : Item :=
  { khash := hash r.key, chunk := pos.chunk, off := pos.off, ver := r.ver, vhash := if r.ver > 0 then vhashOf r.body else 0, key := r.key }

/-- the collision table after `hints.set` of a write -/
def wTable (ct : CTable) (r : Rec) (pos : Pos) : CTable :=
  if thas ct (hash r.key) then ct.compareAndSet (wItemC hash r pos) false else ct

theorem put_eq (cfg : Collide.Cfg) (st : State) (r : Rec) :
    st.put hash cfg r =
      ({ st with
          b := { (st.b.append cfg.s r).1 with
                  tree := AMap.set (st.b.append cfg.s r).1.tree (hash r.key)
                    { pos := (st.b.append cfg.s r).2, ver := r.ver, vhash := if r.ver > 0 then vhashOf r.body else 0 } },
          ct := wTable hash st.ct r (st.b.append cfg.s r).2,
          hs := (st.hs.setItem cfg.cap (mkItem hash false ((st.b.append cfg.s r).2.off, r)) (st.b.append cfg.s r).2.chunk r.size).1 },
       (st.b.append cfg.s r).2) := by
  unfold State.put hintSet wTable wItemC
  generalize st.b.append cfg.s r = A
  obtain ⟨b', pos⟩ := A
  simp only [ctGet_eq]
  rfl

theorem wTable_thas (ct : CTable) (r : Rec) (pos : Pos) (h : Nat) : thas (wTable hash ct r pos) h = thas ct h := by
  unfold wTable
  cases hth : thas ct (hash r.key) with
  | false => simp only [Bool.false_eq_true, if_false]
  | true =>
    simp only [if_true]
    rw [show ∀ h, thas (ct.compareAndSet (wItemC hash r pos) false) h = (thas ct h || decide (h = hash r.key)) from (cmpSet_spec ct (wItemC hash r pos) false).2.2]
    by_cases hh : h = hash r.key
    · rw [hh, hth]; rfl
    · simp [hh]

theorem wTable_tget (ct : CTable) (r : Rec) (pos : Pos)
    (hsmall : ∀ old, tget ct (hash r.key) r.key = some old → cmpKey old ≤ cmpKey (wItemC hash r pos)) (h : Nat) (k : Key) :
    tget (wTable hash ct r pos) h k =
      if thas ct (hash r.key) = true ∧ h = hash r.key ∧ k = r.key then some (wItemC hash r pos) else tget ct h k := by
  unfold wTable
  cases hth : thas ct (hash r.key) with
  | false => simp
  | true =>
    simp only [if_true, true_and]
    obtain ⟨a1, a2, _⟩ := cmpSet_spec ct (wItemC hash r pos) false
    by_cases hc : h = hash r.key ∧ k = r.key
    · rw [if_pos hc, hc.1, hc.2]
      rcases a1 with e | ⟨old, e0, _, _, hlt⟩
      · exact e
      · have := hsmall old e0; omega
    · rw [if_neg hc, a2 h k hc]

theorem cas_eq (cfg : Collide.Cfg) (st : State) (k : Key) (body : Bytes) (flag : Nat) (rev : Int) (ts : Option Nat) (size wts : Nat) :
    st.checkAndSet hash cfg k body flag rev ts size wts =
      match casPlan cfg.s.checkVHash (st.memMeta hash k) body rev with
      | .keep res => (st, res)
      | .retree it => ({ st with b := { st.b with tree := AMap.set st.b.tree (hash k) it } }, .done none)
      | .write v =>
        ((st.put hash cfg { key := k, ver := v, flag := flag, ts := ts, body := body, size := size, wts := wts }).1,
         .done (some (st.put hash cfg { key := k, ver := v, flag := flag, ts := ts, body := body, size := size, wts := wts }).2)) := by
  unfold State.checkAndSet casPlan
  generalize (if rev ≥ 0 then vhashOf body else 0) = vh
  cases st.memMeta hash k with
  | none =>
    simp only
    split
    · rfl
    · split <;> rfl
  | some it =>
    simp only
    split
    · split <;> rfl
    · split
      · rfl
      · split <;> rfl

theorem step_set (cfg : Collide.Cfg) (st : State) (k : Key) (body : Bytes) (flag : Nat) (rev : Int) (ts size : Nat) :
    Collide.step hash cfg st (.set k body flag rev ts size) =
      ((st.checkAndSet hash cfg k body flag rev (some ts) size ts).1,
       match (st.checkAndSet hash cfg k body flag rev (some ts) size ts).2 with
       | .done pos => (.stored, pos)
       | .notFound => (.error, none)) := by
  simp only [Collide.step]
  generalize st.checkAndSet hash cfg k body flag rev (some ts) size ts = A
  obtain ⟨st', res⟩ := A
  cases res <;> rfl

theorem step_delete (cfg : Collide.Cfg) (st : State) (k : Key) (size wts : Nat) :
    Collide.step hash cfg st (.delete k size wts) =
      ((st.checkAndSet hash cfg k [] 0 (-1) none size wts).1,
       match (st.checkAndSet hash cfg k [] 0 (-1) none size wts).2 with
       | .done pos => (.deleted, pos)
       | .notFound => (.notFound, none)) := by
  simp only [Collide.step]
  generalize st.checkAndSet hash cfg k [] 0 (-1) none size wts = A
  obtain ⟨st', res⟩ := A
  cases res <;> rfl

theorem get_ct (st : State) (k : Key) : ∃ ct, (st.get hash k).1 = { st with ct := ct } := by
  -- one `split` per `match` / `if` of `State.get`, in its order; only the last branch touches the table
  unfold State.get
  split
  · exact ⟨st.ct, rfl⟩
  · split
    · exact ⟨st.ct, rfl⟩
    · split
      · exact ⟨st.ct, rfl⟩
      · split
        · exact ⟨st.ct, rfl⟩
        · split
          · exact ⟨st.ct, rfl⟩
          · simp only
            split <;> exact ⟨_, rfl⟩

theorem step_get_fst (cfg : Collide.Cfg) (st : State) (k : Key) : (Collide.step hash cfg st (.get k)).1 = (st.get hash k).1 := by
  simp only [Collide.step]
  cases (st.get hash k).2 with
  | found r v p => simp only; split <;> rfl
  | _ => rfl

theorem step_info_fst (cfg : Collide.Cfg) (st : State) (k : Key) : (Collide.step hash cfg st (.info k)).1 = (st.get hash k).1 := by
  simp only [Collide.step]
  cases (st.get hash k).2 <;> rfl

theorem step_incr_fst (cfg : Collide.Cfg) (st : State) (k : Key) (d : Int) (size wts : Nat) :
    (Collide.step hash cfg st (.incr k d size wts)).1 = (st.get hash k).1
    ∨ ∃ v val, (Collide.step hash cfg st (.incr k d size wts)).1 =
        ((st.get hash k).1.put hash cfg { key := k, ver := v, flag := Spec.FLAG_INCR, ts := none, body := Spec.itoa val, size := size, wts := wts }).1 := by
  -- the branches of `step … (.incr …)` in its order: miss, error, found with its four tests
  simp only [Collide.step]
  split
  · exact Or.inr ⟨_, _, rfl⟩
  · exact Or.inl rfl
  · split
    · exact Or.inr ⟨_, _, rfl⟩
    · split
      · exact Or.inl rfl
      · split
        · exact Or.inl rfl
        · split
          · exact Or.inl rfl
          · exact Or.inr ⟨_, _, rfl⟩

theorem step_flush (cfg : Collide.Cfg) (st : State) :
    Collide.step hash cfg st .flush = ({ st with b := (Store.step hash cfg.s st.b .flush).1 }, .stored, none) := rfl

theorem step_hintDump (cfg : Collide.Cfg) (st : State) :
    Collide.step hash cfg st .hintDump = ({ st with hs := st.hs.dumpAll (st.b.head + 1) }, .stored, none) := rfl

theorem step_hintMerge (cfg : Collide.Cfg) (st : State) : Collide.step hash cfg st .hintMerge = (st.merge false, .stored, none) := rfl

theorem step_gc (cfg : Collide.Cfg) (st : State) (g : GcArgs) (merge : Bool) :
    Collide.step hash cfg st (.gc g merge) = ((st.gcOp hash cfg g merge).1, .stored, none) := rfl

theorem step_reopen (cfg : Collide.Cfg) (st : State) (kt : Bool) :
    Collide.step hash cfg st (.reopen kt) = (st.reopen hash cfg kt, .stored, none) := rfl

theorem run_cons (cfg : Collide.Cfg) (st : State) (op : Collide.Op) (ops : List Collide.Op) :
    (Collide.run hash cfg st (op :: ops)).2
      = (match Collide.cmdOf op with | some _ => [(Collide.step hash cfg st op).2.1] | none => [])
        ++ (Collide.run hash cfg (Collide.step hash cfg st op).1 ops).2 := by
  cases hc : Collide.cmdOf op <;> simp [Collide.run, hc]

end

/-- a reply without version numbers, the meta reply of a deleted key counting as a miss: the view in which the theorem for
    any hash function is stated -/
def coarse : Reply → Reply
  | .info ver vh f len ts => if ver > 0 then .info 1 vh f len ts else .miss
  | r => r

theorem casPlan_set0 (old : Option TItem) (body : Bytes) (hb : (oldVerOf old).natAbs < 2147483647) :
    casPlan false old body 0 = .write (((oldVerOf old).natAbs : Int) + 1) := by
  unfold casPlan
  cases old with
  | none => simp only; rw [nextVer_eq 0 0 (by simp) (by omega) (by omega), nextVersion_zero]; simp [oldVerOf]
  | some it =>
    simp only [oldVerOf] at hb ⊢
    rw [nextVer_eq it.ver 0 hb (by omega) (by omega), nextVersion_zero]
    have : ¬ ((it.ver.natAbs : Int) + 1 < 0 ∧ it.ver < 0) := by omega
    simp [this]

theorem casPlan_del_none : casPlan false none [] (-1) = .keep .notFound := by
  unfold casPlan
  simp only
  rw [nextVer_eq 0 (-1) (by simp) (by omega) (by omega), nextVersion_neg1]
  simp

theorem casPlan_del_some (it : TItem) (hb : it.ver.natAbs < 2147483647) :
    casPlan false (some it) [] (-1) = if it.ver < 0 then .keep .notFound else .write (-(it.ver.natAbs : Int) - 1) := by
  unfold casPlan
  simp only
  rw [nextVer_eq it.ver (-1) hb (by omega) (by omega), nextVersion_neg1]
  by_cases hneg : it.ver < 0
  · have hc : (-(it.ver.natAbs : Int) - 1 < 0 ∧ it.ver < 0) := by omega
    simp [hc]
  · have hc : ¬ (-(it.ver.natAbs : Int) - 1 < 0 ∧ it.ver < 0) := by omega
    simp [hneg]

end CollideLemmas
