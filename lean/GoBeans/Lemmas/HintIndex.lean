/-
  C02, hint files as rebuildable caches.  The bucket model abstracts a restart without tree dump to
  `tree := replayTree hash b.log` (replay of every data record).  The code never does that: it applies hint split
  files.  Proved here, for EVERY log, EVERY way the split files can have been cut, EVERY subset of them missing at
  start, and a key hash injective on the keys in use:
      AMap.get (tree built by the code's hint mechanism) (hash k) = AMap.get (replayTree hash log) (hash k)
  (`restart_eq_replay`, the code path `findValidPaths → loadHintsByChunk → buildHintFromData → updateHtreeFromHint`).
  `DiskOK hash recs disk` — the split files `disk` describe a cut of the records `recs`, some of them missing — is what
  both C02 (`written_diskOK`, `openFiles_spec`) and the crash half (Lemmas/CrashHint*) say of the directory of one data
  file; `load_diskOK` is `checkHintWithData` on it with `n` bytes of the data file on disk (C02: all; C06: what a kill left).
  A start with a tree dump (`openTree`; the crash half uses it): a dump that describes the first files gives a tree that
  describes all of them (`openTree_treeOf`).
-/
import GoBeans.Lemmas.HintLoad
import GoBeans.Lemmas.Layout
namespace HintIndexLemmas
open Store Spec StoreLemmas HintIndex HintBufferLemmas HintLoadLemmas

theorem cutBy_flatten {α : Type} (cut : List Nat) : ∀ (l : List α), (cutBy cut l).flatten = l := by
  induction cut with
  | nil => intro l; simp [cutBy]
  | cons n ns ih => intro l; simp [cutBy, ih]

section Top
variable (hash : Key → Nat) (K : Key → Prop)

theorem mem_logFrom {x : Pos × Rec} : ∀ {files : List FileRecs} {c : Nat}, x ∈ logFrom c files ↔
    ∃ j f, files[j]? = some f ∧ x.1.chunk = c + j ∧ (x.1.off, x.2) ∈ f
  | [], _ => by simp [logFrom]
  | f :: fs, c => by
    simp only [logFrom, List.mem_append, mem_logFrom (files := fs)]
    constructor
    · rintro (h | ⟨j, g, hj, hc, hm⟩)
      · obtain ⟨p, hp, rfl⟩ := List.mem_map.mp h
        exact ⟨0, f, rfl, rfl, hp⟩
      · exact ⟨j + 1, g, hj, by omega, hm⟩
    · rintro ⟨j, g, hj, hc, hm⟩
      cases j with
      | zero =>
        cases hj
        obtain ⟨⟨ch, off⟩, r⟩ := x
        obtain rfl : ch = c := hc
        exact Or.inl (List.mem_map.mpr ⟨(off, r), hm, rfl⟩)
      | succ j => exact Or.inr ⟨j, g, hj, by omega, hm⟩

theorem logFrom_keys (files : List FileRecs) (hK : ∀ f ∈ files, ∀ p ∈ f, K p.2.key) (i : Nat) (x : Pos × Rec)
    (hx : x ∈ logFrom i files) : K x.2.key := by
  obtain ⟨_, f, hj, _, hm⟩ := mem_logFrom.mp hx
  exact hK f (List.mem_of_getElem? hj) _ hm

theorem logFrom_take_drop : ∀ (files : List FileRecs) (c m : Nat),
    logFrom c files = logFrom c (files.take m) ++ logFrom (c + m) (files.drop m)
  | [], _, _ => by simp [logFrom]
  | _ :: _, _, 0 => by simp [logFrom]
  | f :: fs, c, m + 1 => by
    simp only [List.take_succ_cons, List.drop_succ_cons, logFrom, logFrom_take_drop fs (c + 1) m, List.append_assoc]
    congr 3
    omega

theorem logFrom_append (a b : List FileRecs) (c : Nat) : logFrom c (a ++ b) = logFrom c a ++ logFrom (c + a.length) b := by
  simpa using logFrom_take_drop (a ++ b) c a.length

theorem logFrom_empties (c : Nat) (l : List FileRecs) (h : ∀ f ∈ l, f = []) : logFrom c l = [] :=
  List.eq_nil_iff_forall_not_mem.mpr fun x hx => by
    obtain ⟨_, f, hj, _, hm⟩ := mem_logFrom.mp hx
    rw [h f (List.mem_of_getElem? hj)] at hm
    cases hm

theorem logOf_push (files : List FileRecs) (recs : FileRecs) (p : Nat × Rec) :
    logOf (files ++ [recs ++ [p]]) = logOf (files ++ [recs]) ++ [(({ chunk := files.length, off := p.1 } : Pos), p.2)] := by
  simp [logOf, logFrom_append, logFrom, fileLog]

theorem logOf_append_empties (a b : List FileRecs) (h : ∀ f ∈ b, f = []) : logOf (a ++ b) = logOf a := by
  rw [logOf, logFrom_append, logFrom_empties _ _ h, List.append_nil]; rfl

theorem logOf_take_min {l : List FileRecs} {N : Nat} (h : ∀ f ∈ l.drop N, f = []) (m : Nat) :
    logOf (l.take (min m N)) = logOf (l.take m) := by
  rcases Nat.le_total m N with hm | hm
  · rw [Nat.min_eq_left hm]
  · obtain ⟨d, rfl⟩ := Nat.exists_eq_add_of_le hm
    rw [Nat.min_eq_right hm, List.take_add, logOf_append_empties _ _ fun f hf => h f (List.mem_of_mem_take hf)]

theorem logFrom_range' (g : Nat → FileRecs) (n : Nat) :
    ∀ c, logFrom c ((List.range' c n).map g) = (List.range' c n).flatMap (fun i => fileLog i (g i)) := by
  induction n with
  | zero => intro c; rfl
  | succ n ih =>
    intro c
    rw [List.range'_succ]
    simp only [List.map_cons, logFrom, List.flatMap_cons]
    rw [ih (c + 1)]

theorem splitFile_of (scan : Bool) (seg : FileRecs) : SplitFileOf hash seg (splitFile hash scan seg) :=
  ⟨scan, sortItems_perm _⟩

theorem hintsOfFile_of (cut : List Nat) (recs : FileRecs) : FileHintsOf hash recs (hintsOfFile hash cut recs) :=
  ⟨cutBy cut recs, cutBy_flatten cut recs,
    by simpa [hintsOfFile] using forall2_map_mem id _ (cutBy cut recs) fun seg _ => splitFile_of hash false seg⟩

theorem rebuiltHints_of (recs : FileRecs) : FileHintsOf hash recs (rebuiltHints hash recs) :=
  ⟨[recs], by simp, Forall2.cons (splitFile_of hash true recs) Forall2.nil⟩

theorem chooseHints_of (files : List FileRecs) :
    ∀ (cuts : List (List Nat)) (gone : List Bool), Forall2 (FileHintsOf hash) files (chooseHints hash files cuts gone) := by
  induction files with
  | nil => intro _ _; exact Forall2.nil
  | cons f fs ih =>
    intro cuts gone
    unfold chooseHints
    refine Forall2.cons ?_ (ih _ _)
    by_cases hg : gone.headD false = true
    · simp only [hg, if_true]; exact rebuiltHints_of hash f
    · simp only [hg]; exact hintsOfFile_of hash _ f

theorem hintReplay_get (hInj : InjOn hash K) (files : List FileRecs) (hK : ∀ f ∈ files, ∀ p ∈ f, K p.2.key)
    (hints : List (List (List Item))) (h : Forall2 (FileHintsOf hash) files hints) (k : Key) (hk : K k) :
    AMap.get (hintReplay hints) (hash k) = itemOfLast (lastOf k (logOf files)) := by
  rw [hintReplay_eq_replay hash K hInj files hK hints h k hk]
  exact replay_get hash K hInj (logOf files) (logFrom_keys K files hK 0) k hk

/-- `disk[j]` is the content of `<chunk>.<j>.idx.s`, or `none`: no such file.  The padding: a directory shows files only,
    so when the last splits of the cut have no file `disk` is shorter than `segs` -/
def DiskOK (recs : FileRecs) (disk : List (Option SplitFile)) : Prop :=
  ∃ (segs : List FileRecs) (n : Nat), segs.flatten = recs ∧ DiskInv hash recs segs (disk ++ List.replicate n none) []

theorem diskOK_iff {recs : FileRecs} {disk : List (Option SplitFile)} : DiskOK hash recs disk ↔
    ∃ (segs : List FileRecs) (n : Nat), segs.flatten = recs ∧
      CutInv (FileOK hash recs) segs (disk ++ List.replicate n none) [] := by
  simp only [DiskOK, diskInv_iff]

theorem validPrefix_pad (n : Nat) : ∀ disk : List (Option SplitFile),
    validPrefix (disk ++ List.replicate n none) = validPrefix disk := by
  intro disk
  induction disk with
  | nil => cases n <;> simp [validPrefix, List.replicate]
  | cons f fs ih =>
    cases f with
    | none => simp [validPrefix]
    | some f => simp [validPrefix, ih]

theorem checkHintWithData_pad (cap : Nat) (recs : FileRecs) (ds : Nat) (disk : List (Option SplitFile)) (n : Nat) :
    checkHintWithData hash cap recs ds (disk ++ List.replicate n none) = checkHintWithData hash cap recs ds disk := by
  unfold checkHintWithData
  rw [validPrefix_pad]

/-- `hn` (the data file ends at a record boundary) serves the clause `bound` of `DiskInv` alone, which nothing reads from a
    `DiskOK` -/
theorem load_diskOK (cap : Nat) (hcap : 1 ≤ cap) {recs : FileRecs} (hc : Contig recs) {n : Nat}
    (hn : n = dataSizeOf (recs.filter (fits n))) {disk : List (Option SplitFile)} (hd : DiskOK hash recs disk) :
    FileHintsOf hash (recs.filter (fits n)) ((checkHintWithData hash cap (recs.filter (fits n)) n disk).map (·.items)) ∧
    DiskOK hash (recs.filter (fits n)) ((checkHintWithData hash cap (recs.filter (fits n)) n disk).map some) := by
  obtain ⟨segs, m, hfl, hdi⟩ := (diskOK_iff hash).mp hd
  obtain ⟨segs', h1, h3⟩ := load_fileHints hash cap hcap recs hc n hn segs _ hfl hdi
  rw [checkHintWithData_pad] at h3
  exact ⟨⟨segs', h1, fileOK_hints hash h3⟩, (diskOK_iff hash).mpr ⟨segs', 0, h1, by simpa using h3⟩⟩

theorem openFiles_spec (cap : Nat) (hcap : 1 ≤ cap) (files : List FileRecs) (disks : List (List (Option SplitFile)))
    (h : Forall2 (DiskOK hash) files disks) : (∀ f ∈ files, Contig f) →
    Forall2 (FileHintsOf hash) files (openHints hash cap files disks) ∧
    Forall2 (DiskOK hash) files (openDisks hash cap files disks) := by
  unfold openHints openDisks
  induction h with
  | nil => intro _; exact ⟨Forall2.nil, Forall2.nil⟩
  | @cons recs disk fs ds hd _ ih =>
    intro hc
    have hfull := filter_fits_full (hc recs (by simp))
    have h := load_diskOK hash cap hcap (hc recs (by simp)) (n := dataSizeOf recs) (by rw [hfull]) hd
    rw [hfull] at h
    have ih' := ih (fun f hf => hc f (List.mem_cons_of_mem _ hf))
    simp only [openFiles, List.map_cons]
    exact ⟨Forall2.cons h.1 ih'.1, Forall2.cons h.2 ih'.2⟩

theorem restart_eq_replay (hInj : InjOn hash K) (cap : Nat) (hcap : 1 ≤ cap) (files : List FileRecs)
    (hK : ∀ f ∈ files, ∀ p ∈ f, K p.2.key) (hc : ∀ f ∈ files, Contig f)
    (disks : List (List (Option SplitFile))) (h : Forall2 (DiskOK hash) files disks) (k : Key) (hk : K k) :
    AMap.get (restartTree hash cap files disks) (hash k) = AMap.get (replayTree hash (logOf files)) (hash k) :=
  hintReplay_eq_replay hash K hInj files hK _ (openFiles_spec hash cap hcap files disks h hc).1 k hk

/-- so the next start (after removing any subset of the files again) is covered by `restart_eq_replay` too -/
theorem restart_again (cap : Nat) (hcap : 1 ≤ cap) (files : List FileRecs) (hc : ∀ f ∈ files, Contig f)
    (disks : List (List (Option SplitFile))) (h : Forall2 (DiskOK hash) files disks) :
    Forall2 (DiskOK hash) files (openDisks hash cap files disks) :=
  (openFiles_spec hash cap hcap files disks h hc).2

theorem masked_refl : ∀ d : List (Option SplitFile), Masked d d := by
  intro d
  induction d with
  | nil => exact Masked.nil
  | cons a l ih => exact Masked.keep ih

theorem masked_append {d0 d : List (Option SplitFile)} (hm : Masked d0 d) (pad : List (Option SplitFile)) :
    Masked (d0 ++ pad) (d ++ pad) := by
  induction hm with
  | nil => exact masked_refl pad
  | keep _ ih => exact Masked.keep ih
  | drop _ ih => exact Masked.drop ih

theorem diskOK_masked {recs : FileRecs} {d0 d : List (Option SplitFile)} (h : DiskOK hash recs d0) (hm : Masked d0 d) :
    DiskOK hash recs d := by
  obtain ⟨segs, n, h1, h2⟩ := (diskOK_iff hash).mp h
  exact (diskOK_iff hash).mpr ⟨segs, n, h1, fileOK_masked hash h2 (masked_append hm _)⟩

theorem diskOK_trim {recs : FileRecs} {d : List (Option SplitFile)} (m : Nat)
    (h : DiskOK hash recs (d ++ List.replicate m none)) : DiskOK hash recs d := by
  obtain ⟨segs, n, h1, h2⟩ := h
  refine ⟨segs, m + n, h1, ?_⟩
  rw [List.append_assoc, List.replicate_append_replicate] at h2
  exact h2

/-- split files as the write path leaves them — any interleaving of record writes and split closings, all splits dumped
    at close — then any subset of the files removed -/
theorem written_diskOK (cap : Nat) (hcap : 1 ≤ cap) (es : List (Option (Nat × Rec))) (hall : Contig (es.filterMap id))
    (disk : List (Option SplitFile)) (hm : Masked (HChunk.run cap (es.map (evOf hash false))).disk disk) :
    DiskOK hash (es.filterMap id) disk := by
  obtain ⟨segs, h1, h2⟩ := run_closed hash false cap hcap es hall
  exact diskOK_masked hash ((diskOK_iff hash).mpr ⟨segs, 0, h1, by
    simpa [disk_eq] using cutInv_map fileOfBuf (fun _ _ _ h => splitInv_fileOK hash h) h2⟩) hm

/-- the records whose hint items `Bucket.open` applies on top of the dump `(tc, ts)` -/
def openLog (tc : Nat) (ts : Int) : Nat → List FileRecs → List (List (List Item)) → List (Pos × Rec)
  | i, f :: fs, h :: hs =>
    (if i < tc then [] else if (if i = tc then ts + 1 else 0) ≥ (h.length : Int) then [] else fileLog i f)
      ++ openLog tc ts (i + 1) fs hs
  | _, _, _ => []

theorem openGo_agree (hInj : InjOn hash K) (tc : Nat) (ts : Int) (files : List FileRecs)
    (hints : List (List (List Item))) (h : Forall2 (FileHintsOf hash) files hints) :
    (∀ f ∈ files, ∀ p ∈ f, K p.2.key) → ∀ (i : Nat) (t t' : Tree), AgreeOn hash K t t' →
    AgreeOn hash K (openGo tc ts i t hints) ((openLog tc ts i files hints).foldl (replayStep hash) t') := by
  induction h with
  | nil => intro _ i t t' hag k hk; simpa [openGo, openLog] using hag k hk
  | @cons recs splits fs hs hf _ ih =>
    intro hK i t t' hag
    have hKr := hK recs (by simp)
    have ih' := ih (fun f hf' => hK f (List.mem_cons_of_mem _ hf')) (i + 1)
    simp only [openGo, openLog]
    by_cases h1 : i < tc
    · simp only [h1, if_true, List.nil_append]
      exact ih' t t' hag
    · simp only [h1, if_false]
      by_cases h2 : (if i = tc then ts + 1 else 0) ≥ (splits.length : Int)
      · simp only [h2, if_true, List.nil_append]
        exact ih' t t' hag
      · simp only [h2, if_false, List.foldl_append]
        exact ih' _ _ (applySplits_file hash K hInj i recs hKr splits hf t t' hag)

/-- `openLog` is the log from chunk `tc` on if that chunk has more than `ts + 1` split files — entirely, from split 0,
    not from split `ts + 1` — and from chunk `tc + 1` on otherwise -/
theorem openLog_eq (tc : Nat) (ts : Int) {files : List FileRecs} {hints : List (List (List Item))}
    (h : Forall2 (FileHintsOf hash) files hints) :
    ∀ i, (tc < i → openLog tc ts i files hints = logFrom i files) ∧
      (i ≤ tc → ∃ m, tc ≤ m ∧ m ≤ tc + 1 ∧ openLog tc ts i files hints = logFrom m (files.drop (m - i))) := by
  induction h with
  | nil => intro i; exact ⟨fun _ => rfl, fun _ => ⟨tc, Nat.le_refl _, by omega, by simp [openLog, logFrom]⟩⟩
  | @cons recs splits fs hs hfh _ ih =>
    intro i
    obtain ⟨ih1, ih2⟩ := ih (i + 1)
    -- a chunk with a record has a split file
    have hempty : (0 : Int) ≥ (splits.length : Int) → fileLog i recs = [] := by
      intro h0
      obtain ⟨segs, hfl, hfa⟩ := hfh
      cases splits with
      | nil => cases hfa; rw [← hfl]; rfl
      | cons _ _ => simp only [List.length_cons] at h0; omega
    refine ⟨fun hi => ?_, fun hi => ?_⟩
    · have h1 : ¬ i < tc := by omega
      have h2 : ¬ i = tc := by omega
      simp only [openLog, logFrom, h1, h2, if_false, ih1 (by omega)]
      congr 1
      split
      · next h0 => exact (hempty h0).symm
      · rfl
    · by_cases h1 : i < tc
      · obtain ⟨m, hm1, hm2, e⟩ := ih2 (by omega)
        refine ⟨m, hm1, hm2, ?_⟩
        simp only [openLog, h1, if_true, List.nil_append, e]
        rw [show m - i = (m - (i + 1)) + 1 by omega, List.drop_succ_cons]
      · obtain rfl : i = tc := by omega
        simp only [openLog, Nat.lt_irrefl, if_false, if_true, ih1 (by omega)]
        split
        · exact ⟨i + 1, by omega, by omega, by simp⟩
        · exact ⟨i, Nat.le_refl _, by omega, by simp [logFrom]⟩

/-- `n` leading data files are the ones the dump knows (`tc` among them) -/
theorem openLog_last (tc : Nat) (ts : Int) (files : List FileRecs) (hints : List (List (List Item)))
    (h : Forall2 (FileHintsOf hash) files hints) (n : Nat) (hn : tc < n) (k : Key) :
    (match lastOf k (openLog tc ts 0 files hints) with
     | some x => lastOf k (logOf files) = some x
     | none => lastOf k (logOf files) = lastOf k (logOf (files.take n))) := by
  obtain ⟨m, _, hm, e⟩ := (openLog_eq hash tc ts h 0).2 (Nat.zero_le _)
  -- the log is X ++ Y ++ Z: files below `m`, files from `m` below `n`, files from `n` on; applied: Y ++ Z, known: X ++ Y
  have h1 : logOf files = logFrom 0 (files.take m) ++ logFrom m (files.drop m) := by
    simpa [logOf] using logFrom_take_drop files 0 m
  have h2 : logOf (files.take n) = logFrom 0 (files.take m) ++ logFrom m ((files.drop m).take (n - m)) := by
    simpa [logOf, List.take_take, Nat.min_eq_left (show m ≤ n by omega), List.drop_take] using
      logFrom_take_drop (files.take n) 0 m
  rw [e, Nat.sub_zero, h1, h2, logFrom_take_drop (files.drop m) m (n - m)]
  simp only [lastOf_append]
  cases lastOf k (logFrom (m + (n - m)) (List.drop (n - m) (List.drop m files))) <;>
    cases lastOf k (logFrom m (List.take (n - m) (List.drop m files))) <;> simp

/-- `t0`: the tree dump `(tc, ts)` as loaded, ANY tree; a key without a record applied on top of it keeps the dump's
    entry, a tombstone entry included -/
theorem openTree_get (hInj : InjOn hash K) (tc : Nat) (ts : Int) (files : List FileRecs)
    (hK : ∀ f ∈ files, ∀ p ∈ f, K p.2.key) (hints : List (List (List Item)))
    (h : Forall2 (FileHintsOf hash) files hints) (t0 : Tree) (k : Key) (hk : K k) :
    AMap.get (openTree tc ts t0 hints) (hash k) =
      (match lastOf k (openLog tc ts 0 files hints) with
       | some x => itemOfLast (some x)
       | none => AMap.get t0 (hash k)) := by
  unfold openTree
  rw [openGo_agree hash K hInj tc ts files hints h hK 0 t0 t0 (fun _ _ => rfl) k hk]
  obtain ⟨m, _, _, e⟩ := (openLog_eq hash tc ts h 0).2 (Nat.zero_le _)
  exact replay_from hash K hInj _
    (fun x hx => logFrom_keys K _ (fun f hf => hK f (List.mem_of_mem_drop hf)) m x (e ▸ hx)) k hk t0

/-- the live part of a tree entry: a memory tombstone entry (`Ver < 0`) reads as a miss, like no entry -/
def _root_.CrashHintLemmas.live (o : Option TItem) : Option TItem := o.bind (fun it => if it.ver > 0 then some it else none)
open CrashHintLemmas (live)

theorem live_itemOfLast (x : Option (Pos × Rec)) : live (itemOfLast x) = itemOfLast x := by
  cases x with
  | none => rfl
  | some y =>
    obtain ⟨p, r⟩ := y
    by_cases h : r.ver > 0 <;> simp [itemOfLast, live, h]

/-- `Inv.tree` and the last clause of `DumpOK` in Lemmas/CrashHintInv.lean are this, written out -/
def TreeOf (t : Tree) (log : List (Pos × Rec)) : Prop :=
  ∀ k, K k → live (AMap.get t (hash k)) = itemOfLast (lastOf k log)

theorem openTree_treeOf (hInj : InjOn hash K) (tc : Nat) (ts : Int) (files : List FileRecs)
    (hK : ∀ f ∈ files, ∀ p ∈ f, K p.2.key) (hints : List (List (List Item))) (h : Forall2 (FileHintsOf hash) files hints)
    (t0 : Tree) (n : Nat) (hn : tc < n) (ht0 : TreeOf hash K t0 (logOf (files.take n))) :
    TreeOf hash K (openTree tc ts t0 hints) (logOf files) := by
  intro k hk
  rw [openTree_get hash K hInj tc ts files hK hints h t0 k hk]
  have hl := openLog_last hash tc ts files hints h n hn k
  cases hx : lastOf k (openLog tc ts 0 files hints) <;> rw [hx] at hl <;> rw [hl]
  · exact ht0 k hk
  · exact live_itemOfLast _

/-- without a dump (`TreeID = (0, -1)`, empty tree) the loop is `hintReplay` -/
theorem openGo_nodump (hints : List (List (List Item))) :
    ∀ (i : Nat) (t : Tree), openGo 0 (-1) i t hints = hintReplayFrom i t hints := by
  induction hints with
  | nil => intro i t; rfl
  | cons f fs ih =>
    intro i t
    simp only [openGo, hintReplayFrom]
    rw [ih]
    congr 1
    have h1 : ¬ i < 0 := by omega
    simp only [h1, if_false]
    cases f with
    | nil => simp [applySplits]
    | cons s ss =>
      have : ¬ ((if i = 0 then (-1 : Int) + 1 else 0) ≥ ((s :: ss).length : Int)) := by
        simp only [List.length_cons]
        split <;> omega
      rw [if_neg this]

theorem openTree_nodump (hints : List (List (List Item))) : openTree 0 (-1) [] hints = hintReplay hints :=
  openGo_nodump hints 0 []

end Top

theorem mem_chunkRecs {b : Bucket} {f : FileRecs} :
    f ∈ b.chunkList.map (·.recs) ↔ ∃ i, i ≤ b.head ∧ f = (b.chunks i).recs := by
  simp only [Bucket.chunkList, List.map_map, List.mem_map, List.mem_range, Function.comp, Nat.lt_succ_iff]
  exact ⟨fun ⟨i, hi, e⟩ => ⟨i, hi, e.symm⟩, fun ⟨i, hi, e⟩ => ⟨i, hi, e.symm⟩⟩

theorem logOf_bucket (b : Bucket) : logOf (b.chunkList.map (·.recs)) = b.log := by
  unfold logOf Bucket.chunkList Bucket.log
  rw [List.map_map, List.range_eq_range']
  exact logFrom_range' (fun i => (b.chunks i).recs) (b.head + 1) 0

theorem reopen_tree_is_hintReplay (hash : Key → Nat) (K : Key → Prop) (hInj : InjOn hash K) (cfg : Store.Cfg)
    (b : Bucket) (hK : ∀ x ∈ b.log, K x.2.key) (hints : List (List (List Item)))
    (h : Forall2 (FileHintsOf hash) (b.chunkList.map (·.recs)) hints) (k : Key) (hk : K k) :
    AMap.get (Store.step hash cfg b (.reopen false)).1.tree (hash k) = AMap.get (hintReplay hints) (hash k) := by
  have ht : (Store.step hash cfg b (.reopen false)).1.tree = replayTree hash b.log := rfl
  rw [ht, ← logOf_bucket b]
  symm
  apply hintReplay_eq_replay hash K hInj _ _ hints h k hk
  intro f hf p hp
  obtain ⟨j, hj⟩ := List.getElem?_of_mem hf
  exact hK (⟨j, p.1⟩, p.2) (logOf_bucket b ▸ mem_logFrom.mpr ⟨j, f, hj, (Nat.zero_add j).symm, hp⟩)

/-! The hypothesis `Contig` of the code-path theorems is a part of the layout `Lay` that every history keeps
    (Lemmas/Layout.lean). -/

theorem okFrom_contig : ∀ {lo : Nat} {l : FileRecs} {sz : Nat}, okFrom lo l sz → Contig l
  | _, [], _, _ => ⟨List.Pairwise.nil, fun _ h => by cases h⟩
  | _, _ :: _, _, h =>
    ⟨List.pairwise_cons.2 ⟨fun q hq => (okFrom_mem h.2.2 q hq).1, (okFrom_contig h.2.2).1⟩,
     fun q hq => (List.mem_cons.1 hq).elim (fun e => e ▸ h.2.1) ((okFrom_contig h.2.2).2 q)⟩

theorem run_contig (hash : Key → Nat) (K : Key → Prop) (cfg : Store.Cfg) (R : Nat) (ops : List Op)
    (hops : ∀ op ∈ ops, OpOK2 K R op) : ∀ f ∈ (Store.run hash cfg {} ops).1.chunkList.map (·.recs), Contig f := by
  intro f hf
  obtain ⟨i, _, rfl⟩ := mem_chunkRecs.mp hf
  exact okFrom_contig ((run_lay_init hash K cfg R ops hops).1.ok i)

def exK : Key → Prop := fun k => k = [97] ∨ k = [98] ∨ k = [99]
def exHash : Key → Nat := fun k => k.length * 1000 + (k.headD 0).toNat
def exRec (k : Nat) (ver : Int) (body : Bytes) (size : Nat := 256) : Rec :=
  { key := [k.toUInt8], ver := ver, flag := 0, ts := some 1, body := body, size := size }
/-- a: set, overwritten, deleted in the next file; b: set, deleted, set again in the next file; c: set three times -/
def exFile0 : FileRecs :=
  [(0, exRec 97 1 [1]), (256, exRec 98 1 [2, 2] 512), (768, exRec 97 2 [3]), (1024, exRec 98 (-2) []), (1280, exRec 99 1 [9])]
def exFile1 : FileRecs :=
  [(0, exRec 98 3 [4]), (256, exRec 99 2 [5]), (512, exRec 97 (-3) []), (768, exRec 99 3 [6])]
def exFiles : List FileRecs := [exFile0, exFile1]
def exLook (t : Tree) : List (Option TItem) := [[97], [98], [99], [100]].map (fun k => AMap.get t (exHash k))

theorem exInj : InjOn exHash exK := by
  intro a b ha hb _
  rcases ha with rfl | rfl | rfl <;> rcases hb with rfl | rfl | rfl <;> simp_all [exHash]

theorem exKeys : ∀ f ∈ exFiles, ∀ p ∈ f, exK p.2.key := by
  intro f hf p hp
  simp [exFiles] at hf
  rcases hf with rfl | rfl
  · simp [exFile0] at hp
    rcases hp with rfl | rfl | rfl | rfl | rfl <;> simp [exK, exRec]
  · simp [exFile1] at hp
    rcases hp with rfl | rfl | rfl | rfl <;> simp [exK, exRec]

theorem exContig : ∀ f ∈ exFiles, Contig f := by
  intro f hf
  simp [exFiles] at hf
  rcases hf with rfl | rfl <;> (unfold Contig; decide)

/-- the hypotheses of the main theorems hold on a concrete log with overwrites, tombstones and two files -/
example (cuts : List (List Nat)) (gone : List Bool) (k : Key) (hk : exK k) :
    AMap.get (hintReplay (chooseHints exHash exFiles cuts gone)) (exHash k) =
      AMap.get (replayTree exHash (logOf exFiles)) (exHash k) :=
  hintReplay_eq_replay exHash exK exInj exFiles exKeys _ (chooseHints_of exHash exFiles cuts gone) k hk

/-- … and the two sides evaluate: a deleted, b and c at their last records in file 1 -/
example : exLook (replayTree exHash (logOf exFiles)) =
    [none, some { pos := ⟨1, 0⟩, ver := 3, vhash := vhashOf [4] }, some { pos := ⟨1, 768⟩, ver := 3, vhash := vhashOf [6] }, none] := by
  decide +kernel
example : exLook (hintReplay (chooseHints exHash exFiles [[2, 1], [1]] [false, false])) =
    exLook (replayTree exHash (logOf exFiles)) := by decide +kernel
example : exLook (hintReplay (chooseHints exHash exFiles [[1, 1, 1, 1], []] [true, false])) =
    exLook (replayTree exHash (logOf exFiles)) := by decide +kernel
example : exLook (hintReplay (chooseHints exHash exFiles [] [true, true])) =
    exLook (replayTree exHash (logOf exFiles)) := by decide +kernel

/-- the split files of file 0 cut after 2 and 1 more records: sorted by key hash, one item per key and split -/
example : (hintsOfFile exHash [2, 1] exFile0).map (fun s => s.map (fun it => (it.khash, it.off, it.ver))) =
    [[(1097, 0, 1), (1098, 256, 1)], [(1097, 768, 2)], [(1098, 1024, -2), (1099, 1280, 1)]] := by decide +kernel
/-- a data scan computes the value hash of the tombstone's empty body (the write path stores 0) -/
example : ((rebuiltHints exHash exFile0).map (fun s => s.map (fun it => (it.khash, it.off, it.ver, it.vhash == 0)))) =
    [[(1097, 768, 2, false), (1098, 1024, -2, false), (1099, 1280, 1, false)]] := by decide +kernel

/-! the buffer code: capacity 2, so file 0's hint chunk closes a split whenever a third key arrives -/
def exDisk0 : List (Option SplitFile) := (HChunk.run 2 (writeEvents exHash exFile0)).disk
example : (exDisk0.filterMap id).map (fun f => (f.items.map (fun it => (it.khash, it.off, it.ver)), f.datasize)) =
    [([(1097, 768, 2), (1098, 1024, -2)], 1280), ([(1099, 1280, 1)], 1536)] := by decide +kernel

/-- first split file removed: nothing is kept (the numbering must start at 0), the whole file is rescanned -/
example : (checkHintWithData exHash 2 exFile0 (dataSizeOf exFile0) [none, exDisk0.getD 1 none]).map
      (fun f => (f.items.map (fun it => (it.khash, it.off, it.ver)), f.datasize)) =
    [([(1097, 768, 2), (1098, 1024, -2)], 1280), ([(1099, 1280, 1)], 1536)] := by decide +kernel
/-- second split file removed: the first is kept, the scan starts at its `datasize` 1280 -/
example : scanFrom 1280 exFile0 = [(1280, exRec 99 1 [9])] := by decide +kernel
example : exLook (restartTree exHash 2 exFiles [[exDisk0.getD 0 none, none], []]) =
    exLook (replayTree exHash (logOf exFiles)) := by decide +kernel

/-- the code-path theorem applies to that instance: the masked directory is `DiskOK` -/
example (k : Key) (hk : exK k) :
    AMap.get (restartTree exHash 2 exFiles [[exDisk0.getD 0 none, none], []]) (exHash k) =
      AMap.get (replayTree exHash (logOf exFiles)) (exHash k) := by
  have h0 : DiskOK exHash exFile0 [exDisk0.getD 0 none, none] := by
    have := written_diskOK exHash 2 (by omega) (exFile0.map some) (by rw [filterMap_map_some]; exact exContig _ (by simp [exFiles]))
      [exDisk0.getD 0 none, none] (by
        rw [← writeEvents_eq]
        show Masked exDisk0 _
        have : exDisk0 = [exDisk0.getD 0 none, exDisk0.getD 1 none] := by decide +kernel
        rw [this]
        exact Masked.keep (Masked.drop Masked.nil))
    rwa [filterMap_map_some] at this
  have h1 : DiskOK exHash exFile1 [] := ⟨[exFile1], 1, by simp, by simp [DiskInv]⟩
  exact restart_eq_replay exHash exK exInj 2 (by omega) exFiles exKeys exContig _
    (Forall2.cons h0 (Forall2.cons h1 Forall2.nil)) k hk

/-! `HintBuffer.Set` with two keys on one key hash (the `collisions` map), capacity 3 -/
def exIt (kh k off : Nat) (ver : Int := 1) : Item := { khash := kh, chunk := 0, off := off, ver := ver, vhash := 7, key := [k.toUInt8] }
def exEvs : List Ev := [.set (exIt 5 1 0) 256, .set (exIt 5 2 256) 256, .set (exIt 6 3 512) 256, .set (exIt 5 1 768) 256,
  .set (exIt 5 2 1024 (-2)) 256, .rotate, .set (exIt 9 9 1280) 512, .set (exIt 5 4 1792) 256, .set (exIt 5 7 2048) 256,
  .set (exIt 5 8 2304) 256]
example : ((HChunk.run 3 exEvs).disk.filterMap id).map (fun f => (f.items.map (fun it => (it.khash, (it.key.headD 0).toNat, it.off, it.ver)), f.datasize)) =
    [([(5, 1, 768, 1), (5, 2, 1024, -2), (6, 3, 512, 1)], 1280),
     ([(5, 4, 1792, 1), (5, 7, 2048, 1), (9, 9, 1280, 1)], 2304),     -- closed because full: datasize = START of the refused record
     ([(5, 8, 2304, 1)], 2560)] := by decide +kernel
example : (HChunk.run 3 exEvs).closed.map
      (fun b => (b.index, b.collisions.map (fun p => (p.1, p.2.map (fun q => ((q.1.headD 0).toNat, q.2)))))) =
    [([(5, 1), (6, 2)], [(5, [(2, 1), (1, 0)])]), ([(5, 2), (9, 0)], [(5, [(7, 2), (4, 1)])])] := by decide +kernel
/-- with `SplitCap = 0` every item is refused twice and lost: the hypothesis `1 ≤ cap` is needed -/
example : (HChunk.run 0 [.set (exIt 5 1 0) 256]).disk = [none, none] := by decide +kernel

/-- two keys with one key hash in one split: the split file is sorted by (keyhash, key), so after a rebuild the slot
    belongs to the greater KEY, whereas the replay of the data gives it to the later RECORD — the hypothesis `InjOn` is
    needed (colliding keys: C13, collision table) -/
def exColl : FileRecs := [(0, exRec 98 1 [1]), (256, exRec 97 1 [2])]
example : AMap.get (hintReplay [hintsOfFile (fun _ => 5) [] exColl]) 5 ≠ AMap.get (replayTree (fun _ => 5) (logOf [exColl])) 5 := by
  decide +kernel

/-- start with a tree dump `(0, 0)` that knows a and an unrelated key at hash 77 (a tombstone entry): chunk 0 (one split
    file ≤ ts + 1) is skipped, chunk 1 is applied; a's entry is removed by the tombstone item of chunk 1, the other survives -/
example :
    let t0 : Tree := [(1097, { pos := ⟨0, 768⟩, ver := 2, vhash := 1 }), (77, { pos := ⟨0, 5⟩, ver := -1, vhash := 0 })]
    let t := openTree 0 0 t0 (chooseHints exHash exFiles [] [false, false])
    (AMap.get t 1097, AMap.get t 1098, AMap.get t 77) =
      (none, some { pos := ⟨1, 0⟩, ver := 3, vhash := vhashOf [4] }, some { pos := ⟨0, 5⟩, ver := -1, vhash := 0 }) := by
  decide +kernel
example : openLog 0 0 0 exFiles (chooseHints exHash exFiles [] [false, false]) = fileLog 1 exFile1 := by decide +kernel

end HintIndexLemmas
