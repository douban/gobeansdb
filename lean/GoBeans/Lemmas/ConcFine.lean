/-
  The invariant `Inv` of the fine-grained interleaving model of one bucket (Model/ConcFine.lean) holds after EVERY
  schedule (`inv_reachable`: any number of threads and operations; the step is `cinv_micro` / `cinv_invoke` of
  Lemmas/ConcFineInv.lean for no chunks owned by anybody else, plus the readers' positions).  Props/C04.lean draws the
  history checks, the unreachable errors and the absence of deadlock from it, and lists what the model assumes and leaves
  out.
-/
import GoBeans.Lemmas.ConcFineInv

namespace ConcFine
open Conc (AOp Out Ev Reg regStep)

structure Inv (s : State) : Prop where
  lock : LockInv s
  layout : ChunkInv s
  data : DataInv s
  hist : HistInv s
  alive : s.fatal = false
  noerr : s.readErr = false

theorem inv_init : Inv init :=
  ⟨⟨fun _ => ⟨nofun, nofun⟩, fun _ => ⟨nofun, nofun⟩, fun _ => ⟨nofun, nofun⟩⟩,
   ⟨fun _ => chunkOK_empty, fun _ _ => rfl, fun _ => trivial, fun _ => trivial⟩,
   ⟨fun _ _ h => h.elim nofun nofun, fun _ _ => nofun, fun _ => trivial, fun _ => trivial⟩,
   ⟨fun _ => rfl, fun _ => rfl, .nil, nofun, nofun, fun _ h => absurd rfl h⟩, rfl, rfl⟩

theorem Inv.cinv {s : State} (hi : Inv s) : CInv (fun _ => False) (fun _ => False) s :=
  ⟨hi.lock, hotlay_of_chunkInv hi.layout _, nofun, nofun, nofun, nofun, hi.data.recs, hi.data.tree, hi.data.wr,
    histInv_iff.1 hi.hist, hi.alive, hi.noerr⟩

theorem CInv.inv {s : State} (hi : CInv (fun _ => False) (fun _ => False) s) (hrd : ∀ u, ReaderOK s.chunks (s.thr u).pc) :
    Inv s :=
  ⟨hi.lock, ConcGC.chunkInv_of_hotlay hi.lay, ⟨hi.recs, hi.tree, hi.wr, hrd⟩, histInv_iff.2 hi.hist, hi.alive, hi.noerr⟩

theorem Inv.grows {cfg : Cfg} {s s' : State} {t : Nat} (hi : Inv s) (h : micro cfg s t = some s') : Grows s.chunks s'.chunks :=
  micro_grows hi.lock hi.cinv.lay (fun _ _ _ _ => id) h

theorem inv_step (cfg : Cfg) (s s' : State) (t : Nat) (a : Act) (hi : Inv s) (h : step cfg s t a = some s') : Inv s' := by
  obtain ⟨_, s1, rfl, h1 | ⟨op, h1⟩⟩ := step_cases h
  · exact (cinv_micro hi.cinv h1 (readOK_of hi.layout hi.data t) (fun _ _ => id)).inv <|
      thr_cases (micro_thr_others h1) (micro_self_rd h1 hi.layout hi.data :) fun u _ => readerOK_grows (hi.grows h1) (hi.data.rd u)
  · refine (cinv_invoke hi.cinv h1).inv ?_
    obtain ⟨_, pc', rfl, hs⟩ := invoke_elim h1
    exact thr_cases (fun u hu => if_neg hu) (by rw [if_pos rfl]; exact hs.neutral.2.1 _) fun u _ => hi.data.rd u

theorem inv_exec (cfg : Cfg) (sched : List (Nat × Act)) : ∀ s, Inv s → Inv (exec cfg s sched) := by
  induction sched with
  | nil => intro s hs; exact hs
  | cons d rest ih =>
    intro s hs
    obtain ⟨t, a⟩ := d
    simp only [exec]
    cases hst : step cfg s t a with
    | none => exact ih s hs
    | some s' => exact ih s' (inv_step cfg s s' t a hs hst)

theorem inv_reachable (cfg : Cfg) (sched : List (Nat × Act)) : Inv (exec cfg init sched) :=
  inv_exec cfg sched init inv_init

/-- the tree item of a key points at a record that `GetRecordByOffset` reads now (from the write buffer or from the file) -/
theorem tree_item_readable {s : State} (hi : Inv s) {k : Nat} {it : Item} (hit : s.tree k = some it) :
    ∃ r, lookup (s.chunks it.pos.chunk) it.pos.off = some r ∧ r.key = k ∧ r.ver = it.ver ∧ r.ver ≠ 0 ∧
      (0 < r.ver ↔ r.val ≠ 0) :=
  let ⟨r, _, h⟩ := hi.cinv.treeOK.readable hi.cinv.readable hit; ⟨r, h⟩

theorem tree_value_is_last_write {s : State} (hi : Inv s) (k : Nat) :
    absReg s k = regFold {} (opsOf (keyHist s k)) := (hi.hist.reg k).symm

/-- a position a reader took from the tree is still readable when the reader gets to read it: in the buffer, or, once
    the buffer test said "not buffered", in the FILE -/
theorem reader_position_readable {s : State} (hi : Inv s) (t k : Nat) (it : Item) :
    ((s.thr t).pc = .rBuf k it → ∃ r, lookup (s.chunks it.pos.chunk) it.pos.off = some r ∧ r.key = k) ∧
    ((s.thr t).pc = .rFile k it → ∃ r, fileLookup (s.chunks it.pos.chunk) it.pos.off = some r ∧ r.key = k) := by
  refine ⟨fun hpc => ?_, (readOK_of hi.layout hi.data t).2 k it⟩
  have hr := hi.data.rd t
  rw [hpc] at hr
  obtain ⟨r, h1, h2⟩ := hr
  exact ⟨r, h1.2 ▸ (hi.layout.ok _).lookup r h1.1, h2⟩

/-- no scheduler decision (append, rotation, file write, buffer detach by whatever thread) changes what is read at the
    position of a stored record -/
theorem read_stable (cfg : Cfg) {s s' : State} (hi : Inv s) {t : Nat} {a : Act} (h : step cfg s t a = some s')
    (c : Nat) (r : Rec) (hr : Stored (s.chunks c) r) :
    lookup (s.chunks c) r.off = some r ∧ lookup (s'.chunks c) r.off = some r := by
  have hi' := inv_step cfg s s' t a hi h
  refine ⟨(hi.layout.ok c).lookup r hr, ?_⟩
  obtain ⟨_, s1, rfl, h1 | ⟨op, h1⟩⟩ := step_cases h
  · exact (hi'.layout.ok c).lookup r ((hi.grows h1 c r).2 hr)
  · obtain ⟨_, pc', rfl, _⟩ := invoke_elim h1
    exact (hi'.layout.ok c).lookup r hr

theorem pending_outcome_fixed {s : State} (hi : Inv s) (e : HEv) (he : e ∈ s.hist) (hd : e.done = false) :
    PendPC s.chunks (s.thr e.tid).pc e.ev.out := hi.hist.pend e he hd

end ConcFine
