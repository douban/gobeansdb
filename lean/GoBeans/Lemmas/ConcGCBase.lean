/-
  GC beside clients (Model/ConcGC.lean): the GC micro-step taken apart, the invariants of the pass, its control part.

  In every lemma about a step the monitors are a hypothesis on the state AFTER it (`hz : noHaz s'`): a monitor fires in
  the very step that starts the hazard (`beginW` on a destination that is the source, or that the pass has emptied), not
  in a later one.

  The invariants are those of the regime in which no monitor has fired: the destination lies below the range and is only
  appended to.  About rewriting in place (`rewr`, `gTail`, `truncateTo`, a `writeAt` that overlaps) there are the
  counterexamples of Lemmas/ConcGC.lean and no lemma.  All are relative to `X s`, the chunks the pass owns: EVERY chunk up
  to gc.End once the pass has started, the destination below the range included:
    GCtl   the control-flow graph of the pass as an assertion on (pc, src, dst), the range and the head
    GChk   layout of the chunks in `X`; the gc writer; what is left of the source file
    GTree  the tree against the source file
    DInv   `ConcFine.DataInv` without the readers' positions (a reader's position MAY die under GC: Lemmas/ConcGCHist.lean)
-/
import GoBeans.Lemmas.ConcFineInv

namespace ConcGC
open ConcFine

theorem pickDstAux_le (cfg : GCfg) (ch : Nat → Chunk) (start : Nat) : ∀ i, i ≤ start → pickDstAux cfg ch start i ≤ start := by
  intro i
  induction i with
  | zero => intro _; simp [pickDstAux]
  | succ i ih =>
    intro h
    simp only [pickDstAux]
    split
    · split
      · omega
      · split <;> omega
    · exact ih (by omega)

theorem pickDst_le (cfg : GCfg) (ch : Nat → Chunk) (start : Nat) : pickDst cfg ch start ≤ start :=
  pickDstAux_le cfg ch start start (Nat.le_refl _)

theorem writeAt_end (ch : Chunk) (r : Rec) (h : Contig 0 ch.file ch.fsize) :
    writeAt ch ch.fsize r = { ch with file := ch.file ++ [{ r with off := ch.fsize }], fsize := ch.fsize + r.size } := by
  -- a record of the file ends at or before `fsize`: the write overlaps none
  have keep : ch.file.filter (fun x => !overlaps x ch.fsize r.size) = ch.file := by
    rw [List.filter_eq_self]
    intro x hx
    have := contig_mem _ _ _ h x hx
    simp only [overlaps, Bool.not_eq_eq_eq_not, Bool.not_true, decide_eq_false_iff_not]
    omega
  unfold writeAt
  rw [keep]
  congr 1
  omega

/-- a chunk GC owns (writing head and size are GC's business) -/
structure ColdOK (ch : Chunk) : Prop where
  nobuf : ch.wbuf = []
  cfile : Contig 0 ch.file ch.fsize

theorem ColdOK.stored_file {ch : Chunk} (h : ColdOK ch) {r : Rec} (hr : Stored ch r) : r ∈ ch.file := by
  rcases hr with hr | hr
  · exact hr
  · rw [h.nobuf] at hr; simp at hr

theorem readable_of_cold {ch : Chunk} (h : ColdOK ch) : Readable ch :=
  fun r hr => .inr ⟨bufLookup_nobuf ch _ h.nobuf, h.stored_file hr, contig_find _ _ _ h.cfile r (h.stored_file hr)⟩

theorem cold_of_ok {ch : Chunk} (h : ChunkOK ch 0) (hb : ch.wbuf = []) :
    ColdOK ch ∧ ch.size = ch.writingHead ∧ ch.writingHead = ch.fsize := by
  have := h.cbuf
  rw [hb] at this
  simp only [List.drop_nil, Contig] at this
  exact ⟨⟨hb, h.cfile⟩, h.size, this.symm⟩

-- one goal per enabled branch of `gmicro`, with `s'` replaced by what the branch yields
macro "gmicro_split" h:ident : tactic => `(tactic| (
  unfold gmicro at $h:ident
  dsimp only at $h:ident
  split at $h:ident
  all_goals (repeat' (split at $h:ident))
  all_goals (try contradiction)
  all_goals (have $h:ident := Option.some.inj $h; subst $h)))

/-- the branches of `gmicro` as rules, over what opening the gc writer (`bw c pc`, for `beginW s c pc`) and closing it
    (`ew`, for `endW s`) yield, so that the same rules serve with the two functions as they are (`GStep`) and with their
    normal forms (`gmicro_elim_nohaz`).  Only `gmicro → GStep` is proved, and of a guard a rule keeps what the invariants
    use (`check` forgets the room test, `tailKeep` / `tailCut` their condition, `fileOpen` that the size is not 0): the
    rules say what a step may do, not which one is taken -/
inductive GStepOn (cfg : GCfg) (s : State) (bw : Nat → GPC → State) (ew : State) : GPC → State → Prop
  | begin : GStepOn cfg s bw ew .gBegin (bw s.gc.gbegin .gFile)
  | fileCancel : s.gc.cancel = true → GStepOn cfg s bw ew .gFile (s.gcGoto .gFinal)
  | fileEnd : s.gc.src > s.gc.gend → GStepOn cfg s bw ew .gFile (s.gcGoto .gFinal)
  | fileSkip : ¬ s.gc.src > s.gc.gend → (s.base.chunks s.gc.src).size = 0 →
      GStepOn cfg s bw ew .gFile { s with gc := { s.gc with pc := .gFile, src := s.gc.src + 1 } }
  | fileOpen : ¬ s.gc.src > s.gc.gend → GStepOn cfg s bw ew .gFile (s.gcGoto .gOpen)
  | «open» :
      GStepOn cfg s bw ew .gOpen { s with gc := { s.gc with pc := .gNext, todo := (s.base.chunks s.gc.src).file } }
  | nextClear : s.gc.todo = [] → s.gc.src ≠ s.gc.dst → GStepOn cfg s bw ew .gNext (s.gcGoto .gClearMem)
  | nextTail : s.gc.todo = [] → s.gc.src = s.gc.dst → GStepOn cfg s bw ew .gNext (s.gcGoto .gTail)
  | nextRec (r rest) : s.gc.todo = r :: rest →
      GStepOn cfg s bw ew .gNext { s with gc := { s.gc with pc := .gCheck r, todo := rest } }
  | check (r f pc') : (f = false → s.base.tree r.key = none) →
      pc' = .gEndW r f ∨ pc' = .gHead r f → GStepOn cfg s bw ew (.gCheck r) (s.gcGoto pc')
  | checkSkip (r) : (∀ it, s.base.tree r.key = some it → it.pos ≠ ⟨s.gc.src, r.off⟩) →
      GStepOn cfg s bw ew (.gCheck r) (s.gcGoto .gNext)
  | close (r f) :
      GStepOn cfg s bw ew (.gEndW r f) { ew with gc := { ew.gc with pc := .gBeginW r f, dst := s.gc.dst + 1 } }
  | reopen (r f) : GStepOn cfg s bw ew (.gBeginW r f) (bw s.gc.src (.gHead r f))
  | head (r f) :
      GStepOn cfg s bw ew (.gHead r f) ((s.setChunk s.gc.dst { s.base.chunks s.gc.dst with
          writingHead := (s.base.chunks s.gc.dst).writingHead + r.size,
          size := if (s.base.chunks s.gc.dst).writingHead + r.size ≥ (s.base.chunks s.gc.dst).size
                  then (s.base.chunks s.gc.dst).writingHead + r.size else (s.base.chunks s.gc.dst).size }).gcGoto
        (.gBuf r f (s.base.chunks s.gc.dst).writingHead))
  | buf (r f off) :
      GStepOn cfg s bw ew (.gBuf r f off)
        { s with gc := { s.gc with pc := .gFlush r f off, gbuf := s.gc.gbuf ++ [{ r with off := off }] } }
  | flush (r f off) :
      GStepOn cfg s bw ew (.gFlush r f off) { (s.setChunk s.gc.dst (writeAt (s.base.chunks s.gc.dst) s.gc.wpos r)) with
        gc := { s.gc with pc := if f then .gMove r off else .gNext, gbuf := [], wpos := s.gc.wpos + r.size } }
  | move (r off it) : s.base.tree r.key = some it →
      cfg.blind = true ∨ it.pos = ⟨s.gc.src, r.off⟩ →
      GStepOn cfg s bw ew (.gMove r off) { s with
        base := { s.base with tree := fun k => if k = r.key then some ⟨it.ver, ⟨s.gc.dst, off⟩⟩ else s.base.tree k },
        gc := { s.gc with pc := .gNext, moved := s.gc.moved + 1 } }
  | moveSkip (r off) :
      (∀ it, s.base.tree r.key = some it → ¬ (cfg.blind = true ∨ it.pos = ⟨s.gc.src, r.off⟩)) →
      GStepOn cfg s bw ew (.gMove r off) (s.gcGoto .gNext)
  | clearMem :
      GStepOn cfg s bw ew .gClearMem
        ((s.setChunk s.gc.src { s.base.chunks s.gc.src with wbuf := [], size := 0, writingHead := 0 }).gcGoto .gRemove)
  | remove :
      GStepOn cfg s bw ew .gRemove
        ((s.setChunk s.gc.src { s.base.chunks s.gc.src with file := [], fsize := 0 }).gcGoto .gFileDone)
  | tailKeep : GStepOn cfg s bw ew .gTail (s.gcGoto .gFileDone)
  | tailCut :
      GStepOn cfg s bw ew .gTail
        ((s.setChunk s.gc.dst { truncateTo (s.base.chunks s.gc.dst) (s.base.chunks s.gc.dst).writingHead with
          size := (s.base.chunks s.gc.dst).writingHead }).gcGoto .gFileDone)
  | fileDone : GStepOn cfg s bw ew .gFileDone { s with gc := { s.gc with pc := .gFile, src := s.gc.src + 1 } }
  | final : GStepOn cfg s bw ew .gFinal (ew.gcGoto .done)

abbrev GStep (cfg : GCfg) (s : State) : GPC → State → Prop := GStepOn cfg s (beginW s) (endW s)

/-- `bw`, `ew`: any description of what `beginW` and `endW` yield IN THIS STEP (`hb` is asked for the post-state only) -/
theorem gmicro_elimOn {cfg : GCfg} {s s' : State} {bw : Nat → GPC → State} {ew : State} (h : gmicro cfg s = some s')
    (hb : ∀ c pc, s' = beginW s c pc → s' = bw c pc) (he : endW s = ew) : GStepOn cfg s bw ew s.gc.pc s' := by
  subst he
  cases hpc : s.gc.pc with
  | idle => simp [gmicro, hpc] at h
  | done => simp [gmicro, hpc] at h
  | gBegin => simp only [gmicro, hpc] at h; obtain rfl := Option.some.inj h; rw [hb _ _ rfl]; exact .begin
  | gFile =>
    simp only [gmicro, hpc] at h
    split at h
    · rename_i hc; obtain rfl := Option.some.inj h; exact .fileCancel hc
    · split at h
      · rename_i hgt; obtain rfl := Option.some.inj h; exact .fileEnd hgt
      · rename_i hle
        split at h
        · rename_i hsz; obtain rfl := Option.some.inj h; exact .fileSkip hle hsz
        · obtain rfl := Option.some.inj h; exact .fileOpen hle
  | gOpen => simp only [gmicro, hpc] at h; obtain rfl := Option.some.inj h; exact .open
  | gNext =>
    simp only [gmicro, hpc] at h
    split at h
    · rename_i htd
      split at h
      · rename_i hne; obtain rfl := Option.some.inj h; exact .nextClear htd hne
      · rename_i he; obtain rfl := Option.some.inj h; exact .nextTail htd (Decidable.not_not.mp he)
    · rename_i r rest htd; obtain rfl := Option.some.inj h; exact .nextRec r rest htd
  | gCheck r =>
    simp only [gmicro, hpc, afterCheck] at h
    split at h
    · rename_i it hit
      split at h
      · split at h <;> obtain rfl := Option.some.inj h
        · exact .check r true _ nofun (Or.inl rfl)
        · exact .check r true _ nofun (Or.inr rfl)
      · rename_i hne; obtain rfl := Option.some.inj h
        exact .checkSkip r (fun it' h' => by rw [hit] at h'; obtain rfl := Option.some.inj h'; exact hne)
    · rename_i hit
      split at h
      · split at h <;> obtain rfl := Option.some.inj h
        · exact .check r false _ (fun _ => hit) (Or.inl rfl)
        · exact .check r false _ (fun _ => hit) (Or.inr rfl)
      · obtain rfl := Option.some.inj h
        exact .checkSkip r (fun it' h' => by rw [hit] at h'; cases h')
  | gEndW r f => simp only [gmicro, hpc] at h; obtain rfl := Option.some.inj h; exact .close r f
  | gBeginW r f => simp only [gmicro, hpc] at h; obtain rfl := Option.some.inj h; rw [hb _ _ rfl]; exact .reopen r f
  | gHead r f => simp only [gmicro, hpc] at h; obtain rfl := Option.some.inj h; exact .head r f
  | gBuf r f off => simp only [gmicro, hpc] at h; obtain rfl := Option.some.inj h; exact .buf r f off
  | gFlush r f off => simp only [gmicro, hpc] at h; obtain rfl := Option.some.inj h; exact .flush r f off
  | gMove r off =>
    simp only [gmicro, hpc] at h
    split at h
    · rename_i it hit
      split at h
      · rename_i hc; obtain rfl := Option.some.inj h; exact .move r off it hit hc
      · rename_i hc; obtain rfl := Option.some.inj h
        exact .moveSkip r off (fun it' h' => by rw [hit] at h'; obtain rfl := Option.some.inj h'; exact hc)
    · rename_i hit; obtain rfl := Option.some.inj h
      exact .moveSkip r off (fun it' h' => by rw [hit] at h'; cases h')
  | gClearMem => simp only [gmicro, hpc] at h; obtain rfl := Option.some.inj h; exact .clearMem
  | gRemove => simp only [gmicro, hpc] at h; obtain rfl := Option.some.inj h; exact .remove
  | gTail =>
    simp only [gmicro, hpc] at h
    split at h <;> obtain rfl := Option.some.inj h
    · exact .tailKeep
    · exact .tailCut
  | gFileDone => simp only [gmicro, hpc] at h; obtain rfl := Option.some.inj h; exact .fileDone
  | gFinal => simp only [gmicro, hpc] at h; obtain rfl := Option.some.inj h; exact .final

theorem gmicro_elim {cfg : GCfg} {s s' : State} (h : gmicro cfg s = some s') : GStep cfg s s.gc.pc s' :=
  gmicro_elimOn h (fun _ _ e => e) rfl

theorem setChunk_same (s : State) (c : Nat) (ch : Chunk) : (s.setChunk c ch).base.chunks c = ch := if_pos rfl

theorem setChunk_ne (s : State) {c d : Nat} (ch : Chunk) (h : d ≠ c) : (s.setChunk c ch).base.chunks d = s.base.chunks d :=
  if_neg h

structure GFrame (s s' : State) : Prop where
  thr : s'.base.thr = s.base.thr
  newHead : s'.base.newHead = s.base.newHead
  hist : s'.base.hist = s.base.hist
  clock : s'.base.clock = s.base.clock
  flushLock : s'.base.flushLock = s.base.flushLock
  writeLock : s'.base.writeLock = s.base.writeLock
  dsLock : s'.base.dsLock = s.base.dsLock
  fatal : s'.base.fatal = s.base.fatal
  readErr : s'.base.readErr = s.base.readErr
  fails : s'.fails = s.fails
  hazCold : s'.hazCold = s.hazCold
  started : s'.gc.started = s.gc.started
  gend : s'.gc.gend = s.gc.gend
  gbegin : s'.gc.gbegin = s.gc.gbegin

/-- what opening (`beginW`) and closing (`endW`) the gc writer leave alone -/
structure WFrame (s s' : State) : Prop extends GFrame s s' where
  tree : s'.base.tree = s.base.tree
  chunks : ∀ c, c ≠ s.gc.dst → s'.base.chunks c = s.base.chunks c
  src : s'.gc.src = s.gc.src
  gbuf : s'.gc.gbuf = s.gc.gbuf
  hazInplace : s.hazInplace = true → s'.hazInplace = true
  hazReuse : s.hazReuse = true → s'.hazReuse = true

theorem beginW_frame (s : State) (c : Nat) (pc : GPC) : WFrame s (beginW s c pc) := by
  unfold beginW
  split
  · exact ⟨by constructor <;> rfl, rfl, fun _ h => setChunk_ne s _ h, rfl, rfl, fun _ => rfl, id⟩
  · exact ⟨by constructor <;> rfl, rfl, fun _ h => setChunk_ne s _ h, rfl, rfl, id, fun h => by simp [h]⟩

theorem beginW_pc (s : State) (c : Nat) (pc : GPC) : (beginW s c pc).gc.pc = pc := by
  unfold beginW; split <;> rfl

theorem endW_frame (s : State) : WFrame s (endW s) := by
  simp only [endW]
  split
  · exact ⟨by constructor <;> rfl, rfl, fun _ h => setChunk_ne s _ h, rfl, rfl, id, id⟩
  · exact ⟨by constructor <;> rfl, rfl, fun _ _ => rfl, rfl, rfl, id, id⟩

theorem GStep.frame {cfg : GCfg} {s s' : State} {pc : GPC} (h : GStep cfg s pc s') : GFrame s s' := by
  cases h with
  | begin | reopen => exact (beginW_frame ..).toGFrame
  | close | final => exact { (endW_frame s).toGFrame with }
  | _ => constructor <;> rfl

theorem gmicro_frame {cfg : GCfg} {s s' : State} (h : gmicro cfg s = some s') : GFrame s s' := (gmicro_elim h).frame

theorem gmicro_other_chunks {cfg : GCfg} {s s' : State} (h : gmicro cfg s = some s') {c : Nat} (hd : c ≠ s.gc.dst)
    (hs : s.gc.pc = .gClearMem ∨ s.gc.pc = .gRemove → c ≠ s.gc.src) : s'.base.chunks c = s.base.chunks c := by
  have hs := gmicro_elim h
  generalize hpc : s.gc.pc = pc at hs
  cases hs with
  | begin | reopen => exact (beginW_frame ..).chunks c hd
  | close | final => exact (endW_frame s).chunks c hd
  | head | flush | tailCut => exact setChunk_ne s _ hd
  | clearMem => exact setChunk_ne s _ (hs (.inl hpc))
  | remove => exact setChunk_ne s _ (hs (.inr hpc))
  | _ => rfl

theorem gmicro_tree {cfg : GCfg} {s s' : State} (h : gmicro cfg s = some s') :
    s'.base.tree = s.base.tree ∨
    ∃ r off it, s.gc.pc = .gMove r off ∧ s.base.tree r.key = some it ∧ (cfg.blind = true ∨ it.pos = ⟨s.gc.src, r.off⟩) ∧
      s'.base.tree = fun k => if k = r.key then some ⟨it.ver, ⟨s.gc.dst, off⟩⟩ else s.base.tree k := by
  have hs := gmicro_elim h
  generalize hpc : s.gc.pc = pc at hs
  cases hs with
  | move r off it hit hcnd => exact Or.inr ⟨r, off, it, rfl, hit, hcnd, rfl⟩
  | begin | reopen => exact Or.inl (beginW_frame ..).tree
  | close | final => exact Or.inl (endW_frame s).tree
  | _ => exact Or.inl rfl

/-- `beginGCWriting` when no monitor fires: the destination is an older file below the range, opened for append -/
def beginApp (s : State) (pc : GPC) : State :=
  { (s.setChunk s.gc.dst { s.base.chunks s.gc.dst with writingHead := (s.base.chunks s.gc.dst).size }) with
      gc := { s.gc with pc := pc, wopen := true, wpos := (s.base.chunks s.gc.dst).fsize } }

theorem beginW_nohaz {s : State} {c : Nat} {pc : GPC} (hr : s.gc.rewr = false) (hz : noHaz (beginW s c pc)) :
    s.gc.dst < s.gc.gbegin ∧ beginW s c pc = beginApp s pc := by
  obtain ⟨_, h1, h2⟩ := hz
  unfold beginW at h1 h2 ⊢
  by_cases hd : s.gc.dst = c
  · simp [hd] at h1
  · simp only [hd, if_false] at h1 h2 ⊢
    simp only [Bool.or_eq_false_iff, decide_eq_false_iff_not] at h2
    refine ⟨by omega, ?_⟩
    simp only [beginApp, hr, Bool.false_eq_true, if_false]
    have h3 : (s.hazReuse || decide (s.gc.gbegin ≤ s.gc.dst)) = s.hazReuse := by simp [h2.1, h2.2]
    rw [h3]
    rfl

theorem endW_norew {s : State} (h : s.gc.rewr = false) :
    endW s = { s with gc := { s.gc with wopen := false, rewr := false } } := by
  unfold endW
  simp [h]

def X (s : State) : Nat → Prop := fun c => cold s c = true

theorem X_iff (s : State) (c : Nat) : X s c ↔ s.gc.started = true ∧ c ≤ s.gc.gend := by
  simp [X, cold]

theorem X_congr {s s' : State} (h1 : s'.gc.started = s.gc.started) (h2 : s'.gc.gend = s.gc.gend) (c : Nat) :
    X s' c ↔ X s c := by
  rw [X_iff, X_iff, h1, h2]

/-- the record GC holds in its hands and what the stream reader has not yielded yet -/
def rem (g : GC) : List Rec :=
  match g.pc with
  | .gNext => g.todo
  | .gCheck r | .gEndW r _ | .gBeginW r _ | .gHead r _ | .gBuf r _ _ | .gFlush r _ _ | .gMove r _ => r :: g.todo
  | _ => []

/-- GC is inside the per-record loop or the end-of-file actions of source file `src` -/
def procPC : GPC → Bool
  | .idle | .gBegin | .gFile | .gOpen | .gFinal | .done => false
  | _ => true

/-- the gc writer of the destination is open -/
def openPC : GPC → Bool
  | .idle | .gBegin | .gBeginW .. | .done => false
  | _ => true

/-- bytes accounted in writingHead (under the chunk lock) that have not reached the file yet -/
def pendC (g : GC) (c : Nat) : Nat :=
  match g.pc with
  | .gBuf r _ _ | .gFlush r _ _ => if c = g.dst then r.size else 0
  | _ => 0

/-- the record in GC's hands when NO tree item held its key at the newest-check: a delete marker, relocated all the same
    when the range does not start at file 0 (gc.go: `gc.Begin > 0 && rec.Payload.Ver < 0`); `GTree.nf` is about it -/
def curNotFound : GPC → Option Rec
  | .gEndW r f | .gBeginW r f | .gHead r f | .gBuf r f _ | .gFlush r f _ => if f then none else some r
  | _ => none

/-- the offset `AppendRecordGC` has handed out for the copy that is not in the file yet -/
def curOff : GPC → Option Nat
  | .gBuf _ _ off | .gFlush _ _ off => some off
  | _ => none

/-- chunk `c` has been emptied by the pass (cleared, or skipped because it was empty); the second disjunct: `Clear` has
    removed the source file and `gc.Src++` (`gFileDone`) has not run yet -/
def Dead (s : State) (c : Nat) : Prop :=
  s.gc.started = true ∧ s.gc.gbegin ≤ c ∧ (c < s.gc.src ∨ (c = s.gc.src ∧ s.gc.pc = .gFileDone))

structure GCtl (s : State) : Prop where
  idle : s.gc.started = false → s.gc.pc = .idle
  busy : s.gc.started = true → s.gc.pc ≠ .idle
  rng : s.gc.started = true → s.gc.gbegin ≤ s.gc.gend ∧ s.gc.gend < s.base.newHead
  norew : s.gc.rewr = false
  -- before `beginW` has looked at it the destination may be `gbegin` itself (`pickDst` returns it when the file before the
  -- range is full, `gc.Dst++` reaches it): `beginW` then fires a monitor
  dst : s.gc.started = true → s.gc.dst < s.gc.gbegin ∨ ((s.gc.pc = .gBegin ∨ ∃ r f, s.gc.pc = .gBeginW r f) ∧ s.gc.dst ≤ s.gc.gbegin)
  src : s.gc.started = true → s.gc.gbegin ≤ s.gc.src ∧ s.gc.src ≤ s.gc.gend + 1
  srcp : procPC s.gc.pc = true ∨ s.gc.pc = .gOpen → s.gc.src ≤ s.gc.gend
  -- `dropStaleTail` is for a destination that is the source
  notail : s.gc.pc ≠ .gTail

structure GChk (s : State) : Prop where
  cold : ∀ c, X s c → ColdOK (s.base.chunks c) ∧ (s.base.chunks c).size = (s.base.chunks c).writingHead
  -- the writing head is the file length plus what `AppendRecordGC` has accounted and not yet written; NOT for the source
  -- between `gClearMem` (writingHead := 0) and `gRemove` (the file goes): that moment is `clr`
  whf : ∀ c, X s c → ¬ (c = s.gc.src ∧ s.gc.pc = .gRemove) →
          (s.base.chunks c).writingHead = (s.base.chunks c).fsize + pendC s.gc c
  clr : s.gc.pc = .gRemove → (s.base.chunks s.gc.src).writingHead = 0
  dead : ∀ c, Dead s c → (s.base.chunks c).file = []
  wop : openPC s.gc.pc = true → s.gc.wopen = true ∧ s.gc.wpos = (s.base.chunks s.gc.dst).fsize
  -- the offset handed out is where the copy will land
  off : ∀ o, curOff s.gc.pc = some o → o + pendC s.gc s.gc.dst = (s.base.chunks s.gc.dst).writingHead
  remIn : ∀ r ∈ rem s.gc, r ∈ (s.base.chunks s.gc.src).file
  -- at the repoint the copy is in the destination FILE already, so the repointed item is readable (`gmicro_item`)
  mv : ∀ r o, s.gc.pc = .gMove r o → ({ r with off := o } : Rec) ∈ (s.base.chunks s.gc.dst).file

structure GTree (s : State) : Prop where
  -- what the pass has dealt with is repointed or was not current
  g2 : procPC s.gc.pc = true → ∀ k it, s.base.tree k = some it → it.pos.chunk = s.gc.src → ∃ r ∈ rem s.gc, r.off = it.pos.off
  -- the key of a record found in no tree may have got an item since (a client's set): it points outside `X`, not at the record
  nf : ∀ r, curNotFound s.gc.pc = some r → ∀ it, s.base.tree r.key = some it → ¬ X s it.pos.chunk

structure GInv (s : State) : Prop where
  ctl : GCtl s
  chk : GChk s
  tr : GTree s

/-- a writer past `wSlot` has its position in the head chunk, which lies above the range: `Clear` cannot take the record it
    has appended (`dinv_gmicro`), and the item it sets points outside `X` (`inv_cmicro`, for `gtree_client`) -/
def WPosOK (head : Nat) : PC → Prop
  | .wAppend _ _ pos | .wDsUnlock _ _ pos | .wTreeSet _ _ pos => pos.chunk = head
  | _ => True

structure DInv (s : State) : Prop where
  recs : ∀ c r, Stored (s.base.chunks c) r → RecOK r
  tree : ∀ k it, s.base.tree k = some it → ∃ r, StoredAt s.base.chunks it.pos r ∧ r.key = k ∧ r.ver = it.ver
  wr : ∀ u, WriterOK s.base (s.base.thr u).pc
  wpos : ∀ u, WPosOK s.base.newHead (s.base.thr u).pc
  fltg : ∀ u c, flushTarget (s.base.thr u).pc = some c → ¬ X s c

theorem GCtl.started_of {s : State} (hc : GCtl s) (h : s.gc.pc ≠ .idle) : s.gc.started = true := by
  cases hs : s.gc.started with
  | true => rfl
  | false => exact absurd (hc.idle hs) h

theorem gmicro_started {cfg : GCfg} {s s' : State} (hc : GCtl s) (h : gmicro cfg s = some s') : s.gc.started = true :=
  hc.started_of fun e => by have hs := gmicro_elim h; rw [e] at hs; cases hs

theorem GCtl.X_dst {s : State} (hc : GCtl s) (hst : s.gc.started = true) : X s s.gc.dst := by
  rw [X_iff]
  have := (hc.rng hst).1
  rcases hc.dst hst with h | ⟨_, h⟩ <;> exact ⟨hst, by omega⟩

theorem GCtl.X_src {s : State} (hc : GCtl s) (hp : procPC s.gc.pc = true ∨ s.gc.pc = .gOpen) : X s s.gc.src :=
  (X_iff s _).2 ⟨hc.started_of fun e => (by rw [e] at hp; rcases hp with h | h <;> cases h), hc.srcp hp⟩

theorem GCtl.not_X_head {s : State} (hc : GCtl s) (c : Nat) (h : s.base.newHead ≤ c) : ¬ X s c := by
  intro hx; rw [X_iff] at hx
  have := (hc.rng hx.1).2
  omega

theorem dead_X {s : State} (hc : GCtl s) {c : Nat} (hd : Dead s c) : X s c := by
  obtain ⟨d1, d2, d3⟩ := hd
  rw [X_iff]; refine ⟨d1, ?_⟩
  rcases d3 with d3 | ⟨d3, d4⟩
  · have := (hc.src d1).2; omega
  · rw [d3]; exact hc.srcp (Or.inl (by rw [d4]; rfl))

/-- the form in which the invariants take a GC micro-step apart.  The destination lies below the range also before the gc
    writer is opened on it (`beginW` would have fired a monitor), so the writer is opened for append and closed without
    truncation.  `tailKeep`, `tailCut` remain among the cases: `GCtl.notail` excludes them. -/
theorem gmicro_elim_nohaz {cfg : GCfg} {s s' : State} (hc : GCtl s) (hz : noHaz s') (h : gmicro cfg s = some s') :
    s.gc.dst < s.gc.gbegin ∧ s.gc.src ≠ s.gc.dst ∧
    GStepOn cfg s (fun _ pc => beginApp s pc) { s with gc := { s.gc with wopen := false, rewr := false } } s.gc.pc s' := by
  have hb : ∀ c pc, s' = beginW s c pc → s.gc.dst < s.gc.gbegin ∧ s' = beginApp s pc :=
    fun c pc e => by subst e; exact beginW_nohaz hc.norew hz
  have hst := gmicro_started hc h
  have hd : s.gc.dst < s.gc.gbegin := by
    have hs := gmicro_elim h
    rcases hc.dst hst with h1 | ⟨hp | ⟨r, f, hp⟩, _⟩
    · exact h1
    · rw [hp] at hs; cases hs; exact (hb _ _ rfl).1
    · rw [hp] at hs; cases hs; exact (hb _ _ rfl).1
  exact ⟨hd, by have := (hc.src hst).1; omega, gmicro_elimOn h (fun c pc e => (hb c pc e).2) (endW_norew hc.norew)⟩

theorem ctl_gmicro {cfg : GCfg} {s s' : State} (hc : GCtl s) (hz : noHaz s') (h : gmicro cfg s = some s') : GCtl s' := by
  have hst := gmicro_started hc h
  have hf := gmicro_frame h
  have hsrc := hc.src hst
  obtain ⟨hd, hsd, hs⟩ := gmicro_elim_nohaz hc hz h
  have next : s'.gc.rewr = false → s'.gc.pc ≠ .idle → s'.gc.pc ≠ .gTail →
      (s'.gc.dst < s.gc.gbegin ∨ ((s'.gc.pc = .gBegin ∨ ∃ r f, s'.gc.pc = .gBeginW r f) ∧ s'.gc.dst ≤ s.gc.gbegin)) →
      (s.gc.gbegin ≤ s'.gc.src ∧ s'.gc.src ≤ s.gc.gend + 1) →
      (procPC s'.gc.pc = true ∨ s'.gc.pc = .gOpen → s'.gc.src ≤ s.gc.gend) → GCtl s' := by
    intro h1 h2 h3 h4 h5 h6
    refine ⟨fun e => ?_, fun _ => h2, fun _ => ?_, h1, fun _ => ?_, fun _ => ?_, ?_, h3⟩
    · rw [hf.started, hst] at e; cases e
    · rw [hf.gbegin, hf.gend, hf.newHead]; exact hc.rng hst
    · rw [hf.gbegin]; exact h4
    · rw [hf.gbegin, hf.gend]; exact h5
    · rw [hf.gend]; exact h6
  have loop : procPC s.gc.pc = true ∨ s.gc.pc = .gOpen → s'.gc.rewr = false →
      s'.gc.src = s.gc.src → s'.gc.dst = s.gc.dst → s'.gc.pc ≠ .idle → s'.gc.pc ≠ .gTail → GCtl s' := by
    intro hp h1 h2 h3 h4 h5
    refine next h1 h4 h5 (Or.inl ?_) ?_ (fun _ => ?_)
    · rw [h3]; exact hd
    · rw [h2]; exact hsrc
    · rw [h2]; exact hc.srcp hp
  clear h
  generalize hpc : s.gc.pc = pc at hs
  cases hs with
  | begin => exact next hc.norew nofun nofun (Or.inl hd) hsrc (by rintro (h | h) <;> cases h)
  | reopen r f => exact next hc.norew nofun nofun (Or.inl hd) hsrc (fun _ => hc.srcp (Or.inl (by rw [hpc]; rfl)))
  | close r f =>
    exact next rfl nofun nofun (Or.inr ⟨Or.inr ⟨r, f, rfl⟩, hd⟩) hsrc (fun _ => hc.srcp (Or.inl (by rw [hpc]; rfl)))
  | final => exact next rfl nofun nofun (Or.inl hd) hsrc (by rintro (h | h) <;> cases h)
  | fileCancel | fileEnd => exact next hc.norew nofun nofun (Or.inl hd) hsrc (by rintro (h | h) <;> cases h)
  | fileSkip hle =>
    exact next hc.norew nofun nofun (Or.inl hd) ⟨by show _ ≤ s.gc.src + 1; omega, by show s.gc.src + 1 ≤ _; omega⟩
      (by rintro (h | h) <;> cases h)
  | fileOpen hle => exact next hc.norew nofun nofun (Or.inl hd) hsrc (fun _ => Nat.le_of_not_gt hle)
  | fileDone =>
    have := hc.srcp (Or.inl (by rw [hpc]; rfl))
    exact next hc.norew nofun nofun (Or.inl hd) ⟨by show _ ≤ s.gc.src + 1; omega, by show s.gc.src + 1 ≤ _; omega⟩
      (by rintro (h | h) <;> cases h)
  | «open» => exact loop (Or.inr hpc) hc.norew rfl rfl nofun nofun
  | nextTail _ he => exact absurd he hsd
  | tailKeep | tailCut => exact absurd hpc hc.notail
  | check r f pc' _ hpc' =>
    refine loop (Or.inl (by rw [hpc]; rfl)) hc.norew rfl rfl ?_ ?_ <;> rcases hpc' with rfl | rfl <;> nofun
  | flush r f off => refine loop (Or.inl (by rw [hpc]; rfl)) hc.norew rfl rfl ?_ ?_ <;> cases f <;> nofun
  | _ => exact loop (Or.inl (by rw [hpc]; rfl)) hc.norew rfl rfl nofun nofun

end ConcGC
