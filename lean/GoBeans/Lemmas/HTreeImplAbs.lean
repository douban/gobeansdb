/-
  Lazy Merkle tree (C08): the CONTENT of the implementation tree (items of all leaves) behaves as a dictionary keyed by
  key hash: `set` = upsert (up to order), `remove` (position test passed) = delete, everything else leaves it as it is.
  Hence the summary `updateAt` returns at any node after any history is `nodeSum` of the dictionary that history builds
  (`run_summary`).  Item listings agree with the specification on the content itself, whose order within a leaf follows
  the history.
-/
import GoBeans.Lemmas.HTreeImplMain
namespace HTreeImplLemmas
open Tree TreeLemmas HTreeImpl

theorem content_set (t t' : HTree) (e : Ent) (inv : Inv t) (hs : HTreeImpl.set t e = some t') :
    (content t').Perm (e :: (content t).filter (fun x => x.khash != e.khash)) := by
  obtain ⟨t1, g, h⟩ := set_eq t e inv.h2
  obtain rfl := Option.some.inj (hs.symm.trans h)
  obtain ⟨A, B, hset, hc, hfil⟩ := content_at_leaf t t1 e.khash inv.shape inv.leaves g.leaves
  rw [hset, hc, hfil]
  have hp := set_items_perm (t.leaf (leafOffset t e.khash)) e (inv.leaves.leaf _).nodup
  refine ((List.Perm.append_left _ (List.Perm.append_right _ hp))).trans ?_
  simp only [List.cons_append]
  exact List.perm_middle

theorem content_remove (t t' : HTree) (kh : Nat) (p : Bool) (inv : Inv t) (hs : remove t kh p = some t') :
    content t' = if p then (content t).filter (fun x => x.khash != kh) else content t := by
  obtain ⟨t1, g, h⟩ := remove_eq t kh p inv.h2
  obtain rfl := Option.some.inj (hs.symm.trans h)
  obtain ⟨A, B, hset, hc, hfil⟩ := content_at_leaf t t1 kh inv.shape inv.leaves g.leaves
  rw [hset, hc]
  cases p with
  | false => rfl
  | true => rw [if_pos rfl, if_pos rfl, hfil, remove_items]

theorem content_movePos (t t' : HTree) (kh : Nat) (p : Bool) (inv : Inv t) (hs : movePos t kh p = some t') :
    content t' = content t := by
  rcases movePos_eq t kh p with h | ⟨it, hf, h⟩
  · rw [Option.some.inj (hs.symm.trans h)]
  · obtain ⟨t1, g, h'⟩ := set_eq t it inv.h2
    obtain rfl := Option.some.inj (hs.symm.trans (h.trans h'))
    obtain ⟨A, B, hset, hc, _⟩ := content_at_leaf t t1 it.khash inv.shape inv.leaves g.leaves
    rw [hset, set_items_self _ it (inv.leaves.leaf _).nodup hf, hc]

/-- the dictionary a call leaves behind -/
def absStep (c : Content) : Op → Content
  | .set e => e :: c.filter (fun x => x.khash != e.khash)
  | .remove kh true => c.filter (fun x => x.khash != kh)
  | _ => c

def absRun (c : Content) (ops : List Op) : Content := ops.foldl absStep c

/-- `OpOk`, and removed keys belong to the bucket too.  Only `C08_history_to_summary` asks for this; it is not needed
    (`history_to_summary`): a removed key that does not belong to the bucket is in no leaf. -/
def OpOk' (t : HTree) : Op → Prop
  | .remove kh _ => KeyOk t kh
  | op => OpOk t op

theorem opOk'_ok (t : HTree) (op : Op) (h : OpOk' t op) : OpOk t op := by
  cases op <;> first | exact h | trivial

theorem absStep_perm (a b : Content) (h : a.Perm b) (op : Op) : (absStep a op).Perm (absStep b op) := by
  cases op with
  | set e => exact List.Perm.cons _ (h.filter _)
  | remove kh p => cases p with
    | true => exact h.filter _
    | false => exact h
  | movePos _ _ => exact h
  | update => exact h
  | list _ _ => exact h

theorem absRun_perm (ops : List Op) : ∀ (a b : Content), a.Perm b → (absRun a ops).Perm (absRun b ops) :=
  fun _ _ h => List.foldl_rel (r := List.Perm) h fun o _ a b h => absStep_perm a b h o

/-- for the writers from the model, whether or not the key belongs to the bucket; for the readers it is `StepRes.reader` -/
theorem content_step (t t' : HTree) (op : Op) (out : Out) (inv : Inv t) (hs : step t op = some (t', out))
    (r : StepRes t op t' out) : (content t').Perm (absStep (content t) op) := by
  have hmap : ∀ {r : Option HTree}, r.map (fun t' => (t', Out.done)) = some (t', out) → r = some t' := by
    intro r h
    cases r with
    | none => cases h
    | some a => rw [(Prod.mk.inj (Option.some.inj h)).1]
  cases op with
  | set e => exact content_set t t' e inv (hmap hs)
  | remove kh p =>
    rw [content_remove t t' kh p inv (hmap hs)]
    cases p <;> exact List.Perm.refl _
  | movePos kh p => rw [content_movePos t t' kh p inv (hmap hs)]; exact List.Perm.refl _
  | update => rw [r.reader rfl]; exact List.Perm.refl _
  | list thr ds => rw [r.reader rfl]; exact List.Perm.refl _

theorem content_run (t t' : HTree) (ops : List Op) (outs : List Out) (inv : Inv t) (ok : OpsOk t ops)
    (hr : run t ops = some (t', outs)) : (content t').Perm (absRun (content t) ops) := by
  induction ops generalizing t outs with
  | nil => obtain ⟨rfl, _⟩ := run_nil_some hr; exact List.Perm.refl _
  | cons op ops ih =>
    obtain ⟨t1, o, os, h1, r, ok1, g1, _⟩ := run_cons_inv inv ok hr
    exact (ih t1 os r.inv ok1 g1).trans (absRun_perm ops _ _ (content_step t t1 op o inv h1 r))

theorem run_summary (t0 t : HTree) (ops : List Op) (outs : List Out) (inv0 : Inv t0) (ok : OpsOk t0 ops)
    (hr : run t0 ops = some (t, outs)) (level offset : Nat) (hl : level < t0.height) (ho : offset < 16 ^ level) :
    ((updateAt t level offset).2.count, (updateAt t level offset).2.hash)
      = nodeSum (absRun (content t0) ops) (t0.depth + level) (t0.bucketID * 16 ^ level + offset) (t0.height - 1 - level) := by
  obtain ⟨inv, hp, _⟩ := run_post t0 t ops outs inv0 ok hr
  rw [(updateAt_exact t level offset inv (by rw [hp.height]; exact hl) ho).exact, hp.depth, hp.bid, hp.height]
  exact nodeSum_perm (content_run t0 t ops outs inv0 ok hr) _ _ _

theorem history_to_summary (depth bid height : Nat) (t0 t : HTree) (ops : List Op) (outs : List Out)
    (h0 : newHTree depth bid height = some t0) (hh : 2 ≤ height) (ok : OpsOk t0 ops)
    (hr : run t0 ops = some (t, outs)) (level offset : Nat) (hl : level < height) (ho : offset < 16 ^ level) :
    ((updateAt t level offset).2.count, (updateAt t level offset).2.hash)
      = nodeSum (absRun [] ops) (depth + level) (bid * 16 ^ level + offset) (height - 1 - level) := by
  obtain ⟨inv0, rfl, rfl, rfl, hc⟩ := newHTree_inv depth bid height t0 h0 hh
  rw [run_summary t0 t ops outs inv0 ok hr level offset hl ho, hc]

/-- `history_to_summary` under the stronger `OpOk'`: the form Props/C08.lean states again under the same name; it
    stands here for the non-vacuity example of Lemmas/HTreeImpl.lean -/
theorem C08_history_to_summary (depth bid height : Nat) (t0 t : HTree) (ops : List Op) (outs : List Out)
    (h0 : newHTree depth bid height = some t0) (hh : 2 ≤ height) (ok : ∀ op ∈ ops, OpOk' t0 op)
    (hr : run t0 ops = some (t, outs)) (level offset : Nat) (hl : level < height) (ho : offset < 16 ^ level) :
    ((updateAt t level offset).2.count, (updateAt t level offset).2.hash)
      = nodeSum (absRun [] ops) (depth + level) (bid * 16 ^ level + offset) (height - 1 - level) :=
  history_to_summary depth bid height t0 t ops outs h0 hh (fun o h => opOk'_ok t0 o (ok o h)) hr level offset hl ho

end HTreeImplLemmas
