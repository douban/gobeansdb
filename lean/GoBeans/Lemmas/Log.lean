/-
  Log view of a bucket: all records in (file, offset) order.  Rebuilding the tree is replaying the log, which leaves
  for each key the live part of its last record (`replay_get`); the tree maintained incrementally describes the last
  record of each key (`LastRec`).  So a restart, with the tree dump loaded or rebuilt from the data, keeps the agreement
  with the reference map, and histories with restarts refine the reference `specRun` (`run_refines_restart`, C02).
  What one operation does to the bucket is said once (`Eff`, `step_eff`): an invariant of the files, the log or the
  tree kept along histories is shown for its three cases.
-/
import GoBeans.Lemmas.Store
import GoBeans.Model.LogView
namespace StoreLemmas
open Store Spec

section Lists

theorem getLast?_filter_of_getLast? {α} {l : List α} {x : α} (q : α → Bool) (h : l.getLast? = some x) (hq : q x = true) :
    (l.filter q).getLast? = some x := by
  obtain ⟨ys, rfl⟩ := List.getLast?_eq_some_iff.mp h
  simp [List.filter_append, hq]

theorem flatMap_congr_mem {α β} {l : List α} {f g : α → List β} (h : ∀ a ∈ l, f a = g a) : l.flatMap f = l.flatMap g := by
  rw [List.flatMap_def, List.flatMap_def, List.map_congr_left h]

theorem flatMap_congr_range {β} (n : Nat) (f g : Nat → List β) (h : ∀ i, i < n → f i = g i) :
    (List.range n).flatMap f = (List.range n).flatMap g :=
  flatMap_congr_mem fun i hi => h i (List.mem_range.1 hi)

theorem flatMap_range'_congr {β} (f g : Nat → List β) (m n : Nat) (h : ∀ i, n ≤ i → i < n + m → f i = g i) :
    (List.range' n m).flatMap f = (List.range' n m).flatMap g :=
  flatMap_congr_mem fun i hi => h i (List.mem_range'_1.1 hi).1 (List.mem_range'_1.1 hi).2

theorem flatMap_range_le {β} (f : Nat → List β) {d : Nat} :
    ∀ {n : Nat}, d ≤ n → (∀ j, d ≤ j → j < n → f j = []) → (List.range n).flatMap f = (List.range d).flatMap f
  | 0, hd, _ => by rw [Nat.le_zero.mp hd]
  | n + 1, hd, h => by
    by_cases e : d = n + 1
    · rw [e]
    · rw [List.range_succ, List.flatMap_append, flatMap_range_le f (by omega) (fun j h1 h2 => h j h1 (by omega))]
      simp [h n (by omega) (by omega)]

theorem flatMap_range_split {β} (f : Nat → List β) (n m : Nat) :
    (List.range (n + m)).flatMap f = (List.range n).flatMap f ++ (List.range' n m).flatMap f := by
  rw [List.range_eq_range', List.range_eq_range', ← List.flatMap_append]
  congr 1
  have := @List.range'_append 0 n m 1
  simp only [Nat.zero_add, Nat.one_mul] at this
  exact this.symm

end Lists

theorem lastOf_nil (k : Key) : lastOf k [] = none := rfl

theorem lastOf_append (k : Key) (a b : List (Pos × Rec)) : lastOf k (a ++ b) = (lastOf k b).or (lastOf k a) := by
  unfold lastOf
  rw [List.filter_append, List.getLast?_append]

theorem lastOf_append_single (k : Key) (l : List (Pos × Rec)) (x : Pos × Rec) :
    lastOf k (l ++ [x]) = if x.2.key = k then some x else lastOf k l := by
  rw [lastOf_append]
  by_cases h : x.2.key = k <;> simp [lastOf, List.filter, h]

theorem lastOf_cons (k : Key) (x : Pos × Rec) (l : List (Pos × Rec)) :
    lastOf k (x :: l) = (lastOf k l).or (if x.2.key = k then some x else none) := by
  rw [← List.singleton_append, lastOf_append]
  by_cases h : x.2.key = k <;> simp [lastOf, List.filter, h]

theorem lastOf_mem {k : Key} {l : List (Pos × Rec)} {x : Pos × Rec} (h : lastOf k l = some x) : x ∈ l ∧ x.2.key = k := by
  unfold lastOf at h
  have := List.mem_of_getLast? h
  simpa [List.mem_filter] using this

theorem lastOf_none_iff (k : Key) (l : List (Pos × Rec)) : lastOf k l = none ↔ ∀ x ∈ l, x.2.key ≠ k := by
  unfold lastOf
  rw [List.getLast?_eq_none_iff, List.filter_eq_nil_iff]
  simp

section Replay
variable (hash : Key → Nat) (K : Key → Prop)

/-- the slot a rebuild leaves for a key with this last record: none for a tombstone -/
def itemOfLast : Option (Pos × Rec) → Option TItem
  | some (p, r) => if r.ver > 0 then some { pos := p, ver := r.ver, vhash := vhashOf r.body } else none
  | none => none

theorem itemOfLast_live {p : Pos} {r : Rec} (h : r.ver > 0) :
    itemOfLast (some (p, r)) = some { pos := p, ver := r.ver, vhash := vhashOf r.body } := if_pos h

theorem itemOfLast_dead {p : Pos} {r : Rec} (h : ¬ r.ver > 0) : itemOfLast (some (p, r)) = none := if_neg h

theorem replay_slot (l : List (Pos × Rec)) (k : Key) (hone : ∀ x ∈ l, hash x.2.key = hash k → x.2.key = k) :
    ∀ t, AMap.get (l.foldl (replayStep hash) t) (hash k) =
      (match lastOf k l with
       | some x => itemOfLast (some x)
       | none => AMap.get t (hash k)) := by
  induction l with
  | nil => intro t; rw [lastOf_nil]; rfl
  | cons x l ih =>
    intro t
    have ih' := ih (fun y hy => hone y (by simp [hy]))
    rw [List.foldl_cons, ih', lastOf_cons]
    cases hlast : lastOf k l with
    | some y => simp
    | none =>
      simp only [Option.none_or]
      unfold replayStep
      by_cases hkk : x.2.key = k
      · subst hkk
        by_cases hv : x.2.ver > 0
        · simp [hv, itemOfLast]
        · simp [hv, itemOfLast, AMap.get_erase_self]
      · have hne : hash x.2.key ≠ hash k := fun e => hkk (hone x (by simp) e)
        by_cases hv : x.2.ver > 0
        · simp only [hv, if_true, hkk, if_false]
          rw [AMap.get_set_ne _ _ _ _ hne]
        · simp only [hv, if_false, hkk]
          rw [AMap.get_erase_ne _ _ _ hne]

theorem replay_from (hInj : InjOn hash K) (l : List (Pos × Rec)) (hl : ∀ x ∈ l, K x.2.key) (k : Key) (hk : K k) :
    ∀ t, AMap.get (l.foldl (replayStep hash) t) (hash k) =
      (match lastOf k l with
       | some x => itemOfLast (some x)
       | none => AMap.get t (hash k)) :=
  replay_slot hash l k (fun x hx e => hInj _ _ (hl x hx) hk e)

theorem replay_get (hInj : InjOn hash K) (l : List (Pos × Rec)) (hl : ∀ x ∈ l, K x.2.key) (k : Key) (hk : K k) :
    AMap.get (replayTree hash l) (hash k) = itemOfLast (lastOf k l) := by
  unfold replayTree
  rw [replay_from hash K hInj l hl k hk]
  cases lastOf k l <;> simp [itemOfLast]
end Replay

def recsAt (b : Bucket) (i : Nat) : List (Pos × Rec) :=
  (b.chunks i).recs.map (fun p => (({ chunk := i, off := p.1 } : Pos), p.2))

def tag (i : Nat) (l : List (Nat × Rec)) : List (Pos × Rec) := l.map (fun p => (({ chunk := i, off := p.1 } : Pos), p.2))

theorem recsAt_eq_tag (b : Bucket) (i : Nat) : recsAt b i = tag i (b.chunks i).recs := rfl

theorem log_eq (b : Bucket) : b.log = (List.range (b.head + 1)).flatMap (recsAt b) := rfl

theorem tag_append (i : Nat) (a c : List (Nat × Rec)) : tag i (a ++ c) = tag i a ++ tag i c := by simp [tag]

theorem mem_tag {i : Nat} {l : List (Nat × Rec)} {y : Pos × Rec} : y ∈ tag i l ↔ y.1.chunk = i ∧ (y.1.off, y.2) ∈ l := by
  unfold tag
  rw [List.mem_map]
  constructor
  · rintro ⟨p, hp, rfl⟩; exact ⟨rfl, hp⟩
  · rintro ⟨h1, h2⟩
    refine ⟨(y.1.off, y.2), h2, ?_⟩
    obtain ⟨⟨c, o⟩, r⟩ := y
    simp only at h1; subst h1; rfl

theorem mem_log {b : Bucket} {p : Pos} {r : Rec} :
    (p, r) ∈ b.log ↔ p.chunk ≤ b.head ∧ (p.off, r) ∈ (b.chunks p.chunk).recs := by
  rw [log_eq, List.mem_flatMap]
  constructor
  · rintro ⟨i, hi, hy⟩
    obtain ⟨rfl, h⟩ := mem_tag.1 hy
    exact ⟨Nat.le_of_lt_succ (List.mem_range.mp hi), h⟩
  · rintro ⟨h1, h2⟩
    exact ⟨p.chunk, List.mem_range.mpr (Nat.lt_succ_of_le h1), mem_tag.2 ⟨rfl, h2⟩⟩

theorem log_eq_range (b : Bucket) (m : Nat) (hm : m ≤ b.head + 1) (he : ∀ j, m ≤ j → (b.chunks j).recs = []) :
    b.log = (List.range m).flatMap (recsAt b) := by
  rw [log_eq]
  exact flatMap_range_le (recsAt b) hm (fun j hj _ => by rw [recsAt_eq_tag, he j hj]; rfl)

theorem log_split (b : Bucket) (n : Nat) (hn : n ≤ b.head) :
    b.log = (List.range n).flatMap (recsAt b) ++ (recsAt b n ++ (List.range' (n + 1) (b.head - n)).flatMap (recsAt b)) := by
  rw [log_eq, show b.head + 1 = n + (b.head + 1 - n) by omega, flatMap_range_split]
  rw [show b.head + 1 - n = (b.head - n) + 1 by omega, List.range'_succ, List.flatMap_cons]

theorem mem_flatMap_range_chunk (b : Bucket) (n : Nat) (y : Pos × Rec) (h : y ∈ (List.range n).flatMap (recsAt b)) :
    y.1.chunk < n := by
  rw [List.mem_flatMap] at h
  obtain ⟨i, hi, hy⟩ := h
  rw [recsAt_eq_tag, mem_tag] at hy
  rw [List.mem_range] at hi
  omega

theorem log_pushRec (b : Bucket) (ck off : Nat) (r : Rec) (hp : PosInv b) (hck : ck = b.head ∨ ck = b.head + 1) :
    (b.pushRec ck off r).log = b.log ++ [(⟨ck, off⟩, r)] := by
  have hc : ∀ i, recsAt (b.pushRec ck off r) i = if i = ck then recsAt b ck ++ [(⟨ck, off⟩, r)] else recsAt b i := by
    intro i
    unfold recsAt
    rw [chunks_pushRec]
    by_cases h : i = ck
    · subst h; simp
    · simp [h]
  have hh : (b.pushRec ck off r).head = ck := rfl
  rw [log_eq, log_eq, hh]
  rcases hck with rfl | rfl
  · rw [List.range_succ, List.flatMap_append, List.flatMap_append]
    rw [flatMap_congr_range b.head (recsAt (b.pushRec b.head off r)) (recsAt b)
          (fun i hi => by rw [hc]; simp [Nat.ne_of_lt hi])]
    simp [hc]
  · have hf := hp.fresh (b.head + 1) (by omega)
    rw [List.range_succ, List.flatMap_append]
    rw [flatMap_congr_range (b.head + 1) (recsAt (b.pushRec (b.head + 1) off r)) (recsAt b)
          (fun i hi => by rw [hc]; simp [Nat.ne_of_lt hi])]
    have e1 : recsAt (b.pushRec (b.head + 1) off r) (b.head + 1) = [(⟨b.head + 1, off⟩, r)] := by
      rw [hc]; simp [recsAt, hf.1]
    rw [List.flatMap_cons, List.flatMap_nil, List.append_nil, e1]

theorem log_append (cfg : Store.Cfg) (b : Bucket) (r : Rec) (hp : PosInv b) :
    (b.append cfg r).1.log = b.log ++ [((b.append cfg r).2, r)] := by
  obtain ⟨b0, ck, s⟩ := append_shape cfg b r hp
  rw [s.eq, ← s.quiet.log]
  exact log_pushRec b0 ck _ r s.quiet.pos (s.head ▸ s.file)

def NonEmptyC (c : Chunk) : Prop := c.size > 0 ∨ c.created = true

theorem lastNonEmpty_go_spec (cs : List Chunk) :
    ∀ (i : Nat) (best : Option Nat),
      (∃ j, j < cs.length ∧ lastNonEmpty.go i cs best = some (i + j) ∧ NonEmptyC (cs.getD j {}) ∧
          ∀ j', j < j' → j' < cs.length → ¬ NonEmptyC (cs.getD j' {})) ∨
      (lastNonEmpty.go i cs best = best ∧ ∀ j', j' < cs.length → ¬ NonEmptyC (cs.getD j' {})) := by
  induction cs with
  | nil => intro i best; right; exact ⟨rfl, fun j' h => by simp at h⟩
  | cons c rest ih =>
    intro i best
    unfold lastNonEmpty.go
    -- whichever candidate this file leaves, a later non-empty file overrides it
    rcases ih (i + 1) (if c.size > 0 ∨ c.created = true then some i else best) with ⟨j, hj, he, hne, hafter⟩ | ⟨he, hnone⟩
    · left
      refine ⟨j + 1, by simp; omega, by rw [he]; congr 1; omega, by simpa using hne, ?_⟩
      intro j' h1 h2
      cases j' with
      | zero => omega
      | succ j'' => simpa using hafter j'' (by omega) (by simp at h2; omega)
    · by_cases hc : c.size > 0 ∨ c.created = true
      · left
        refine ⟨0, by simp, by rw [he]; simp [hc], by simpa [NonEmptyC] using hc, ?_⟩
        intro j' h1 h2
        cases j' with
        | zero => omega
        | succ j'' => simpa using hnone j'' (by simp at h2; omega)
      · right
        refine ⟨by rw [he]; simp [hc], ?_⟩
        intro j' h2
        cases j' with
        | zero => simpa [NonEmptyC] using hc
        | succ j'' => simpa using hnone j'' (by simp at h2; omega)

/-- the list is the data files as a restart finds them (`Store.step`, `.reopen`: every file flushed) -/
theorem lastNonEmpty_spec (b : Bucket) :
    (∃ mx, lastNonEmpty ((List.range (b.head + 1)).map (fun i => { b.chunks i with flushed := (b.chunks i).recs.length })) = some mx
        ∧ mx ≤ b.head ∧ NonEmptyC (b.chunks mx) ∧ ∀ j, mx < j → j ≤ b.head → ¬ NonEmptyC (b.chunks j))
    ∨ (lastNonEmpty ((List.range (b.head + 1)).map (fun i => { b.chunks i with flushed := (b.chunks i).recs.length })) = none
        ∧ ∀ j, j ≤ b.head → ¬ NonEmptyC (b.chunks j)) := by
  generalize hcl : (List.range (b.head + 1)).map (fun i => { b.chunks i with flushed := (b.chunks i).recs.length }) = cl
  have hlen : cl.length = b.head + 1 := by rw [← hcl]; simp
  have hget : ∀ j, j < b.head + 1 → (NonEmptyC (cl.getD j {}) ↔ NonEmptyC (b.chunks j)) := by
    intro j hj
    have : cl.getD j {} = { b.chunks j with flushed := (b.chunks j).recs.length } := by
      rw [← hcl]; simp [List.getD, hj]
    rw [this]; simp [NonEmptyC]
  have hdef : lastNonEmpty cl = lastNonEmpty.go 0 cl none := rfl
  rcases lastNonEmpty_go_spec cl 0 none with ⟨j, hj, he, hne, hafter⟩ | ⟨he, hnone⟩
  · rw [hlen] at hj
    refine Or.inl ⟨j, by rw [hdef, he]; simp, by omega, (hget j hj).mp hne, fun j' h1 h2 => ?_⟩
    rw [← hget j' (by omega)]
    exact hafter j' h1 (by rw [hlen]; omega)
  · refine Or.inr ⟨by rw [hdef, he], fun j hj => ?_⟩
    rw [← hget j (by omega)]
    exact hnone j (by rw [hlen]; omega)

theorem empty_of_not_nonEmptyC {b : Bucket} (hp : PosInv b) {j : Nat} (h : j ≤ b.head → ¬ NonEmptyC (b.chunks j)) :
    (b.chunks j).recs = [] ∧ (b.chunks j).size = 0 := by
  by_cases hj : j ≤ b.head
  · have hs : (b.chunks j).size = 0 := by
      have := h hj; unfold NonEmptyC at this; omega
    exact ⟨hp.nil_of_size hs, hs⟩
  · exact hp.fresh j (by omega)

theorem step_reopen (hash : Key → Nat) (cfg : Store.Cfg) (b : Bucket) (keep : Bool) {o : Option Nat} :
    lastNonEmpty ((List.range (b.head + 1)).map (fun i => { b.chunks i with flushed := (b.chunks i).recs.length })) = o →
    (Store.step hash cfg b (.reopen keep)).1 =
      { chunks := fun i => { b.chunks i with flushed := (b.chunks i).recs.length },
        head := (match o with | some i => i + 1 | none => 0),
        tree := if keep then b.tree else replayTree hash b.log, nextGC := b.nextGC } := by
  rintro rfl; rfl

theorem reopen_quiet (hash : Key → Nat) (cfg : Store.Cfg) (b : Bucket) (hp : PosInv b) (keep : Bool) :
    let b' := (Store.step hash cfg b (.reopen keep)).1
    Quiet b b' ∧ b'.tree = (if keep then b.tree else replayTree hash b.log) := by
  intro b'
  have hc : ∀ i, b'.chunks i = { b.chunks i with flushed := (b.chunks i).recs.length } := fun i => rfl
  obtain ⟨hle, hemp⟩ : b'.head ≤ b.head + 1 ∧ ∀ j, b'.head ≤ j → (b.chunks j).recs = [] ∧ (b.chunks j).size = 0 := by
    rcases lastNonEmpty_spec b with ⟨mx, e, hle, _, hab⟩ | ⟨e, hn⟩
    · rw [show b'.head = mx + 1 from congrArg Bucket.head (step_reopen hash cfg b keep e)]
      exact ⟨by omega, fun j hj => empty_of_not_nonEmptyC hp (hab j (by omega))⟩
    · rw [show b'.head = 0 from congrArg Bucket.head (step_reopen hash cfg b keep e)]
      exact ⟨Nat.zero_le _, fun j _ => empty_of_not_nonEmptyC hp (hn j)⟩
  refine ⟨⟨fun i => ⟨rfl, rfl⟩, ?_, ⟨?_, ?_⟩⟩, rfl⟩
  · rw [log_eq_range b' b'.head (Nat.le_succ _) (fun j hj => (hemp j hj).1), log_eq_range b b'.head hle (fun j hj => (hemp j hj).1)]
    exact flatMap_congr_range _ _ _ (fun i _ => rfl)
  · intro i o r hm
    rw [hc] at hm ⊢; exact hp.below i o r hm
  · intro i hi
    rw [hc]
    exact hemp i (by omega)

/-- operations of a C02 history: those of C01, plus restarts -/
def OpOK2 (K : Key → Prop) (R : Nat) : Op → Prop
  | .reopen _ => True
  | op => OpOK K R op

section Eff

/-- the record a client command writes, when it writes one (of the version `incr` writes only that it is not 0) -/
inductive Writes (hash : Key → Nat) (b : Bucket) : Op → Rec → Prop
  | set (k : Key) (body : Bytes) (flag : Nat) (rev : Int) (ts size : Nat) : (nextVer (oldVer b (hash k)) rev).2 = true →
      Writes hash b (.set k body flag rev ts size)
        { key := k, ver := (nextVer (oldVer b (hash k)) rev).1, flag := flag, ts := some ts, body := body, size := size, wts := ts }
  | delete (k : Key) (size wts : Nat) : (nextVer (oldVer b (hash k)) (-1)).2 = true →
      Writes hash b (.delete k size wts)
        { key := k, ver := (nextVer (oldVer b (hash k)) (-1)).1, flag := 0, ts := none, body := [], size := size, wts := wts }
  | incr (k : Key) (d : Int) (size wts : Nat) (ver v : Int) : ver ≠ 0 →
      Writes hash b (.incr k d size wts)
        { key := k, ver := ver, flag := Spec.FLAG_INCR, ts := none, body := Spec.itoa v, size := size, wts := wts }

/-- what an operation does to the bucket: it changes the tree at most, or puts one record, or leaves every record
    where it is (flush, restart) -/
inductive Eff (hash : Key → Nat) (cfg : Store.Cfg) (b : Bucket) (op : Op) (b' : Bucket) : Prop
  | tree (t : List (Nat × TItem)) : (cfg.checkVHash = false → t = b.tree) → b' = { b with tree := t } → Eff hash cfg b op b'
  | put (r : Rec) : Writes hash b op r → b' = (b.put hash cfg r).1 → Eff hash cfg b op b'
  | quiet : Quiet b b' → (b'.tree = b.tree ∨ op = .reopen false ∧ b'.tree = replayTree hash b.log) → Eff hash cfg b op b'

variable {hash : Key → Nat} {K : Key → Prop}

theorem Eff.same {cfg : Store.Cfg} {b : Bucket} {op : Op} : Eff hash cfg b op b :=
  .tree b.tree (fun _ => rfl) rfl

theorem cas_eff (cfg : Store.Cfg) (b : Bucket) (op : Op) (k : Key) (body : Bytes) (flag : Nat) (rev : Int)
    (ts : Option Nat) (size wts : Nat)
    (hw : (nextVer (oldVer b (hash k)) rev).2 = true → Writes hash b op
      { key := k, ver := (nextVer (oldVer b (hash k)) rev).1, flag := flag, ts := ts, body := body, size := size, wts := wts }) :
    Eff hash cfg b op (checkAndSet hash cfg b k body flag rev ts size wts).1 := by
  rw [scas_eq]
  rw [oldVer_eq] at hw
  rcases casPlan_cases cfg.checkVHash (AMap.get b.tree (hash k)) body rev with ⟨res, e⟩ | ⟨hc, it, e⟩ | ⟨hok, e⟩ <;> rw [e]
  · exact .same
  · exact .tree _ (fun h => by rw [h] at hc; cases hc) rfl
  · exact .put _ (hw hok) rfl

theorem step_eff (hash : Key → Nat) (cfg : Store.Cfg) (b : Bucket) (hp : PosInv b) (op : Op) :
    Eff hash cfg b op (Store.step hash cfg b op).1 := by
  cases op with
  | set k body flag rev ts size =>
    rw [step_set_fst]; exact cas_eff cfg b _ k body flag rev (some ts) size ts (.set k body flag rev ts size)
  | delete k size wts =>
    rw [step_delete_fst]; exact cas_eff cfg b _ k [] 0 (-1) none size wts (.delete k size wts)
  | incr k d size wts =>
    have hput : ∀ ver v, ver ≠ 0 → Eff hash cfg b (.incr k d size wts)
        (b.put hash cfg { key := k, ver := ver, flag := Spec.FLAG_INCR, ts := none, body := Spec.itoa v, size := size, wts := wts }).1 :=
      fun ver v h => .put _ (.incr k d size wts ver v h) rfl
    simp only [Store.step]
    split
    · exact hput 1 _ (by omega)
    · exact .same
    · exact .same
    · split
      · exact hput 1 _ (by omega)
      · split
        · exact .same
        · split
          · exact .same
          · split
            · exact .same
            · exact hput _ _ (by omega)
  | get k => simp only [Store.step]; split <;> (try split) <;> exact .same
  | info k => simp only [Store.step]; split <;> exact .same
  | flush => exact .quiet (flush_quiet hash cfg hp) (Or.inl rfl)
  | reopen keep =>
    obtain ⟨q, ht⟩ := reopen_quiet hash cfg b hp keep
    refine .quiet q ?_
    cases keep
    · exact Or.inr ⟨rfl, ht⟩
    · exact Or.inl ht

theorem Writes.ok {R : Nat} {b : Bucket} {op : Op} {r : Rec} (h : Writes hash b op r) (hop : OpOK2 K R op) :
    K r.key ∧ 0 < r.size := by
  cases h
  · exact ⟨hop.1, hop.2.1⟩
  · exact hop
  · exact hop

theorem Eff.log {cfg : Store.Cfg} {b b' : Bucket} {op : Op} (hp : PosInv b) (e : Eff hash cfg b op b') :
    b'.log = b.log ∨ ∃ p r, Writes hash b op r ∧ b'.log = b.log ++ [(p, r)] := by
  rcases e with ⟨t, _, rfl⟩ | ⟨r, hr, rfl⟩ | ⟨q, _⟩
  · exact Or.inl rfl
  · exact Or.inr ⟨_, r, hr, log_append cfg b r hp⟩
  · exact Or.inl q.log

end Eff

/-- the tree slot of a key describes the last record of that key in the log.  A key without a slot may still have
    records, the last of them a tombstone: that is how a rebuild leaves a deleted key (`replayStep` erases the slot),
    whereas a delete on a running store leaves a slot with a negative version. -/
structure LastRec (hash : Key → Nat) (K : Key → Prop) (b : Bucket) : Prop where
  keys : ∀ x ∈ b.log, K x.2.key
  last : ∀ k, K k →
    (∃ it r, AMap.get b.tree (hash k) = some it ∧ lastOf k b.log = some (it.pos, r) ∧ b.readAt it.pos = some r ∧ it.ver = r.ver) ∨
    (AMap.get b.tree (hash k) = none ∧ (lastOf k b.log = none ∨ ∃ p r, lastOf k b.log = some (p, r) ∧ ¬ r.ver > 0))

section
variable {hash : Key → Nat} {K : Key → Prop} {b : Bucket}

theorem LastRec.put (cfg : Store.Cfg) (hInj : InjOn hash K) (hp : PosInv b) (lr : LastRec hash K b)
    (r : Rec) (hk : K r.key) (hs : 0 < r.size) : LastRec hash K (b.put hash cfg r).1 := by
  obtain ⟨h1, h2, h3, h4⟩ := append_spec cfg b r hp hs
  rw [put_fst, h4]
  have q := Quiet.tree h3 (AMap.set b.tree (hash r.key)
    { pos := (b.append cfg r).2, ver := r.ver, vhash := if r.ver > 0 then vhashOf r.body else 0 })
  have hlog := q.log.trans (log_append cfg b r hp)
  constructor
  · intro x hx
    rw [hlog] at hx
    rcases List.mem_append.mp hx with hx | hx
    · exact lr.keys x hx
    · simp at hx; subst hx; exact hk
  · intro k hkK
    rw [hlog, lastOf_append_single]
    by_cases hkk : r.key = k
    · subst hkk
      left
      exact ⟨_, r, AMap.get_set_self _ _ _, by simp, (q.readAt _).trans h1, rfl⟩
    · have hne : hash r.key ≠ hash k := fun e => hkk (hInj _ _ hk hkK e)
      simp only [hkk, if_false]
      rw [AMap.get_set_ne _ _ _ _ hne]
      rcases lr.last k hkK with ⟨it, r0, a1, a2, a3, a4⟩ | ⟨a1, a2⟩
      · left; exact ⟨it, r0, a1, a2, (q.readAt _).trans (h2 _ _ a3), a4⟩
      · right; exact ⟨a1, a2⟩

theorem LastRec.quiet {b' : Bucket} (lr : LastRec hash K b) (q : Quiet b b') (ht : b'.tree = b.tree) : LastRec hash K b' := by
  constructor
  · intro x hx; rw [q.log] at hx; exact lr.keys x hx
  · intro k hk
    rw [q.log, ht]
    rcases lr.last k hk with ⟨it, r0, a1, a2, a3, a4⟩ | h
    · left; exact ⟨it, r0, a1, a2, by rw [q.readAt]; exact a3, a4⟩
    · right; exact h

theorem LastRec.read_last (lr : LastRec hash K b) (k : Key) (p : Pos) (r : Rec)
    (h : lastOf k b.log = some (p, r)) (hv : r.ver > 0) : b.readAt p = some r := by
  have hk : K k := (lastOf_mem h).2 ▸ lr.keys _ (lastOf_mem h).1
  rcases lr.last k hk with ⟨it, r1, _, l2, l3, _⟩ | ⟨l1, l2 | ⟨p', r', l2, hneg⟩⟩
  · rw [h] at l2; cases l2; exact l3
  · rw [h] at l2; cases l2
  · rw [h] at l2; cases l2; exact absurd hv hneg

end

section LastRec
variable (hash : Key → Nat) (K : Key → Prop)

theorem lr_init : LastRec hash K ({} : Bucket) := by
  constructor
  · intro x hx; simp [Bucket.log] at hx
  · intro k _; right; exact ⟨rfl, Or.inl rfl⟩

/-- the link between `liveRec` (in which C03 and C07 speak) and the machine -/
theorem get_of_lastRec (cfg : Store.Cfg) {b : Bucket} (lr : LastRec hash K b) (k : Key) (hk : K k) :
    (Store.step hash cfg b (.get k)).2.1 =
      (match liveRec k b.log with | some r => Reply.value r.flag r.body | none => Reply.miss) := by
  unfold liveRec
  rcases lr.last k hk with ⟨it, r, ht, hl, hread, hver⟩ | ⟨ht, hl | ⟨p, r, hl, hneg⟩⟩
  · have hkey : r.key = k := (lastOf_mem hl).2
    simp only [Store.step, Bucket.lookup, ht, hread, hkey, if_true, hl, Option.bind_some, hver]
    by_cases hv : r.ver > 0 <;> simp [hv]
  · simp [Store.step, Bucket.lookup, ht, hl]
  · simp [Store.step, Bucket.lookup, ht, hl, hneg]

/-- what it needs of the state before is asked for as such and not as a `LastRec`: a state after a crash has none
    (its tree is lost), but its layout gives `hp` and `hread` (`Lay.good`, Crash.lean) -/
theorem lr_rebuilt (cfg : Store.Cfg) (hInj : InjOn hash K) {b : Bucket} (hp : PosInv b) (hkeys : ∀ x ∈ b.log, K x.2.key)
    (hread : ∀ k p r, lastOf k b.log = some (p, r) → r.ver > 0 → b.readAt p = some r) :
    LastRec hash K (Store.step hash cfg b (.reopen false)).1 := by
  obtain ⟨q, ht⟩ := reopen_quiet hash cfg b hp false
  simp only [Bool.false_eq_true, if_false] at ht
  refine ⟨fun x hx => hkeys x (q.log ▸ hx), fun k hk => ?_⟩
  rw [q.log, ht, replay_get hash K hInj b.log hkeys k hk]
  cases hlast : lastOf k b.log with
  | none => exact Or.inr ⟨rfl, Or.inl rfl⟩
  | some x =>
    obtain ⟨p, r0⟩ := x
    by_cases hv : r0.ver > 0
    · exact Or.inl ⟨_, r0, itemOfLast_live hv, rfl, (q.readAt p).trans (hread k p r0 hlast hv), rfl⟩
    · exact Or.inr ⟨itemOfLast_dead hv, Or.inr ⟨p, r0, rfl, hv⟩⟩

variable {hash K} in
theorem LastRec.reopen (cfg : Store.Cfg) (hInj : InjOn hash K) {b : Bucket} (hp : PosInv b) (lr : LastRec hash K b) :
    ∀ keep, LastRec hash K (Store.step hash cfg b (.reopen keep)).1
  | false => lr_rebuilt hash K cfg hInj hp lr.keys lr.read_last
  | true => have ⟨q, ht⟩ := reopen_quiet hash cfg b hp true; lr.quiet q ht

/-- `hcv`: under `check_vhash` a set of the stored value with an explicit revision changes the version in the tree and
    writes no record (`CasPlan.retree`); after it `it.ver = r.ver` is false, and a rebuild brings the old version back -/
theorem step_lr (cfg : Store.Cfg) (hcv : cfg.checkVHash = false) (hInj : InjOn hash K) {b : Bucket} (hp : PosInv b)
    (lr : LastRec hash K b) (R : Nat) (op : Op) (hop : OpOK2 K R op) :
    LastRec hash K (Store.step hash cfg b op).1 := by
  rcases step_eff hash cfg b hp op with ⟨t, ht, e⟩ | ⟨r, hr, e⟩ | ⟨q, ht | ⟨rfl, _⟩⟩
  · rw [e, ht hcv]; exact lr
  · rw [e]; exact lr.put cfg hInj hp r (hr.ok hop).1 (hr.ok hop).2
  · exact lr.quiet q ht
  · exact lr.reopen cfg hInj hp false

end LastRec

section Reopen
variable (hash : Key → Nat) (K : Key → Prop)

theorem reopen_keep (cfg : Store.Cfg) {n : Nat} {b : Bucket} {m : KV} (inv : Inv hash K n b m) :
    Inv hash K n (Store.step hash cfg b (.reopen true)).1 m :=
  have ⟨q, ht⟩ := reopen_quiet hash cfg b inv.pos true
  inv.quiet q ht

theorem reopen_rebuild (cfg : Store.Cfg) (hInj : InjOn hash K) {n : Nat} {b : Bucket} {m : KV}
    (inv : Inv hash K n b m) (lr : LastRec hash K b) (hnd : AMap.NodupKeys m) :
    Inv hash K n (Store.step hash cfg b (.reopen false)).1 (Spec.dropTombstones m) := by
  obtain ⟨q, ht⟩ := reopen_quiet hash cfg b inv.pos false
  simp only [Bool.false_eq_true, if_false] at ht
  have hget : ∀ k, K k → AMap.get (Store.step hash cfg b (.reopen false)).1.tree (hash k) = itemOfLast (lastOf k b.log) := by
    intro k hk; rw [ht]; exact replay_get hash K hInj b.log lr.keys k hk
  have hdrop : ∀ k, AMap.get (Spec.dropTombstones m) k = (AMap.get m k).filter (fun e => decide (e.ver > 0)) :=
    fun k => AMap.get_filter (fun (e : Entry) => decide (e.ver > 0)) hnd k
  refine ⟨q.pos, fun k hk => ?_⟩
  -- the new slot of `k` is the live part of the last record of `k` (`hget`), and by `LastRec` that record is the one
  -- the old slot pointed at, with the slot's version: a live slot comes back as it was, a tombstone slot goes
  rcases (inv.agree k hk).hit with ⟨a1, a2⟩ | ⟨it, e, r, h⟩
  · refine Or.inl ⟨?_, by rw [hdrop, a2]; rfl⟩
    rw [hget k hk]
    rcases lr.last k hk with ⟨it, r0, l1, _⟩ | ⟨_, l2 | ⟨p, r0, l2, hneg⟩⟩
    · rw [a1] at l1; cases l1
    · rw [l2]; rfl
    · rw [l2]; exact itemOfLast_dead hneg
  · rcases lr.last k hk with ⟨it', r0, l1, l2, l3, l4⟩ | ⟨l1, _⟩
    · rw [h.tree] at l1; cases l1
      rw [h.read] at l3; cases l3
      by_cases hv : it.ver > 0
      · have hrv : r.ver > 0 := l4 ▸ hv
        exact Hit.agree (it := { pos := it.pos, ver := r.ver, vhash := vhashOf r.body }) { h with
          tree := by rw [hget k hk, l2]; exact itemOfLast_live hrv
          ref := by rw [hdrop, h.ref]; simp [Option.filter, h.ver, hv]
          read := (q.readAt _).trans h.read
          ver := h.ver.trans l4
          vhash := by simp [hrv]
          bound := l4 ▸ h.bound }
      · have hrv : ¬ r.ver > 0 := l4 ▸ hv
        exact Or.inl ⟨by rw [hget k hk, l2]; exact itemOfLast_dead hrv, by rw [hdrop, h.ref]; simp [Option.filter, h.ver, hv]⟩
    · rw [h.tree] at l1; cases l1

/-- the reference of C02: a restart that rebuilds the tree drops the tombstones (a deleted key comes back as absent) -/
def specStep (c : Spec.Cfg) (m : KV) (op : Op) : KV × Option Reply :=
  match op with
  | .reopen false => (Spec.dropTombstones m, none)
  | .reopen true => (m, none)
  | op => match Store.cmdOf op with
    | some cmd => ((Spec.step c m cmd).1, some (Spec.step c m cmd).2)
    | none => (m, none)

def specRun (c : Spec.Cfg) : KV → List Op → KV × List Reply
  | m, [] => (m, [])
  | m, op :: ops =>
    let (m', r) := specStep c m op
    let (m'', rs) := specRun c m' ops
    (m'', match r with | some r => r :: rs | none => rs)

theorem step_refines_restart (cfg : Store.Cfg) (hcv : cfg.checkVHash = false) (hInj : InjOn hash K) (R : Nat) {n : Nat}
    {b : Bucket} {m : KV} (inv : Inv hash K n b m) (lr : LastRec hash K b) (hnd : AMap.NodupKeys m) (hR : R ≤ n)
    (hn : n + 1 < 2147483647) (op : Op) (hop : OpOK2 K R op) :
    (specStep { checkVHash := cfg.checkVHash } m op).2 = (Store.cmdOf op).map (fun _ => (Store.step hash cfg b op).2.1)
    ∧ Inv hash K (n + 1) (Store.step hash cfg b op).1 (specStep { checkVHash := cfg.checkVHash } m op).1
    ∧ LastRec hash K (Store.step hash cfg b op).1
    ∧ AMap.NodupKeys (specStep { checkVHash := cfg.checkVHash } m op).1 := by
  have lr' := step_lr hash K cfg hcv hInj inv.pos lr R op hop
  by_cases hro : ∃ keep, op = Op.reopen keep
  · obtain ⟨keep, rfl⟩ := hro
    cases keep with
    | true => exact ⟨rfl, inv_mono hash K (Nat.le_succ n) (reopen_keep hash K cfg inv), lr', hnd⟩
    | false =>
      exact ⟨rfl, inv_mono hash K (Nat.le_succ n) (reopen_rebuild hash K cfg hInj inv lr hnd), lr', AMap.nodup_filter _ hnd⟩
  · have hnr : ∀ keep, op ≠ .reopen keep := fun keep e => hro ⟨keep, e⟩
    have hop1 : OpOK K R op := by
      cases op <;> first | exact hop | exact absurd rfl (hnr _)
    have hs := step_refines hash K cfg hInj R inv hR hn op hop1
    have hspec : specStep { checkVHash := cfg.checkVHash } m op =
        (match Store.cmdOf op with
         | some cmd => ((Spec.step { checkVHash := cfg.checkVHash } m cmd).1, some (Spec.step { checkVHash := cfg.checkVHash } m cmd).2)
         | none => (m, none)) := by
      cases op <;> first | rfl | exact absurd rfl (hnr _)
    rw [hspec]
    cases hc : Store.cmdOf op with
    | none => rw [hc] at hs; exact ⟨rfl, hs, lr', hnd⟩
    | some cmd => rw [hc] at hs; exact ⟨congrArg some hs.1.symm, hs.2, lr', spec_step_nodup _ m cmd hnd⟩

theorem run_refines_restart (cfg : Store.Cfg) (hcv : cfg.checkVHash = false) (hInj : InjOn hash K) (R : Nat) (ops : List Op) :
    ∀ (n : Nat) (b : Bucket) (m : KV), Inv hash K n b m → LastRec hash K b → AMap.NodupKeys m → R ≤ n →
      n + ops.length < 2147483647 → (∀ op ∈ ops, OpOK2 K R op) →
      (Store.run hash cfg b ops).2 = (specRun { checkVHash := cfg.checkVHash } m ops).2
      ∧ Inv hash K (n + ops.length) (Store.run hash cfg b ops).1 (specRun { checkVHash := cfg.checkVHash } m ops).1
      ∧ LastRec hash K (Store.run hash cfg b ops).1 := by
  induction ops with
  | nil => intro n b m inv lr _ _ _ _; exact ⟨rfl, inv, lr⟩
  | cons op ops ih =>
    intro n b m inv lr hnd hR hn hops
    rw [List.length_cons] at hn ⊢
    obtain ⟨hr, inv', lr', hnd'⟩ := step_refines_restart hash K cfg hcv hInj R inv lr hnd hR (by omega) op (hops op (by simp))
    have := ih (n + 1) _ _ inv' lr' hnd' (by omega) (by omega) (fun o ho => hops o (by simp [ho]))
    simp only [Store.run, specRun]
    rw [show n + (ops.length + 1) = n + 1 + ops.length by omega, hr, this.1]
    exact ⟨by cases Store.cmdOf op <;> rfl, this.2⟩

end Reopen
end StoreLemmas
