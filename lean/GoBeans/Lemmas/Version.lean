/-
  Version arithmetic: the regenerated `Gen.checkAndUpdateVerison` (Int32, wrap-around) equals the
  documented rule `Spec.nextVersion` (Int) as long as versions stay inside int32; how far the rule moves a version.
-/
import GoBeans.Model.Store
namespace StoreLemmas
open Store

theorem gen_abs (a : Int32) (h : -2147483648 < a.toInt) : (Gen.abs a).toInt = a.toInt.natAbs := by
  unfold Gen.abs
  simp only [Id.run, pure]
  have hlt := a.toInt_lt
  by_cases hn : a < 0
  · have : a.toInt < 0 := by rw [Int32.lt_iff_toInt_lt] at hn; simpa using hn
    simp [hn, Int32.toInt_neg]
    rw [Int.bmod_eq_of_le (by omega) (by omega)]; omega
  · have : ¬ a.toInt < 0 := by rw [Int32.lt_iff_toInt_lt] at hn; simpa using hn
    simp [hn]; omega

/-- the bounds are not symmetric: `|oldv| + 1` has to fit into an int32, and `rev` must not be the least int32, whose
    `Gen.abs` is itself (`gen_abs`) -/
theorem nextVer_eq (oldv rev : Int) (ho : oldv.natAbs < 2147483647) (hr1 : -2147483648 < rev) (hr2 : rev < 2147483648) :
    nextVer oldv rev = Spec.nextVersion oldv rev := by
  unfold nextVer Spec.nextVersion Gen.checkAndUpdateVerison
  have ha : (Int32.ofInt oldv).toInt = oldv := Int32.toInt_ofInt_of_le (by omega) (by omega)
  have hb : (Int32.ofInt rev).toInt = rev := Int32.toInt_ofInt_of_le (by omega) (by omega)
  generalize Int32.ofInt oldv = a at ha
  generalize Int32.ofInt rev = b at hb
  subst ha; subst hb
  have habs : (Gen.abs a).toInt = a.toInt.natAbs := gen_abs a (by omega)
  have hbabs : (Gen.abs b).toInt = b.toInt.natAbs := gen_abs b (by omega)
  simp only [Id.run, pure]
  by_cases h0 : b = 0
  · subst h0
    simp
    by_cases hge : a ≥ 0
    · have : 0 ≤ a.toInt := by rw [ge_iff_le, Int32.le_iff_toInt_le] at hge; simpa using hge
      simp [hge, Int32.toInt_add]
      rw [Int.bmod_eq_of_le (by omega) (by omega)]; omega
    · have : a.toInt < 0 := by rw [ge_iff_le, Int32.le_iff_toInt_le] at hge; simp at hge; omega
      simp [hge, Int32.toInt_add, Int32.toInt_neg]
      rw [Int.bmod_eq_of_le (by omega) (by omega)]; omega
  · have hb0 : b.toInt ≠ 0 := fun h => h0 (Int32.toInt_inj.mp (by simpa using h))
    have hbne : (b == 0) = false := by simpa using h0
    by_cases hneg : b < 0
    · have hbl : b.toInt < 0 := by rw [Int32.lt_iff_toInt_lt] at hneg; simpa using hneg
      simp [h0, hneg, hb0, hbl, Int32.toInt_sub, Int32.toInt_neg, habs]
      rw [Int.bmod_eq_of_le (by omega) (by omega)]
    · have hbl : ¬ b.toInt < 0 := by rw [Int32.lt_iff_toInt_lt] at hneg; simpa using hneg
      by_cases hle : Gen.abs b ≤ Gen.abs a
      · have hle' : b.toInt.natAbs ≤ a.toInt.natAbs := by
          rw [Int32.le_iff_toInt_le, habs, hbabs] at hle; omega
        simp [h0, hneg, hb0, hbl, hle, hle']
      · have hle' : ¬ b.toInt.natAbs ≤ a.toInt.natAbs := by
          rw [Int32.le_iff_toInt_le, habs, hbabs] at hle; omega
        simp [h0, hneg, hb0, hbl, hle, hle']

theorem nextVersion_natAbs (oldv rev : Int) :
    (Spec.nextVersion oldv rev).1.natAbs ≤ oldv.natAbs + 1 ∨ (Spec.nextVersion oldv rev).1 = rev := by
  unfold Spec.nextVersion
  split
  · left; simp; omega
  · split
    · left; simp; omega
    · split
      · left; simp
      · right; rfl

theorem nextVersion_pos (oldv rev : Int) (h : 0 ≤ rev) (hok : (Spec.nextVersion oldv rev).2 = true) :
    0 < (Spec.nextVersion oldv rev).1 := by
  unfold Spec.nextVersion at hok ⊢
  by_cases h0 : rev = 0
  · simp [h0]
  · have : ¬ rev < 0 := by omega
    by_cases hle : rev.natAbs ≤ oldv.natAbs
    · simp [h0, this, hle] at hok
    · simp [h0, this, hle]; omega

theorem nextVersion_ne_zero (oldv rev : Int) (h : (Spec.nextVersion oldv rev).2 = true) : (Spec.nextVersion oldv rev).1 ≠ 0 := by
  by_cases hr : 0 ≤ rev
  · exact Int.ne_of_gt (nextVersion_pos oldv rev hr h)
  · rw [Spec.nextVersion, if_neg (by omega), if_pos (by omega)]; simp only; omega

theorem nextVer_ne_zero (oldv rev : Int) (ho : oldv.natAbs < 2147483647) (hr1 : -2147483648 < rev) (hr2 : rev < 2147483648)
    (hok : (nextVer oldv rev).2 = true) : (nextVer oldv rev).1 ≠ 0 := by
  rw [nextVer_eq oldv rev ho hr1 hr2] at hok ⊢
  exact nextVersion_ne_zero oldv rev hok

theorem nextVersion_zero (v : Int) : Spec.nextVersion v 0 = ((v.natAbs : Int) + 1, true) := by
  unfold Spec.nextVersion; simp

theorem nextVersion_neg1 (v : Int) : Spec.nextVersion v (-1) = (-(v.natAbs : Int) - 1, true) := by
  unfold Spec.nextVersion; simp
end StoreLemmas
