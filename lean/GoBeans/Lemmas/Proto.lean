/-
  The protocol front end on arbitrary input (C11, C12).  `Quiet`: between commands the ledger is all tokens free plus
  what the write buffer owns.  What `readReq` leaves in the ledger (`ReadPost`) is what `process` gives back or hands to
  the write buffer (`StepPost`), as sums in the ledger algebra of Lemmas/Ledger.lean.  Hence `serveOnce` and `serve` keep
  `Quiet`, and `flush` takes a quiet ledger to `zero`.  For C11: what a `get` replies, which commands `process` answers
  and which close the connection.
-/
import GoBeans.Lemmas.Ledger

namespace Proto

def zero (cfg : Cfg) : Ledger := { tokens := cfg.maxReq }

/-- what ownership of a value buffer by the write buffer adds to the ledger -/
def own (l : Ledger) (b : Buf) : Ledger :=
  (if b.inC then { l with allocC := l.allocC + 1, allocS := l.allocS + b.cap } else l).flushAdd b.cap

def idle (cfg : Cfg) (pend : List Buf) : Ledger := pend.foldl own (zero cfg)

def Quiet (cfg : Cfg) (st : St) : Prop := st.led = idle cfg st.pend

theorem zero_eq (cfg : Cfg) : zero cfg = LedgerConc.zero cfg := rfl

end Proto

namespace LedgerConc
open Proto (Ledger Buf Cfg)

theorem own_eq (l : Ledger) (b : Buf) : Proto.own l b = l + ownVec b := by
  rw [Proto.own, countC_eq, flushAdd_eq, ownVec_split b, vadd_assoc]

theorem idle_eq (cfg : Cfg) (pend : List Buf) : Proto.idle cfg pend = zero cfg + ownSum pend := by
  rw [Proto.idle, Proto.zero_eq]; exact foldl_vadd own_eq pend (zero cfg)

end LedgerConc

namespace Proto
open Ledger
open LedgerConc hiding zero

theorem getAdd_getSub (l : Ledger) (n : Nat) : (l.getAdd n).getSub n = l := by
  rw [getSub_eq, getAdd_eq, vadd_neg_cancel]

theorem release_acquire_comm (l : Ledger) (b b' : Buf) : releaseRead (acquire l b) b' = acquire (releaseRead l b') b := by
  simp only [releaseRead_eq, acquire_eq]; ac_rfl

theorem foldl_release_acquire (bs : List Buf) (l : Ledger) : bs.foldl releaseRead (bs.foldl acquire l) = l := by
  rw [foldl_vadd releaseRead_eq, foldl_vadd acquire_eq, vsum_map_neg, vadd_neg_cancel]

theorem alloc_count (cfg : Cfg) (l : Ledger) (n : Nat) :
    (l.alloc cfg n).1.setAdd (l.alloc cfg n).2.cap = l + setVec (l.alloc cfg n).2 := by
  rw [alloc_buf, alloc_led, setAdd_eq, setVec_split (bufOf cfg n), vadd_assoc]

theorem unset_eq (l : Ledger) (b : Buf) : (l.setSub b.cap).free b = l + -setVec b := by
  rw [free_eq, setSub_eq, setVec_split b, vneg_add]; ac_rfl

theorem setToFlush_eq (l : Ledger) (b : Buf) : (l.flushAdd b.cap).setSub b.cap = l + -setVec b + ownSum [b] := by
  rw [ownSum_cons, ownSum_nil, vadd_nil]; unfold flushAdd setSub; vec

theorem alloc_undo (cfg : Cfg) (l : Ledger) (n : Nat) :
    (((l.alloc cfg n).1.setAdd (l.alloc cfg n).2.cap).setSub (l.alloc cfg n).2.cap).free (l.alloc cfg n).2 = l := by
  rw [unset_eq, alloc_count, vadd_neg_cancel]

/-- `SetData.AddCount(1)` of an incr: the count of a body on the Go heap -/
theorem count_eq (l : Ledger) : ({ l with setC := l.setC + 1 } : Ledger).tokGet = l.tokGet + setVec (heap 0) := by unfold tokGet; vec

theorem uncount_eq (l : Ledger) : ({ l with setC := l.setC - 1 } : Ledger) = l + -setVec (heap 0) := by vec

/-- what `Request.Read` hands to `Process` besides the token: the counted body of a store command, the count of an incr -/
def handed (item : Option Buf) : Kind → Ledger
  | .store | .append => setVec (item.getD (heap 0))
  | .incr | .decr => setVec (heap 0)
  | _ => nil

/-- the commands that take no `noreply` word -/
def Kind.loud : Kind → Bool
  | .get | .stats | .version | .okOnly | .quit => true
  | _ => false

/-- the ledger after `readReq`: a token taken iff `working`, plus, for a command read completely, what it hands to
    `Process`; such a command has a kind, and no `noreply` flag if its kind takes none (for `process_resp`) -/
def ReadPost (led : Ledger) (ro : ReadOut) : Prop :=
  match ro.res with
  | .ok => ro.led = (if ro.working then led.tokGet else led) + handed ro.item ro.kind
      ∧ ro.kind ≠ .none ∧ (ro.kind.loud = true → ro.req.noreply = false)
  | _ => ro.led = (if ro.working then led.tokGet else led)

theorem ReadPost.of_ok {led : Ledger} {ro : ReadOut} (hp : ReadPost led ro) (h : ro.res = .ok) :
    ro.led = (if ro.working then led.tokGet else led) + handed ro.item ro.kind
      ∧ ro.kind ≠ .none ∧ (ro.kind.loud = true → ro.req.noreply = false) := by
  unfold ReadPost at hp; rw [h] at hp; exact hp

theorem ReadPost.of_ne_ok {led : Ledger} {ro : ReadOut} (hp : ReadPost led ro) (h : ro.res ≠ .ok) :
    ro.led = (if ro.working then led.tokGet else led) := by
  unfold ReadPost at hp
  cases hr : ro.res with
  | ok => exact absurd hr h
  | _ => rw [hr] at hp; exact hp

theorem failRead_post (n : Nat) (led : Ledger) (e : RErr) (r : Req) : ReadPost led (failRead n led e r) := rfl

-- `iteInduction` in the lemmas about the reader, not `split`: on its big terms `split` on an `if` is slow
theorem ReadPost.orFail {led : Ledger} {c : Prop} [Decidable c] {n : Nat} {e : RErr} {r : Req} {ro : ReadOut}
    (h : ¬c → ReadPost led ro) : ReadPost led (if c then failRead n led e r else ro) :=
  iteInduction (fun _ => failRead_post ..) h

theorem readStore_post (cfg : Cfg) (led : Ledger) (inp : Bytes) (n : Nat) (cmd : Bytes) (args : List Bytes) (np : Nat) :
    ReadPost led (readStore cfg led inp n cmd args np) := by
  unfold readStore
  refine .orFail fun _ => ?_
  split
  · refine .orFail fun _ => .orFail fun _ => .orFail fun _ => ?_
    -- token taken, buffer allocated and counted: given back when the body is short or badly terminated
    refine iteInduction (fun _ => alloc_undo ..) fun _ => iteInduction (fun _ => alloc_undo ..) fun _ => ?_
    cases (cmd == ascii "append" || cmd == ascii "prepend") <;> exact ⟨alloc_count .., nofun, nofun⟩
  · exact failRead_post ..

theorem readCmd_post (cfg : Cfg) (led : Ledger) (inp : Bytes) (n : Nat) (cmd : Bytes) (args : List Bytes) :
    ReadPost led (readCmd cfg led inp n cmd args) := by
  have same (l : Ledger) : l = l + nil := (vadd_nil l).symm
  unfold readCmd
  refine iteInduction (fun _ => .orFail fun _ => ⟨same _, nofun, fun _ => rfl⟩) fun _ => iteInduction (fun _ => readStore_post ..) fun _ => ?_
  refine iteInduction (fun _ => .orFail fun _ => ⟨same _, nofun, nofun⟩) fun _ => iteInduction (fun _ => .orFail fun _ => ?_) fun _ => ?_
  · cases (cmd == ascii "incr") <;> exact ⟨count_eq led, nofun, nofun⟩
  refine iteInduction (fun _ => ⟨same _, nofun, fun _ => rfl⟩) fun _ => iteInduction (fun _ => ?_) fun _ => failRead_post ..
  cases (cmd == ascii "quit") <;> cases (cmd == ascii "version") <;> exact ⟨same _, nofun, fun _ => rfl⟩

theorem readReq_post (cfg : Cfg) (led : Ledger) (inp : Bytes) : ReadPost led (readReq cfg led inp) := by
  unfold readReq
  split
  · exact rfl
  refine .orFail fun _ => ?_
  split
  · exact failRead_post ..
  · exact readCmd_post ..

abbrev PRes.st (p : PRes) : St := p.1
abbrev PRes.resp (p : PRes) : Option Resp := p.2.1
abbrev PRes.bufs (p : PRes) : List Buf := p.2.2.1
abbrev PRes.quit (p : PRes) : Bool := p.2.2.2

/-- `CleanBuffer` run on what `process` returns -/
def cleaned (p : PRes) : Ledger := p.bufs.foldl releaseRead p.st.led

/-- `l` is the ledger without what `process` was handed, `p0` the write buffer's list before: `process` gives that back,
    or hands `bs` to the write buffer and, once `CleanBuffer` has run, keeps exactly their ownership -/
def StepPost (p0 : List Buf) (l : Ledger) (bs : List Buf) (p : PRes) : Prop :=
  (p.st.pend = p0 ∧ cleaned p = l) ∨ (p.st.pend = p0 ++ bs ∧ cleaned p = l + ownSum bs)

/-- the items a `get` of `ks` replies with; the one-key case is `processGet`'s own path for one key (`lookedUp_eq`) -/
def lookedUp (cfg : Cfg) (st : St) : List Bytes → List RItem
  | [k] => match (clientGet cfg st k).1 with
    | .item it => [it]
    | _ => []
  | ks => (multiGet cfg st ks []).1

theorem lookedUp_eq (cfg : Cfg) (st : St) (ks : List Bytes) : lookedUp cfg st ks = (multiGet cfg st ks []).1 := by
  unfold lookedUp
  split
  · rename_i k
    rcases hcg : clientGet cfg st k with ⟨gr, buf⟩
    cases gr <;> simp [multiGet, hcg]
  · rfl

theorem processGet_spec (cfg : Cfg) (st : St) (r : Req) :
    ∃ (cnt : Counters) (bufs : List Buf) (x : Resp),
      processGet cfg st r = ({ st with led := bufs.foldl acquire st.led, cnt := cnt }, some x, bufs, false)
      ∧ if ∀ k ∈ r.keys, 0 < k.length ∧ k.length ≤ cfg.maxKeyLen then
          x = .value (r.cmd == ascii "gets") (lookedUp cfg st r.keys)
          ∨ ∃ k msg, r.keys = [k] ∧ (clientGet cfg st k).1 = .err msg ∧ x = .line (ascii "SERVER_ERROR") msg
        else x = .line (ascii "CLIENT_ERROR") (ascii "key length error") := by
  obtain ⟨c, ks, _, _, _, _, _⟩ := r
  unfold processGet
  dsimp only
  split <;> rename_i hany
  · refine ⟨st.cnt, [], _, rfl, (if_neg fun hlen => ?_).mpr rfl⟩
    obtain ⟨k, hk, hbad⟩ := List.any_eq_true.mp hany
    simp [hlen k hk] at hbad
  have hlen : ∀ k ∈ ks, 0 < k.length ∧ k.length ≤ cfg.maxKeyLen := by simpa [List.length_pos_iff] using hany
  split
  · rename_i k
    rcases hcg : clientGet cfg st k with ⟨gr, buf⟩
    cases gr
    · exact ⟨_, [], _, rfl, (if_pos hlen).mpr (.inr ⟨k, _, rfl, by rw [hcg], rfl⟩)⟩
    · exact ⟨_, [], _, rfl, (if_pos hlen).mpr (.inl (by simp [lookedUp, hcg]))⟩
    · exact ⟨_, buf.toList, _, rfl, (if_pos hlen).mpr (.inl (by simp [lookedUp, hcg]))⟩
  · exact ⟨_, _, _, rfl, (if_pos hlen).mpr (.inl (by rw [lookedUp_eq]))⟩

theorem processGet_one_item (cfg : Cfg) (st : St) (r : Req) (k : Bytes) (it : RItem) (hk : r.keys = [k])
    (hlen : 0 < k.length ∧ k.length ≤ cfg.maxKeyLen) (hcg : (clientGet cfg st k).1 = .item it) :
    (processGet cfg st r).resp = some (.value (r.cmd == ascii "gets") [it]) := by
  obtain ⟨_, _, x, e, hx⟩ := processGet_spec cfg st r
  rw [hk] at hx
  rcases (if_pos (by simpa using hlen)).mp hx with h | ⟨k', msg, hk1, hk2, -⟩
  · simp [e, h, lookedUp, hcg]
  · cases hk1; rw [hcg] at hk2; cases hk2

theorem processGet_moves (cfg : Cfg) (st : St) (r : Req) : StepPost st.pend st.led [] (processGet cfg st r) := by
  obtain ⟨_, bufs, _, e, -⟩ := processGet_spec cfg st r
  rw [e]; exact .inl ⟨rfl, foldl_release_acquire bufs st.led⟩

theorem processStore_reply (cfg : Cfg) (st : St) (r : Req) (b : Buf) :
    ∃ st' x, processStore cfg st r b = replyIf r.noreply st' x
      ∧ StepPost st.pend (st.led + -setVec b) [b] (replyIf r.noreply st' x)
      ∧ (validKeyString (r.keys.headD []) = true → 0 ≤ r.exptime → ((r.flag % 4294967296).toNat / 65536) % 2 ≠ 1 →
          st'.b = (Store.checkAndSet hashOf cfg.store st.b (r.keys.headD []) r.body (r.flag % 4294967296).toNat
            (Int32.toInt (Int32.ofInt r.exptime)) (some 0) (plainSize (r.keys.headD []).length r.body.length) 0).1) := by
  unfold processStore
  dsimp only
  split
  · rename_i hc
    refine ⟨_, _, rfl, .inl ⟨rfl, unset_eq ..⟩, fun hv he hf => ?_⟩
    simp only [hv, Bool.not_true, Bool.false_or, Bool.or_eq_true, decide_eq_true_eq, beq_iff_eq] at hc
    omega
  split <;> rename_i h
  · exact ⟨_, _, rfl, .inr ⟨rfl, setToFlush_eq ..⟩, fun _ _ _ => by rw [h]⟩
  · exact ⟨_, _, rfl, .inl ⟨rfl, unset_eq ..⟩, fun _ _ _ => by rw [h]⟩
  · exact ⟨_, _, rfl, .inl ⟨rfl, unset_eq ..⟩, fun _ _ _ => by rw [h]⟩

theorem processStore_moves (cfg : Cfg) (st : St) (r : Req) (b : Buf) :
    StepPost st.pend (st.led + -setVec b) [b] (processStore cfg st r b) := by
  obtain ⟨_, _, e, h, -⟩ := processStore_reply cfg st r b
  rwa [e]

theorem processAppend_moves (st : St) (r : Req) (b : Buf) : StepPost st.pend (st.led + -setVec b) [] (processAppend st r b) :=
  iteInduction (fun _ => .inl ⟨rfl, unset_eq ..⟩) fun _ => .inl ⟨rfl, unset_eq ..⟩

theorem processIncr_reply (cfg : Cfg) (st : St) (r : Req) :
    ∃ st' x, processIncr cfg st r = replyIf r.noreply st' x
      ∧ StepPost st.pend (st.led + -setVec (heap 0)) [heap 0] (replyIf r.noreply st' x) := by
  unfold processIncr
  dsimp only
  split
  · exact ⟨_, _, rfl, .inl ⟨rfl, uncount_eq _⟩⟩
  split
  · exact ⟨_, _, rfl, .inl ⟨rfl, uncount_eq _⟩⟩
  split
  · exact ⟨_, _, rfl, .inr ⟨rfl, setToFlush_eq _ (heap 0)⟩⟩
  · exact ⟨_, _, rfl, .inl ⟨rfl, uncount_eq _⟩⟩
  · exact ⟨_, _, rfl, .inl ⟨rfl, uncount_eq _⟩⟩

theorem processIncr_moves (cfg : Cfg) (st : St) (r : Req) :
    StepPost st.pend (st.led + -setVec (heap 0)) [heap 0] (processIncr cfg st r) := by
  obtain ⟨_, _, e, h⟩ := processIncr_reply cfg st r
  rwa [e]

theorem processDelete_reply (cfg : Cfg) (st : St) (r : Req) :
    ∃ st' x, processDelete cfg st r = replyIf r.noreply st' x ∧ StepPost st.pend st.led [] (replyIf r.noreply st' x) := by
  unfold processDelete
  dsimp only
  split
  · exact ⟨_, _, rfl, .inl ⟨rfl, rfl⟩⟩
  split <;> exact ⟨_, _, rfl, .inl ⟨rfl, rfl⟩⟩

theorem processDelete_moves (cfg : Cfg) (st : St) (r : Req) : StepPost st.pend st.led [] (processDelete cfg st r) := by
  obtain ⟨_, _, e, h⟩ := processDelete_reply cfg st r
  rwa [e]

theorem processStats_eq (st : St) (r : Req) : ∃ msg, processStats st r = (st, some (.stat msg), [], false) :=
  iteInduction (motive := fun p : PRes => ∃ msg, p = (st, some (.stat msg), [], false)) (fun _ => ⟨_, rfl⟩) fun _ => ⟨_, rfl⟩

theorem processStats_moves (st : St) (r : Req) : StepPost st.pend st.led [] (processStats st r) := by
  obtain ⟨_, e⟩ := processStats_eq st r
  rw [e]; exact .inl ⟨rfl, rfl⟩

/-- the buffer a command may hand to the write buffer -/
def mayPush (item : Option Buf) : Kind → List Buf
  | .store => [item.getD (heap 0)]
  | .incr => [heap 0]
  | _ => []

theorem process_moves (cfg : Cfg) (st : St) (r : Req) (item : Option Buf) (kind : Kind) :
    StepPost st.pend (st.led + -handed item kind) (mayPush item kind) (process cfg st r item kind) := by
  have keep {p : PRes} (h : StepPost st.pend st.led [] p) : StepPost st.pend (st.led + -nil) [] p := by
    rwa [show st.led + -nil = st.led from by vec]
  cases kind with
  | get => exact keep (processGet_moves cfg st r)
  | store => exact processStore_moves cfg st r _
  | append => exact processAppend_moves st r _
  | delete => exact keep (processDelete_moves cfg st r)
  | incr => exact processIncr_moves cfg st r
  | decr => exact .inl ⟨rfl, uncount_eq _⟩
  | stats => exact keep (processStats_moves st r)
  | version | okOnly | quit | none => exact keep (.inl ⟨rfl, rfl⟩)

theorem serveOnce_ok {cfg : Cfg} {st : St} {inp : Bytes} (h : (readReq cfg st.led inp).res = .ok) :
    serveOnce cfg st inp =
      let ro := readReq cfg st.led inp
      let p := process cfg { st with led := ro.led } ro.req ro.item ro.kind
      { st := { p.st with led := if ro.working then (cleaned p).tokPut else cleaned p }, n := ro.n, resp := p.resp,
        closing := p.quit } := by
  unfold serveOnce; simp only [h]; rfl

theorem serveOnce_net {cfg : Cfg} {st : St} {inp : Bytes} (h : (readReq cfg st.led inp).res = .net) :
    serveOnce cfg st inp =
      let ro := readReq cfg st.led inp
      { st := { st with led := if ro.working then ro.led.tokPut else ro.led }, n := ro.n, resp := none, closing := true } := by
  unfold serveOnce; simp only [h]

def errReply (cmd : Bytes) : RErr → Resp
  | .nonMemcache => if cmd == ascii "optimize_stat" then .line (ascii "none") [] else .line (ascii "ERROR") []
  | .invalidCmd => .line (ascii "CLIENT_ERROR") (ascii "invalid cmd")
  | .valueTooLarge => .line (ascii "CLIENT_ERROR") (ascii "value too large")
  | .badChunk => .line (ascii "CLIENT_ERROR") (ascii "bad data chunk")

theorem serveOnce_err {cfg : Cfg} {st : St} {inp : Bytes} {e : RErr} (h : (readReq cfg st.led inp).res = .err e) :
    serveOnce cfg st inp =
      let ro := readReq cfg st.led inp
      { st := { st with led := if ro.working then ro.led.tokPut else ro.led }, n := ro.n,
        resp := some (errReply ro.req.cmd e), closing := false } := by
  unfold serveOnce; cases e <;> simp only [h] <;> rfl

/-- the deferred `RL.Put` undoes the `RL.Get` of `Request.Read`, whatever was added in between (the left side: the ledger
    of `serveOnce_ok` when `readReq` left it as `ReadPost` says) -/
theorem put_back (w : Bool) (l v : Ledger) :
    (if w = true then ((if w = true then l.tokGet else l) + v).tokPut else (if w = true then l.tokGet else l) + v) = l + v := by
  cases w
  · rfl
  · simp only [if_true, tokGet_eq, tokPut_eq]; rw [vadd_right_comm, vadd_assoc l, vadd_comm (-tok), vadd_neg, vadd_nil]

theorem put_back_nil (w : Bool) (l : Ledger) :
    (if w = true then (if w = true then l.tokGet else l).tokPut else (if w = true then l.tokGet else l)) = l := by
  have := put_back w l nil
  rwa [vadd_nil, vadd_nil] at this

theorem serveOnce_refused (cfg : Cfg) (st : St) (inp : Bytes) (h : (readReq cfg st.led inp).res ≠ .ok) :
    (serveOnce cfg st inp).st = st := by
  have hput : (if (readReq cfg st.led inp).working then (readReq cfg st.led inp).led.tokPut else (readReq cfg st.led inp).led)
      = st.led := by
    rw [(readReq_post cfg st.led inp).of_ne_ok h]; exact put_back_nil _ st.led
  cases hr : (readReq cfg st.led inp).res with
  | ok => exact absurd hr h
  | net => rw [serveOnce_net hr]; simp only [hput]
  | err e => rw [serveOnce_err hr]; simp only [hput]

theorem serveOnce_pushes {cfg : Cfg} {st : St} {inp : Bytes} (hok : (readReq cfg st.led inp).res = .ok) :
    ∃ bs, (bs = [] ∨ bs = mayPush (readReq cfg st.led inp).item (readReq cfg st.led inp).kind)
      ∧ (serveOnce cfg st inp).st.pend = st.pend ++ bs ∧ (serveOnce cfg st inp).st.led = st.led + ownSum bs := by
  rw [serveOnce_ok hok]
  obtain ⟨hled, -, -⟩ := (readReq_post cfg st.led inp).of_ok hok
  generalize readReq cfg st.led inp = ro at hled ⊢
  have pm := process_moves cfg { st with led := ro.led } ro.req ro.item ro.kind
  dsimp only at pm ⊢
  generalize process cfg _ ro.req ro.item ro.kind = p at pm ⊢
  -- what `process` was handed is what `readReq` had added besides the token
  rw [hled, vadd_neg_cancel] at pm
  rcases pm with ⟨h1, h2⟩ | ⟨h1, h2⟩
  · exact ⟨[], .inl rfl, h1.trans (List.append_nil _).symm, by rw [h2, ownSum_nil, vadd_nil]; exact put_back_nil ro.working st.led⟩
  · exact ⟨_, .inr rfl, h1, by rw [h2]; exact put_back ro.working st.led _⟩

theorem serveOnce_quiet (cfg : Cfg) (st : St) (inp : Bytes) (h : Quiet cfg st) : Quiet cfg (serveOnce cfg st inp).st := by
  by_cases hok : (readReq cfg st.led inp).res = .ok
  · obtain ⟨bs, -, h1, h2⟩ := serveOnce_pushes hok
    unfold Quiet at *
    rw [h2, h1, h, idle_eq, idle_eq, ownSum_append, vadd_assoc]
  · rwa [serveOnce_refused cfg st inp hok]

theorem serve_quiet (cfg : Cfg) (fuel : Nat) (st : St) (inp : Bytes) (h : Quiet cfg st) : Quiet cfg (serve cfg fuel st inp).1 := by
  induction fuel generalizing st inp with
  | zero => exact h
  | succ n ih =>
    unfold serve
    have hq := serveOnce_quiet cfg st inp h
    simp only []
    split
    · exact hq
    · exact ih _ _ hq

theorem flush_eq (st : St) : (flush st).led = st.led + -ownSum st.pend := by
  have one (l : Ledger) (b : Buf) : (l.flushSub b.cap).free b = l + -ownVec b := by
    rw [free_eq, flushSub_eq, ownVec_split b, vneg_add]; ac_rfl
  rw [flush, foldl_vadd one, vsum_map_neg]; rfl

theorem flush_zero (cfg : Cfg) (st : St) (h : Quiet cfg st) : (flush st).led = zero cfg ∧ (flush st).pend = [] :=
  ⟨by rw [flush_eq, show st.led = _ from h, idle_eq, vadd_neg_cancel, zero_eq], rfl⟩

-- `&& true`: what `kind != .quit` evaluates to in `process_resp`
theorem replyIf_resp (nr : Bool) (st : St) (x : Resp) :
    (replyIf nr st x).resp.isSome = (!nr && true) ∧ (replyIf nr st x).quit = false := by
  cases nr <;> exact ⟨rfl, rfl⟩

/-- `hk`, `hnr`: the kinds and `noreply` flags `readReq` hands on (`ReadPost`) -/
theorem process_resp (cfg : Cfg) (st : St) (r : Req) (item : Option Buf) (kind : Kind) (hk : kind ≠ .none)
    (hnr : kind.loud = true → r.noreply = false) :
    (process cfg st r item kind).resp.isSome = (!r.noreply && kind != .quit)
    ∧ (process cfg st r item kind).quit = (kind == .quit || (kind == .append && r.noreply)) := by
  cases kind <;> unfold process <;> simp only []
  case get => obtain ⟨_, _, _, e, -⟩ := processGet_spec cfg st r; rw [hnr rfl, e]; exact ⟨rfl, rfl⟩
  case store => obtain ⟨_, _, e, -⟩ := processStore_reply cfg st r (item.getD { cap := 0, inC := false }); rw [e]; exact replyIf_resp ..
  case append => unfold processAppend; cases r.noreply <;> exact ⟨rfl, rfl⟩
  case delete => obtain ⟨_, _, e, -⟩ := processDelete_reply cfg st r; rw [e]; exact replyIf_resp ..
  case incr => obtain ⟨_, _, e, -⟩ := processIncr_reply cfg st r; rw [e]; exact replyIf_resp ..
  case decr => exact replyIf_resp ..
  case stats => obtain ⟨_, e⟩ := processStats_eq st r; rw [hnr rfl, e]; exact ⟨rfl, rfl⟩
  case version | okOnly => rw [hnr rfl]; exact ⟨rfl, rfl⟩
  case quit => exact ⟨(Bool.and_false _).symm, rfl⟩
  case none => exact absurd rfl hk

end Proto
