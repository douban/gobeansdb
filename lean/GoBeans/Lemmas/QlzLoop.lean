/-
  QuickLZ (C10) — what the two levels of `Compress` share.
  The model writes `Compress` as the Go source does, with the control-word handling, the start state, the dispatch on the
  level, the literal of the second loop and the end of the function inlined; they are named here (`flushed`, `cinit`,
  `cstep`, `tailLit`, `finish`), each with the equation that finds it in the model.
  The control word under construction after k tokens with flag bits F is `CwShape`; finished it is `W = F + 2^31`, and what
  the decoder has left of it at token k is `W >>> k`.
  `compress_roundtrip` goes backward from the end of `Compress` (`Post`) over the second loop, the control-word handling and
  the first loop, for which a level supplies `Level`: its pass emits a token (`Emits`) that its decoder resolves
  (`Resolves`), so that the finished stream carries the certificate `Enc`.
  `compress_total` goes forward over the same `Level`; `Acc` shows that four bytes of `destination` are always free.
-/
import GoBeans.Lemmas.QlzDec
namespace QlzRT
open Qlz QlzLemmas

/-- the open control word after `k` tokens with flag bits `F`: the flags below the marker bit, the whole still to be
    moved right by one place per token that follows (quicklz.go:141, 187, 240, 260, 278) -/
structure CwShape (cv k F : Nat) : Prop where
  le : k ≤ 31
  lt : F < 2 ^ k
  eq : cv = (2 * F + 1) * 2 ^ (31 - k)

macro "split_k " k:ident : tactic => `(tactic| (rcases $k:ident with _ | _ | _ | _ | _ | _ | _ | _ | _ | _ | _ | _ | _ | _ | _ | _ | _ | _ | _ | _ | _ | _ | _ | _ | _ | _ | _ | _ | _ | _ | _ | _ | $k:ident))

theorem shape_init : CwShape 0x80000000 0 0 := ⟨by omega, by omega, by omega⟩

theorem shape_lit {cv k F : Nat} (h : CwShape cv k F) (hk : k < 31) : CwShape (cv >>> 1) (k + 1) F := by
  obtain ⟨_, h2, rfl⟩ := h
  refine ⟨hk, by rw [Nat.pow_succ]; omega, ?_⟩
  have : 31 - k = (31 - (k + 1)) + 1 := by omega
  rw [shr, Nat.pow_one, this, Nat.pow_succ, ← Nat.mul_assoc, Nat.mul_div_cancel _ (by omega)]

theorem shape_mat {cv k F : Nat} (h : CwShape cv k F) (hk : k < 31) : CwShape ((cv >>> 1) ||| 0x80000000) (k + 1) (F + 2 ^ k) := by
  obtain ⟨_, h2, h3⟩ := shape_lit h hk
  have hF := h.lt
  have e : 2 ^ 31 = 2 ^ (k + 1) * 2 ^ (31 - (k + 1)) := by rw [← Nat.pow_add]; congr 1; omega
  have hlt : cv >>> 1 < 2 ^ 31 := by
    rw [h3, e]
    exact Nat.mul_lt_mul_of_pos_right (by rw [Nat.pow_succ]; omega) (Nat.pow_pos (by omega))
  refine ⟨hk, by rw [Nat.pow_succ]; omega, ?_⟩
  rw [or_hi _ hlt, h3, e, ← Nat.add_mul, Nat.pow_succ]
  congr 1; omega

theorem shape_odd {cv k F : Nat} (h : CwShape cv k F) : (cv &&& 1 = 1 ↔ k = 31) := by
  obtain ⟨h1, _, rfl⟩ := h
  rw [and_1]
  by_cases hk : k = 31
  · subst hk; simp
  · have : 31 - k = (31 - (k + 1)) + 1 := by omega
    rw [this, Nat.pow_succ, ← Nat.mul_assoc]
    omega

theorem normCword_odd (n cv : Nat) (h : cv % 2 = 1) : normCword n cv = cv := by
  cases n with
  | zero => rfl
  | succ n => unfold normCword; rw [and_1, if_neg (by omega)]

theorem normCword_shift : ∀ (j n cv : Nat), cv % 2 = 1 → j ≤ n → normCword n (cv * 2 ^ j) = cv := by
  intro j
  induction j with
  | zero => intro n cv h _; simp only [Nat.pow_zero, Nat.mul_one]; exact normCword_odd _ _ h
  | succ j ih =>
    intro n cv h hn
    obtain ⟨m, rfl⟩ : ∃ m, n = m + 1 := ⟨n - 1, by omega⟩
    unfold normCword
    have e : cv * 2 ^ (j + 1) = (cv * 2 ^ j) * 2 := by rw [Nat.pow_succ, Nat.mul_assoc]
    rw [and_1, if_pos (by rw [e]; omega), shr, e]
    simp only [Nat.pow_one]
    rw [Nat.mul_div_cancel _ (by omega)]
    exact ih m cv h (by omega)

theorem shape_final {cv k F : Nat} (h : CwShape cv k F) : ((normCword 32 cv) >>> 1) ||| 0x80000000 = F + 2 ^ 31 := by
  obtain ⟨h1, h2, rfl⟩ := h
  have hF : F < 2 ^ 31 := Nat.lt_of_lt_of_le h2 (Nat.pow_le_pow_right (by omega) h1)
  rw [normCword_shift _ _ _ (by omega) (by omega), shr, or_hi _ (by omega)]
  omega

theorem shape_flush {cv F : Nat} (h : CwShape cv 31 F) : (cv >>> 1) ||| 0x80000000 = F + 2 ^ 31 := by
  rw [← normCword_odd 32 cv (by rw [← and_1]; exact (shape_odd h).mpr rfl)]
  exact shape_final h

theorem w_bit {W k F bit : Nat} (hb : bit ≤ 1) (hF : F < 2 ^ k) (h : W % 2 ^ (k + 1) = F + bit * 2 ^ k) :
    W % 2 ^ k = F ∧ (W >>> k) &&& 1 = bit := by
  rw [and_1, shr]
  rw [Nat.mod_pow_succ] at h
  have h1 : W % 2 ^ k < 2 ^ k := Nat.mod_lt _ (Nat.pow_pos (by omega))
  rcases Nat.mod_two_eq_zero_or_one (W / 2 ^ k) with e | e <;> rw [e] at h ⊢ <;>
    rcases (by omega : bit = 0 ∨ bit = 1) with rfl | rfl <;> omega

theorem w_ne_one {W k : Nat} (hk : k < 31) (h1 : 2 ^ 31 ≤ W) : W >>> k ≠ 1 := by
  rw [shr]
  have : 2 ≤ W / 2 ^ k := by
    rw [Nat.le_div_iff_mul_le (Nat.pow_pos (by omega)), ← Nat.pow_succ']
    exact Nat.le_trans (Nat.pow_le_pow_right (by omega) (by omega)) h1
  omega

theorem w_eq_one {W : Nat} (h1 : 2 ^ 31 ≤ W) (h2 : W < 2 ^ 32) : W >>> 31 = 1 := by
  rw [shr]; omega

theorem mod_pow_shape {k F : Nat} (hk : k ≤ 31) (hF : F < 2 ^ k) : (F + 2 ^ 31) % 2 ^ k = F := by
  have : 2 ^ 31 = 2 ^ k * 2 ^ (31 - k) := by rw [← Nat.pow_add]; congr 1; omega
  rw [this, Nat.add_mul_mod_self_left, Nat.mod_eq_of_lt hF]

/-- the end of `Compress` after both loops (quicklz.go:280-288) -/
def finish (level : Nat) (s : Buf) (st : CSt) : Option Buf :=
  match fastWrite st.dest st.cwordPtr (((normCword 32 st.cwordVal) >>> 1) ||| 0x80000000) CWORD_LEN with
  | none => none
  | some d =>
    match writeHeader d level true s.size st.dst with
    | none => none
    | some d => some (d.extract 0 st.dst)

/-- the compressor's variables when the first loop is entered (`st0` in `compress`) -/
def cinit (level : Nat) (s : Buf) (fetch : Nat) : CSt :=
  ⟨0, 13, 0x80000000, 9, Array.replicate (s.size + 400) 0, Array.replicate (4096 * (if level = 3 then 16 else 1)) 0,
    Array.replicate 4096 0, Array.replicate 4096 0, fetch, 0⟩

def cstep (level : Nat) (s : Buf) (st : CSt) : Option CSt := if level = 1 then cstep1 s st else cstep3 s st

theorem compress_eq (s : Buf) {level : Nat} (hl : level = 1 ∨ level = 3) (hs : s.size ≠ 0) :
    compress s level =
      match (if (0 : Int) ≤ (s.size : Int) - 11 then fastRead s 0 3 else some 0) with
      | none => none
      | some fetch =>
        match cloop s level (s.size + 1) (cinit level s fetch) with
        | none => none
        | some (.stored out) => some out
        | some (.fin st) =>
          match ctail s (s.size - st.src) st with
          | none => none
          | some st => finish level s st := by
  unfold compress finish
  rw [if_neg (by omega), if_neg hs]
  simp only [DEFAULT_HEADERLEN, CWORD_LEN, cinit]
  rfl

/-- what is known at the top of a pass of either loop: `k` tokens with flag bits `F` in the open control word -/
structure CInv (s : Buf) (st : CSt) (k F : Nat) : Prop where
  shape : CwShape st.cwordVal k F
  ptr : 9 ≤ st.cwordPtr ∧ st.cwordPtr + 4 ≤ st.dst
  dstle : st.dst ≤ st.dest.size
  srcle : st.src ≤ s.size
  dsz : st.dest.size = s.size + 400

/-- how the finished stream `c` relates to an intermediate state of the compressor -/
structure Post (s c : Buf) (st : CSt) (k F : Nat) : Prop where
  word : ∃ W, fastRead c st.cwordPtr 4 = some W ∧ W % 2 ^ k = F ∧ 2 ^ 31 ≤ W ∧ W < 2 ^ 32
  frame : ∀ j, 9 ≤ j → j < st.dst → ¬ (st.cwordPtr ≤ j ∧ j < st.cwordPtr + 4) → c[j]? = st.dest[j]?
  -- the decoder fetches again behind every token of the first loop (up to four bytes); at the end of the input nothing follows
  room : st.dst + min (s.size - st.src) 4 ≤ c.size

theorem cinv_init (level : Nat) (s : Buf) (fetch : Nat) : CInv s (cinit level s fetch) 0 0 :=
  ⟨shape_init, ⟨Nat.le_refl 9, Nat.le_refl 13⟩, by simp [cinit], Nat.zero_le _, Array.size_replicate⟩

/-- `bound` makes the `% 2 ^ 32` of the two size fields vanish (`compress_roundtrip`) -/
structure HdrOK (level : Nat) (s c : Buf) : Prop where
  hlen : headerLen c = some 9
  sizeD : sizeDecompressed c = some (s.size % 2 ^ 32)
  sizeC : sizeCompressed c = some (c.size % 2 ^ 32)
  lvl : levelOf c = some level
  cbit : cbitOf c = some 1
  bound : c.size ≤ s.size + 400

theorem finish_post {s c : Buf} {st : CSt} {level k F : Nat} (hl : level = 1 ∨ level = 3) (hi : CInv s st k F) (hsrc : st.src = s.size)
    (hc : finish level s st = some c) : Post s c st k F ∧ HdrOK level s c := by
  unfold finish at hc
  rw [shape_final hi.shape] at hc
  split at hc
  · cases hc
  · rename_i d1 hw1
    split at hc
    · cases hc
    · rename_i d2 hw2
      cases hc
      replace hw1 : fastWrite st.dest st.cwordPtr (F + 2 ^ 31) 4 = some d1 := hw1
      obtain ⟨hs1, hg1⟩ := fastWrite_spec hw1
      obtain ⟨hs2, _, h0, h1, h5, hg2⟩ := writeHeader_spec hw2
      obtain ⟨hp1, hp2⟩ := hi.ptr
      have hdle := hi.dstle
      have hn : st.dst ≤ d2.size := by rw [hs2, hs1]; exact hdle
      have hsz := extract_size hn
      have hget : ∀ j, j < st.dst → (d2.extract 0 st.dst)[j]? = d2[j]? := fun j hj => extract_get hn hj
      have hF : F < 2 ^ 31 := Nat.lt_of_lt_of_le hi.shape.lt (Nat.pow_le_pow_right (by omega) hi.shape.le)
      refine ⟨⟨?_, ?_, ?_⟩, ?_⟩
      · refine ⟨F + 2 ^ 31, ?_, mod_pow_shape hi.shape.le hi.shape.lt, by omega, by omega⟩
        rw [fastWrite_read hw1 fun j _ _ => by rw [hget _ (by omega), hg2 _ (by omega)], Nat.mod_eq_of_lt (by omega)]
      · intro j h9 hj hns
        rw [hget j hj, hg2 j h9, hg1, if_neg (by omega)]
      · rw [hsz]; omega
      · obtain ⟨r1, r2, r3, r4, r5⟩ := header_read hl (fun j hj => hget j (by omega)) h0 h1 h5
        exact ⟨r1, r3, by rw [hsz]; exact r2, r4, r5, by rw [hsz, ← hi.dsz]; exact hdle⟩

/-- backward over one token with flag `bit` -/
theorem post_tok {s c : Buf} {st st' : CSt} {k F bit : Nat} (hp : 9 ≤ st.cwordPtr ∧ st.cwordPtr + 4 ≤ st.dst)
    (hcp : st'.cwordPtr = st.cwordPtr) (hdst : st.dst < st'.dst)
    (hfr : ∀ j, j < st.dst → st'.dest[j]? = st.dest[j]?) (hb : bit ≤ 1) (hF : F < 2 ^ k)
    (hroom : st.dst + min (s.size - st.src) 4 ≤ st'.dst + min (s.size - st'.src) 4)
    (hpost : Post s c st' (k + 1) (F + bit * 2 ^ k)) :
    Post s c st k F ∧ (∀ j, st.dst ≤ j → j < st'.dst → c[j]? = st'.dest[j]?)
      ∧ ∃ W, fastRead c st.cwordPtr 4 = some W ∧ 2 ^ 31 ≤ W ∧ W < 2 ^ 32 ∧ (W >>> k) &&& 1 = bit := by
  obtain ⟨W, hW1, hW2, hW3, hW4⟩ := hpost.word
  obtain ⟨hm, hbit⟩ := w_bit hb hF hW2
  rw [hcp] at hW1
  refine ⟨⟨⟨W, hW1, hm, hW3, hW4⟩, ?_, Nat.le_trans hroom hpost.room⟩, ?_, W, hW1, hW3, hW4, hbit⟩
  · intro j h9 hj hns
    rw [hpost.frame j h9 (by omega) (by rw [hcp]; exact hns), hfr j hj]
  · intro j h1 h2
    exact hpost.frame j (by omega) h2 (by rw [hcp]; omega)

theorem post_flush {s c : Buf} {st stf : CSt} {F : Nat} (hp : 9 ≤ st.cwordPtr ∧ st.cwordPtr + 4 ≤ st.dst) (hF : F < 2 ^ 31)
    (hw : fastWrite st.dest st.cwordPtr (F + 2 ^ 31) 4 = some stf.dest) (h2 : stf.cwordPtr = st.dst) (h3 : stf.dst = st.dst + 4)
    (h4 : stf.src = st.src) (hpost : Post s c stf 0 0) : Post s c st 31 F := by
  obtain ⟨hs, hg⟩ := fastWrite_spec hw
  refine ⟨⟨F + 2 ^ 31, ?_, ?_, by omega, by omega⟩, ?_, ?_⟩
  · rw [fastWrite_read hw fun j _ _ => hpost.frame j (by omega) (by omega) (by omega), Nat.mod_eq_of_lt (by omega)]
  · exact mod_pow_shape (Nat.le_refl 31) hF
  · intro j h9 hj hns
    rw [hpost.frame j h9 (by omega) (by omega), hg, if_neg (by omega)]
  · have := hpost.room
    rw [h3, h4] at this
    omega

/-- the control-word handling at the top of a pass of either loop (quicklz.go:126-129, 269-272) -/
def flushed (st : CSt) : Option CSt :=
  if st.cwordVal &&& 1 = 1 then
    match fastWrite st.dest st.cwordPtr ((st.cwordVal >>> 1) ||| 0x80000000) 4 with
    | none => none
    | some d => some ⟨st.src, st.dst + 4, 0x80000000, st.dst, d, st.ht, st.cache, st.hc, st.fetch, st.lits⟩
  else some st

theorem flushed_eq (st : CSt) :
    flushed st =
      if st.cwordVal &&& 1 = 1 then
        match flushCword st.dest st.cwordPtr st.dst st.cwordVal with
        | none => none
        | some (d, cp, dst, cv) => some { st with dest := d, cwordPtr := cp, dst := dst, cwordVal := cv }
      else some st := by
  unfold flushed flushCword
  split
  · cases fastWrite st.dest st.cwordPtr ((st.cwordVal >>> 1) ||| 0x80000000) 4 <;> rfl
  · rfl

theorem flushed_cases {st stf : CSt} (h : flushed st = some stf) :
    (st.cwordVal &&& 1 ≠ 1 ∧ stf = st)
    ∨ (st.cwordVal &&& 1 = 1 ∧ ∃ d, fastWrite st.dest st.cwordPtr ((st.cwordVal >>> 1) ||| 0x80000000) 4 = some d
        ∧ stf = ⟨st.src, st.dst + 4, 0x80000000, st.dst, d, st.ht, st.cache, st.hc, st.fetch, st.lits⟩) := by
  unfold flushed at h
  split at h
  · rename_i hodd
    split at h
    · cases h
    · rename_i d hw
      cases h
      exact .inr ⟨hodd, d, hw, rfl⟩
  · rename_i hodd
    cases h
    exact .inl ⟨hodd, rfl⟩

theorem flushed_tbl {st stf : CSt} (h : flushed st = some stf) :
    stf.src = st.src ∧ stf.ht = st.ht ∧ stf.cache = st.cache ∧ stf.hc = st.hc ∧ stf.fetch = st.fetch ∧ stf.lits = st.lits := by
  rcases flushed_cases h with ⟨_, rfl⟩ | ⟨_, _, _, rfl⟩ <;> exact ⟨rfl, rfl, rfl, rfl, rfl, rfl⟩

/-- the literal of the second loop (quicklz.go:275-278) -/
def tailLit (s : Buf) (st : CSt) : Option CSt :=
  match s[st.src]? with
  | none => none
  | some b =>
    match wr st.dest st.dst b with
    | none => none
    | some d => some ⟨st.src + 1, st.dst + 1, st.cwordVal >>> 1, st.cwordPtr, d, st.ht, st.cache, st.hc, st.fetch, st.lits⟩

theorem ctail_succ (s : Buf) (m : Nat) (st : CSt) :
    ctail s (m + 1) st =
      match flushed st with
      | none => none
      | some stf =>
        match tailLit s stf with
        | none => none
        | some st' => ctail s m st' := by
  conv => lhs; unfold ctail
  rw [flushed_eq]
  unfold tailLit
  by_cases h : st.cwordVal &&& 1 = 1
  · simp only [h, if_true]
    cases flushCword st.dest st.cwordPtr st.dst st.cwordVal with
    | none => rfl
    | some r =>
      simp only
      cases s[st.src]? with
      | none => rfl
      | some b =>
        simp only
        cases wr r.1 r.2.2.1 b <;> rfl
  · simp only [h, if_false]
    cases s[st.src]? with
    | none => rfl
    | some b =>
      simp only
      cases wr st.dest st.dst b <;> rfl

theorem cloop_succ (s : Buf) (level n : Nat) (st : CSt) :
    cloop s level (n + 1) st =
      if (st.src : Int) ≤ (s.size : Int) - 11 then
        (if st.cwordVal &&& 1 = 1 ∧ giveUp s.size st.src st.dst = true then (storedStream s level).map CLoop.stored
         else
          match flushed st with
          | none => none
          | some stf =>
            match cstep level s stf with
            | none => none
            | some st' => cloop s level n st')
      else some (.fin st) := by
  conv => lhs; unfold cloop
  rw [flushed_eq]
  unfold cstep
  by_cases h0 : (st.src : Int) ≤ (s.size : Int) - 11
  · simp only [h0, if_true]
    by_cases h : st.cwordVal &&& 1 = 1
    · simp only [h, if_true, true_and]
      by_cases hg : giveUp s.size st.src st.dst = true
      · simp only [hg, if_true]
      · simp only [hg, if_false, Bool.false_eq_true]
        cases flushCword st.dest st.cwordPtr st.dst st.cwordVal <;> rfl
    · simp only [h, if_false, false_and]
      rfl
  · simp only [h0, if_false]

/-- the state after the control-word handling: what the passes use of `CInv`, with room in the open word (`klt`) and without
    `dst ≤ len(destination)` (the reserved word is written later) -/
structure CInvF (s : Buf) (st : CSt) (k F : Nat) : Prop where
  shape : CwShape st.cwordVal k F
  ptr : 9 ≤ st.cwordPtr ∧ st.cwordPtr + 4 ≤ st.dst
  klt : k < 31
  dsz : st.dest.size = s.size + 400

/-- `flushed` as a relation: the open word with `k` tokens and flags `F` becomes one with `kf`, `Ff` -/
inductive Flushed (st stf : CSt) (k F : Nat) : Nat → Nat → Prop
  | room : k < 31 → stf = st → Flushed st stf k F k F
  | full : k = 31 → fastWrite st.dest st.cwordPtr (F + 2 ^ 31) 4 = some stf.dest → stf.cwordPtr = st.dst → stf.dst = st.dst + 4 →
      stf.src = st.src → Flushed st stf k F 0 0

theorem Flushed.src {st stf : CSt} {k F kf Ff : Nat} (h : Flushed st stf k F kf Ff) : stf.src = st.src := by
  cases h with
  | room _ e => rw [e]
  | full _ _ _ _ e => exact e

theorem flushed_inv {s : Buf} {st stf : CSt} {k F : Nat} (hi : CInv s st k F) (h : flushed st = some stf) :
    ∃ kf Ff, CInvF s stf kf Ff ∧ Flushed st stf k F kf Ff := by
  have hk31 := hi.shape.le
  rcases flushed_cases h with ⟨hodd, rfl⟩ | ⟨hodd, d, hw, rfl⟩
  · have hk : k < 31 := by
      have : k ≠ 31 := fun h => hodd ((shape_odd hi.shape).mpr h)
      omega
    exact ⟨k, F, ⟨hi.shape, hi.ptr, hk, hi.dsz⟩, .room hk rfl⟩
  · obtain rfl : k = 31 := (shape_odd hi.shape).mp hodd
    rw [shape_flush hi.shape] at hw
    obtain ⟨hp1, hp2⟩ := hi.ptr
    exact ⟨0, 0, ⟨shape_init, ⟨by show 9 ≤ st.dst; omega, Nat.le_refl _⟩, by omega,
      by show d.size = s.size + 400; rw [(fastWrite_spec hw).1, hi.dsz]⟩, .full rfl hw rfl rfl rfl⟩

/-- backward over the control-word handling, for any statement `P p cw` about the decoder at position `p` with `cw` left of
    its control word that holds before a reload if it holds after it (`hre`) -/
theorem Flushed.back {s c : Buf} {st stf : CSt} {k F kf Ff : Nat} {P : Nat → Nat → Prop} (hfl : Flushed st stf k F kf Ff)
    (hi : CInv s st k F) (hre : ∀ {p W}, W ≠ 1 → fastRead c p 4 = some W → P (p + 4) W → P p 1)
    (hpost : Post s c stf kf Ff) (hP : ∀ W, fastRead c stf.cwordPtr 4 = some W → P stf.dst (W >>> kf)) :
    Post s c st k F ∧ ∀ W, fastRead c st.cwordPtr 4 = some W → P st.dst (W >>> k) := by
  cases hfl with
  | room _ e => subst e; exact ⟨hpost, hP⟩
  | full hk hw hcp hd hsrc =>
    subst hk
    have hpost0 := post_flush hi.ptr hi.shape.lt hw hcp hd hsrc hpost
    refine ⟨hpost0, fun W hW => ?_⟩
    obtain ⟨W0, hW0, _, hW1, hW2⟩ := hpost0.word
    rw [hW] at hW0; cases hW0
    obtain ⟨Wf, hWf, _, hWf1, _⟩ := hpost.word
    have hPf := hP Wf hWf
    rw [hcp] at hWf
    rw [hd] at hPf
    rw [w_eq_one hW1 hW2]
    exact hre (by omega) hWf hPf

theorem tailLit_spec {s : Buf} {stf st' : CSt} {kf Ff : Nat} (h : tailLit s stf = some st') (hi : CInvF s stf kf Ff)
    (hsrc : stf.src < s.size) :
    CInv s st' (kf + 1) Ff ∧ st'.src = stf.src + 1 ∧ st'.dst = stf.dst + 1 ∧ st'.cwordPtr = stf.cwordPtr
      ∧ (∀ j, j < stf.dst → st'.dest[j]? = stf.dest[j]?) ∧ ∃ b, s[stf.src]? = some b ∧ st'.dest[stf.dst]? = some b := by
  unfold tailLit at h
  split at h
  · cases h
  · rename_i b hb
    split at h
    · cases h
    · rename_i d hw
      cases h
      obtain ⟨hsz, hlt, hfr, hbyte⟩ := wr_spec hw
      obtain ⟨hp1, hp2⟩ := hi.ptr
      exact ⟨⟨shape_lit hi.shape hi.klt, ⟨hp1, by show stf.cwordPtr + 4 ≤ stf.dst + 1; omega⟩, hlt, by show stf.src + 1 ≤ s.size; omega,
        by show d.size = s.size + 400; rw [hsz, hi.dsz]⟩, rfl, rfl, rfl, hfr, b, hb, hbyte⟩

/-- the rest of the stream is the decoder's final literal run, for any value `V` of its control word (the run only ever
    tests it against 1); and, with input left, the pass that enters the run finds the control bit 0, after a reload if the
    open word is full -/
def PostTail (level : Nat) (s c : Buf) (st : CSt) (k F : Nat) : Prop :=
  Post s c st k F ∧ HdrOK level s c ∧ (∀ V, 2 ^ 31 ≤ V → V < 2 ^ 32 → TailEnc c s st.dst st.src (V >>> k))
    ∧ (st.src < s.size → ∀ W, fastRead c st.cwordPtr 4 = some W →
        ∃ p' cw', cwAt c st.dst (W >>> k) = some (p', cw') ∧ cw' &&& 1 = 0 ∧ TailEnc c s p' st.src cw')

theorem ctail_post {s c : Buf} {st2 : CSt} {level : Nat} (hl : level = 1 ∨ level = 3) :
    ∀ (m : Nat) (st : CSt) (k F : Nat), CInv s st k F → st.src + m = s.size →
    ctail s m st = some st2 → finish level s st2 = some c → PostTail level s c st k F := by
  intro m
  induction m with
  | zero =>
    intro st k F hi hm h hf
    simp only [ctail, Option.some.injEq] at h
    subst h
    obtain ⟨h1, h2⟩ := finish_post hl hi (by omega) hf
    exact ⟨h1, h2, fun V _ _ => TailEnc.done (by omega), fun h => by omega⟩
  | succ m ih =>
    intro st k F hi hm h hf
    rw [ctail_succ] at h
    split at h
    · cases h
    · rename_i stf hfl
      split at h
      · cases h
      · rename_i st' hlit
        obtain ⟨kf, Ff, hif, hfd⟩ := flushed_inv hi hfl
        have hsrcf := hfd.src
        obtain ⟨hi', e1, e2, e3, e4, b, hb, hb'⟩ := tailLit_spec hlit hif (by omega)
        obtain ⟨hpost', hhdr, htail', _⟩ := ih st' (kf + 1) Ff hi' (by omega) h hf
        obtain ⟨hpostf, hbyte, W', hW', hW1', hW2', hbit⟩ := post_tok (bit := 0) hif.ptr e3 (by omega) e4 (Nat.zero_le 1)
          hif.shape.lt (by omega) (by simpa using hpost')
        have hcb : c[stf.dst]? = some b := by rw [hbyte stf.dst (Nat.le_refl _) (by omega), hb']
        -- behind the control-word handling the open word has room: one more literal of the run
        have htailf : ∀ V, 2 ^ 31 ≤ V → V < 2 ^ 32 → TailEnc c s stf.dst stf.src (V >>> kf) := by
          intro V hV1 hV2
          have hne := w_ne_one hif.klt hV1
          refine TailEnc.step b (by simpa [hne] using hcb) hb ?_
          have := htail' V hV1 hV2
          rw [e1, e2] at this
          simpa [hne, ← Nat.shiftRight_add] using this
        obtain ⟨hpost, hfin⟩ := hfd.back hi
          (P := fun p cw => ∃ p' cw', cwAt c p cw = some (p', cw') ∧ cw' &&& 1 = 0 ∧ TailEnc c s p' st.src cw')
          (fun hW hr ⟨p', cw', h1, h2, h3⟩ => ⟨p', cw', cwAt_reload hW hr h1, h2, h3⟩) hpostf
          (fun W hW => by
            obtain rfl : W = W' := Option.some.inj (hW.symm.trans hW')
            refine ⟨stf.dst, W >>> kf, by simp [cwAt, w_ne_one hif.klt hW1'], hbit, ?_⟩
            rw [← hsrcf]; exact htailf W hW1' hW2')
        refine ⟨hpost, hhdr, fun V hV1 hV2 => ?_, fun _ => hfin⟩
        cases hfd with
        | room _ e => subst e; exact htailf V hV1 hV2
        | full hk _ _ hd hsrc =>
          subst hk
          have := htailf 0x80000000 (by decide) (by decide)
          rw [hd, hsrc] at this
          rw [w_eq_one hV1 hV2]
          exact TailEnc.skip (by simpa using this)

/-- what a pass of the first loop emits: a literal byte, or a match of `ml` bytes whose token `enc` (`len` bytes) carries the
    payload `y` (the distance at level 3, a slot of the hash table at level 1) -/
inductive Tok
  | lit (b : UInt8)
  | mat (ml y enc len : Nat)

def Tok.bit : Tok → Nat
  | .lit _ => 0
  | .mat .. => 1

structure EmitsLit (s : Buf) (st st' : CSt) (b : UInt8) : Prop where
  cw : st'.cwordVal = st.cwordVal >>> 1
  src : st'.src = st.src + 1
  dst : st'.dst = st.dst + 1
  byte : s[st.src]? = some b
  out : st'.dest[st.dst]? = some b

structure EmitsMat {α : Type} (D : DecLevel α) (st st' : CSt) (ml y enc len : Nat) : Prop where
  cw : st'.cwordVal = (st.cwordVal >>> 1) ||| 0x80000000
  src : st'.src = st.src + ml
  dst : st'.dst = st.dst + len
  out : ∀ j, j < len → st'.dest[st.dst + j]? = some (byteOf enc j)
  enc : TokEnc D.tok D.n enc len ml y
  le : len ≤ ml
  ml3 : 3 ≤ ml

/-- a pass of the first loop (after the control-word handling) from `st` to `st'` has emitted the token `t` in the format of `D` -/
structure Emits {α : Type} (D : DecLevel α) (s : Buf) (st st' : CSt) (t : Tok) : Prop where
  ptr : st'.cwordPtr = st.cwordPtr
  dsz : st'.dest.size = st.dest.size
  dle : st'.dst ≤ st'.dest.size
  frame : ∀ j, j < st.dst → st'.dest[j]? = st.dest[j]?
  room : st'.src + 4 ≤ s.size
  tok : match t with
    | .lit b => EmitsLit s st st' b
    | .mat ml y enc len => EmitsMat D st st' ml y enc len

theorem Emits.lit {α : Type} {D : DecLevel α} {s : Buf} {st st' : CSt} {b : UInt8} (h : Emits D s st st' (.lit b)) :
    EmitsLit s st st' b := h.tok

theorem Emits.mat {α : Type} {D : DecLevel α} {s : Buf} {st st' : CSt} {ml y enc len : Nat} (h : Emits D s st st' (.mat ml y enc len)) :
    EmitsMat D st st' ml y enc len := h.tok

/-- `st'` enters through its fields: at a call it is the model's structure literal and the four equations are `rfl`
    (likewise `Emits.of_write`) -/
theorem Emits.of_lit {α : Type} {D : DecLevel α} {s : Buf} {st st' : CSt} {b : UInt8} (hb : s[st.src]? = some b)
    (hw : wr st.dest st.dst b = some st'.dest) (hroom : st.src + 5 ≤ s.size) (hcw : st'.cwordVal = st.cwordVal >>> 1)
    (hptr : st'.cwordPtr = st.cwordPtr) (hsrc : st'.src = st.src + 1) (hdst : st'.dst = st.dst + 1) : Emits D s st st' (.lit b) := by
  obtain ⟨hsz, hlt, hfr, hbyte⟩ := wr_spec hw
  exact ⟨hptr, hsz, by rw [hdst]; exact hlt, hfr, by rw [hsrc]; omega, hcw, hsrc, hdst, hb, hbyte⟩

theorem Emits.of_write {α : Type} {D : DecLevel α} {s : Buf} {st st' : CSt} {ml y enc len : Nat}
    (hT : TokEnc D.tok D.n enc len ml y) (hlen : len ≤ ml) (hml : 3 ≤ ml) (hroom : st.src + ml + 4 ≤ s.size)
    (hw : fastWrite st.dest st.dst enc len = some st'.dest) (hcw : st'.cwordVal = (st.cwordVal >>> 1) ||| 0x80000000)
    (hptr : st'.cwordPtr = st.cwordPtr) (hsrc : st'.src = st.src + ml) (hdst : st'.dst = st.dst + len) :
    Emits D s st st' (.mat ml y enc len) := by
  obtain ⟨hs, hg⟩ := fastWrite_spec hw
  obtain ⟨m, rfl⟩ : ∃ m, len = m + 1 := ⟨len - 1, by have := hT.pos; omega⟩
  have := fastWrite_some_lt hw
  refine ⟨hptr, hs, by rw [hdst, hs]; omega, fun j hj => ?_, by rw [hsrc]; exact hroom, hcw, hsrc, hdst, fun j hj => ?_, hT, hlen, hml⟩
  · rw [hg j, if_neg (by omega)]
  · rw [hg (st.dst + j), if_pos (by omega)]
    congr 2; omega

theorem Emits.adv {α : Type} {D : DecLevel α} {s : Buf} {st st' : CSt} {t : Tok} (hn : D.n ≤ 4) (h : Emits D s st st' t) :
    t.bit ≤ 1 ∧ st.src < st'.src ∧ st.dst < st'.dst ∧ st'.dst ≤ st.dst + 4 ∧ st'.dst + st.src ≤ st.dst + st'.src := by
  cases t with
  | lit b =>
    have e1 := h.lit.src; have e2 := h.lit.dst
    exact ⟨Nat.zero_le 1, by omega, by omega, by omega, by omega⟩
  | mat ml y enc len =>
    have e1 := h.mat.src; have e2 := h.mat.dst; have l1 := h.mat.enc.pos; have l2 := h.mat.enc.le; have l3 := h.mat.le
    exact ⟨Nat.le_refl 1, by omega, by omega, by omega, by omega⟩

theorem Emits.cinv {α : Type} {D : DecLevel α} {s : Buf} {st st' : CSt} {t : Tok} {k F : Nat} (hn : D.n ≤ 4) (h : Emits D s st st' t)
    (hi : CInvF s st k F) : CInv s st' (k + 1) (F + t.bit * 2 ^ k) := by
  obtain ⟨hp1, hp2⟩ := hi.ptr
  obtain ⟨_, _, a2, _, _⟩ := h.adv hn
  refine ⟨?_, by rw [h.ptr]; omega, h.dle, by have := h.room; omega, by rw [h.dsz, hi.dsz]⟩
  cases t with
  | lit b => rw [h.lit.cw]; simpa [Tok.bit] using shape_lit hi.shape hi.klt
  | mat ml y enc len => rw [h.mat.cw]; simpa [Tok.bit] using shape_mat hi.shape hi.klt

/-- how the decoder of `D`, whose own variables are `a` when `q` bytes are out, gets from the token to `x[q..]`; `a'` afterwards -/
def Resolves {α : Type} (D : DecLevel α) (x : Buf) (q : Nat) (a a' : α) : Tok → Prop
  | .lit _ => D.lit x q a a'
  | .mat ml y _ _ => ∃ off, D.mat x q ml y off a a' ∧ 1 ≤ off ∧ off ≤ q ∧ ∀ j, j < ml → x[q + j]? = x[q - off + j]?

theorem Enc.of_emit {α : Type} {D : DecLevel α} {s c : Buf} {st st' : CSt} {t : Tok} {a a' : α} {cw : Nat} (hn : D.n ≤ 4)
    (hE : Emits D s st st' t) (hR : Resolves D s st.src a a' t) (hsrc : (st.src : Int) ≤ (s.size : Int) - 11)
    (hne : cw ≠ 1) (hbit : cw &&& 1 = t.bit) (hbyte : ∀ j, st.dst ≤ j → j < st'.dst → c[j]? = st'.dest[j]?)
    (hroom : st'.dst + 4 ≤ c.size) (hrest : Enc D c s st'.dst st'.src (cw >>> 1) a') : Enc D c s st.dst st.src cw a := by
  cases t with
  | lit b =>
    have e := hE.lit
    have e2 := e.dst
    rw [e.src, e2] at hrest
    have hcb : c[st.dst]? = some b := by rw [hbyte st.dst (Nat.le_refl _) (by omega), e.out]
    obtain ⟨f, hf⟩ := fastRead_ok c st.dst D.n (by omega)
    obtain ⟨f', hf'⟩ := fastRead_ok c (st.dst + 1) D.n (by omega)
    exact Enc.lit b (if_neg hne) hbit hsrc (by rw [hf]; rfl) hcb e.byte (by rw [hf']; rfl) hR hrest
  | mat ml y enc len =>
    have e := hE.mat
    have e1 := e.src
    obtain ⟨off, hA, o1, o2, hxs⟩ := hR
    rw [e.dst] at hbyte hroom hrest
    rw [e1] at hrest
    obtain ⟨f, hf⟩ := fastRead_ok c st.dst D.n (by omega)
    obtain ⟨f', hf'⟩ := fastRead_ok c (st.dst + len) D.n (by omega)
    have htk := e.enc.read (fun j hj => by rw [hbyte _ (Nat.le_add_right _ _) (Nat.add_lt_add_left hj _), e.out j hj]) hf
    have := hE.room
    exact Enc.mat (if_neg hne) hbit hsrc hf htk hA o1 o2 e.ml3 (by omega) hxs (by rw [hf']; rfl) hrest

/-- what the two inductions over the first loop need of a level: its decoder `D`, an invariant `I` tying the compressor's
    state to what that decoder carries, and one pass under `I`: it emits a token that the decoder resolves (`pass`), and it
    cannot panic while four bytes of `destination` are free (`run`) -/
structure Level (level : Nat) (s : Buf) {α : Type} (D : DecLevel α) (I : CSt → α → Prop) : Prop where
  ok : DecOK level D
  init : ∀ {fetch}, 11 ≤ s.size → fastRead s 0 3 = some fetch → I (cinit level s fetch) (D.aux (Array.replicate 4096 0) (-1))
  flush : ∀ {st stf a}, flushed st = some stf → I st a → I stf a
  pass : ∀ {st st' a}, I st a → (st.src : Int) ≤ (s.size : Int) - 11 → cstep level s st = some st' →
    ∃ t a', Emits D s st st' t ∧ I st' a' ∧ Resolves D s st.src a a' t
  run : ∀ {st a}, I st a → (st.src : Int) ≤ (s.size : Int) - 11 → st.dst + 4 ≤ st.dest.size → ∃ st', cstep level s st = some st'

theorem Level.entry {α : Type} {level : Nat} {s : Buf} {D : DecLevel α} {I : CSt → α → Prop} (L : Level level s D I) {fetch : Nat}
    (hf : (if (0 : Int) ≤ (s.size : Int) - 11 then fastRead s 0 3 else some 0) = some fetch)
    (h11 : ((cinit level s fetch).src : Int) ≤ (s.size : Int) - 11) : I (cinit level s fetch) (D.aux (Array.replicate 4096 0) (-1)) := by
  have h11 : 11 ≤ s.size := by simp [cinit] at h11; omega
  rw [if_pos (by omega)] at hf
  exact L.init h11 hf

theorem cloop_post {α : Type} {level : Nat} {s c : Buf} {st1 st2 : CSt} {D : DecLevel α} {I : CSt → α → Prop}
    (L : Level level s D I) :
    ∀ (n : Nat) (st : CSt) (k F : Nat) (a : α), CInv s st k F → ((st.src : Int) ≤ (s.size : Int) - 11 → I st a) → st.src < s.size →
    cloop s level n st = some (.fin st1) → ctail s (s.size - st1.src) st1 = some st2 → finish level s st2 = some c →
    Post s c st k F ∧ HdrOK level s c ∧ ∀ W, fastRead c st.cwordPtr 4 = some W → Enc D c s st.dst st.src (W >>> k) a := by
  intro n
  induction n with
  | zero => intro st k F a _ _ _ h; simp [cloop] at h
  | succ n ih =>
    intro st k F a hi hI hlt h ht hf
    rw [cloop_succ] at h
    by_cases hmain : (st.src : Int) ≤ (s.size : Int) - 11
    · rw [if_pos hmain] at h
      split at h
      · -- gave up: the result is the stored form, not `.fin`
        simp only [Option.map_eq_some_iff] at h
        obtain ⟨_, _, h⟩ := h
        cases h
      · split at h
        · cases h
        · rename_i stf hfl
          split at h
          · cases h
          · rename_i st' hstep
            obtain ⟨kf, Ff, hif, hfd⟩ := flushed_inv hi hfl
            have hsrcf := hfd.src
            have hmainf : (stf.src : Int) ≤ (s.size : Int) - 11 := by rw [hsrcf]; exact hmain
            obtain ⟨t, a', hE, hI', hR⟩ := L.pass (L.flush hfl (hI hmain)) hmainf hstep
            obtain ⟨hbit1, hs1, hd1, hd2, hd3⟩ := hE.adv L.ok.n4
            have hs2 := hE.room
            obtain ⟨hpost', hhdr, henc'⟩ := ih st' (kf + 1) (Ff + t.bit * 2 ^ kf) a' (hE.cinv L.ok.n4 hif) (fun _ => hI') (by omega) h ht hf
            obtain ⟨hpostf, hbyte, Wf, hWf, hWf1, hWf2, hWbit⟩ := post_tok hif.ptr hE.ptr hd1 hE.frame hbit1
              hif.shape.lt (by omega) hpost'
            -- the certificate behind the control-word handling, then across it
            have hencf : Enc D c s stf.dst st.src (Wf >>> kf) a := by
              have hroom := hpost'.room
              rw [← hsrcf]
              refine Enc.of_emit L.ok.n4 hE hR hmainf (w_ne_one hif.klt hWf1) hWbit hbyte (by omega) ?_
              rw [← Nat.shiftRight_add]
              exact henc' Wf (by rw [hE.ptr]; exact hWf)
            obtain ⟨hpost, henc⟩ := hfd.back hi (P := fun p cw => Enc D c s p st.src cw a) Enc.reload hpostf
              (fun W hW => by rw [hW] at hWf; cases hWf; exact hencf)
            exact ⟨hpost, hhdr, henc⟩
    · -- the first loop ends here
      rw [if_neg hmain] at h
      simp only [Option.some.injEq, CLoop.fin.injEq] at h
      subst h
      obtain ⟨hpost, hhdr, _, hfin⟩ := ctail_post L.ok.lvl _ st k F hi (by omega) ht hf
      refine ⟨hpost, hhdr, ?_⟩
      intro W hW
      obtain ⟨p', cw', h1, h2, h3⟩ := hfin hlt W hW
      exact Enc.fin h1 h2 hmain (by omega) h3

theorem cloop_stored {s out : Buf} {level : Nat} : ∀ (n : Nat) (st : CSt), cloop s level n st = some (.stored out) →
    storedStream s level = some out := by
  intro n
  induction n with
  | zero => intro st h; simp [cloop] at h
  | succ n ih =>
    intro st h
    rw [cloop_succ] at h
    split at h
    · split at h
      · simp only [Option.map_eq_some_iff] at h
        obtain ⟨o, ho, he⟩ := h
        cases he
        exact ho
      · split at h
        · cases h
        · split at h
          · cases h
          · exact ih _ h
    · cases h

theorem compress_roundtrip {α : Type} {level : Nat} {x c : Buf} {D : DecLevel α} {I : CSt → α → Prop}
    (L : Level level x D I) (hx : x.size ≠ 0) (hsz : x.size + 400 < 2 ^ 32)
    (h : compress x level = some c) : decompress c = .ok x ∧ decompressSafe c = .ok x := by
  rw [compress_eq x L.ok.lvl hx] at h
  split at h
  · cases h
  · rename_i fetch hfetch
    split at h
    · cases h
    · rename_i out hcl
      cases h
      exact stored_roundtrip L.ok.lvl (by omega) (cloop_stored _ _ hcl)
    · rename_i st1 hcl
      split at h
      · cases h
      · rename_i st2 hct
        have hi := cinv_init level x fetch
        obtain ⟨hpost, hhdr, henc⟩ := cloop_post L (x.size + 1) (cinit level x fetch) 0 0 _ hi (L.entry hfetch)
          (by simp [cinit]; omega) hcl hct h
        obtain ⟨W, hW, _, hW1, hW2⟩ := hpost.word
        have hW' : fastRead c 9 4 = some W := hW
        have he : Enc D c x (9 + 4) 0 W (D.aux (Array.replicate 4096 0) (-1)) := by simpa [cinit] using henc W hW
        have hb := hhdr.bound
        have hsd := hhdr.sizeD
        have hsc := hhdr.sizeC
        rw [Nat.mod_eq_of_lt (by omega)] at hsd hsc
        have hdec := dec_enc L.ok hhdr.hlen hsd hhdr.lvl hhdr.cbit (Enc.reload (by omega) hW' he)
        exact ⟨hdec, decompressSafe_of_ok hsc hdec⟩

/-- so the length check of `DecompressSafe` and of `CDecompressSafe` passes -/
theorem compress_header {α : Type} {level : Nat} {x c : Buf} {D : DecLevel α} {I : CSt → α → Prop}
    (L : Level level x D I) (hx : x.size ≠ 0) (hsz : x.size + 400 < 2 ^ 32) (h : compress x level = some c) :
    sizeCompressed c = some c.size ∧ sizeDecompressed c = some x.size :=
  decompressSafe_ok (compress_roundtrip L hx hsz h).2

/-- bookkeeping for the bound on `dst`: `k` tokens since the last control word was reserved (at `d0 - 4`), `B` control words
    written so far.  `toks` and `out` only serve to bound `d0` when a word is reserved (`Acc.flush`). -/
structure Acc (s : Buf) (st : CSt) (k B d0 : Nat) : Prop where
  toks : 31 * B + k ≤ st.src                -- a token stands for at least one byte of input
  out : st.dst ≤ st.src + 13 + 4 * B        -- header and first control word; a token is no longer than its input; 4 per control word
  since : st.dst ≤ d0 + 4 * k               -- a token takes at most four bytes
  -- `d0 = dst + 4` when the give-up test failed: `src ≤ 3·(n/4)` with `out` and `toks` (17 = 13 + 4), or `dst ≤ src - src/32`
  resv : d0 ≤ 3 * (s.size / 4) + 17 + 4 * (3 * (s.size / 4) / 31) ∨ d0 ≤ s.size + 4

theorem Acc.pass {α : Type} {D : DecLevel α} {s : Buf} {st st' : CSt} {k B d0 : Nat} {t : Tok} (h : Acc s st k B d0) (hn : D.n ≤ 4)
    (hE : Emits D s st st' t) : Acc s st' (k + 1) B d0 := by
  obtain ⟨a1, a2, a3, a4⟩ := h
  obtain ⟨_, _, _, _, _⟩ := hE.adv hn
  exact ⟨by omega, by omega, by omega, a4⟩

theorem Acc.flush {s : Buf} {st stf : CSt} {B d0 : Nat} (h : Acc s st 31 B d0) (hle : st.src ≤ s.size)
    (hg : ¬ (giveUp s.size st.src st.dst = true)) (hsrc : stf.src = st.src) (hdst : stf.dst = st.dst + 4) :
    Acc s stf 0 (B + 1) (st.dst + 4) := by
  obtain ⟨a1, a2, a3, a4⟩ := h
  simp only [giveUp, decide_eq_true_eq, shr, Nat.reducePow] at hg
  refine ⟨by omega, by omega, by omega, ?_⟩
  by_cases hlow : st.src > 3 * (s.size / 4)
  · have : ¬ (st.dst > st.src - st.src / 32) := fun h => hg ⟨hlow, h⟩
    right; omega
  · left; omega

/-- 141 = 17 + 4·31: a word holds at most 31 tokens -/
theorem Acc.dst_le {s : Buf} {st : CSt} {k B d0 : Nat} (h : Acc s st k B d0) (hk : k ≤ 31) : st.dst ≤ s.size + 141 := by
  obtain ⟨_, _, a3, a4⟩ := h
  rcases a4 with a4 | a4 <;> omega

theorem flushed_total {s : Buf} {st : CSt} {k F : Nat} (hi : CInv s st k F) : ∃ stf, flushed st = some stf := by
  unfold flushed
  split
  · obtain ⟨d, hd⟩ := fastWrite_ok st.dest st.cwordPtr ((st.cwordVal >>> 1) ||| 0x80000000) 4 (by have := hi.ptr; have := hi.dstle; omega)
    rw [hd]; exact ⟨_, rfl⟩
  · exact ⟨_, rfl⟩

theorem cloop_total {α : Type} {level : Nat} {s : Buf} {D : DecLevel α} {I : CSt → α → Prop} (L : Level level s D I) :
    ∀ (fuel : Nat) (st : CSt) (k F B d0 : Nat) (a : α), CInv s st k F → ((st.src : Int) ≤ (s.size : Int) - 11 → I st a) →
    Acc s st k B d0 → s.size + 1 ≤ fuel + st.src →
    (∃ out, cloop s level fuel st = some (.stored out))
    ∨ (∃ st1 k1 F1 B1 d1, cloop s level fuel st = some (.fin st1) ∧ CInv s st1 k1 F1 ∧ Acc s st1 k1 B1 d1
        ∧ ¬ ((st1.src : Int) ≤ (s.size : Int) - 11)) := by
  intro fuel
  induction fuel with
  | zero => intro st k F B d0 a hi _ _ hf; have := hi.srcle; omega
  | succ n ih =>
    intro st k F B d0 a hi hI hacc hfuel
    rw [cloop_succ]
    by_cases hmain : (st.src : Int) ≤ (s.size : Int) - 11
    · rw [if_pos hmain]
      split
      · obtain ⟨out, ho⟩ := storedStream_total s level
        left; exact ⟨out, by rw [ho]; rfl⟩
      · rename_i hng
        obtain ⟨stf, hfl⟩ := flushed_total hi
        rw [hfl]
        simp only
        obtain ⟨kf, Ff, hif, hfd⟩ := flushed_inv hi hfl
        obtain ⟨Bf, df, haccf⟩ : ∃ Bf df, Acc s stf kf Bf df := by
          cases hfd with
          | room _ e => subst e; exact ⟨B, d0, hacc⟩
          | full hk _ _ hdst hsrc =>
            subst hk
            exact ⟨B + 1, st.dst + 4, hacc.flush hi.srcle (fun h => hng ⟨(shape_odd hi.shape).mpr rfl, h⟩) hsrc hdst⟩
        have hdst4 : stf.dst + 4 ≤ stf.dest.size := by
          rw [hif.dsz]
          have := haccf.dst_le (Nat.le_of_lt hif.klt)
          omega
        have hsrcf := hfd.src
        have hsrc' : (stf.src : Int) ≤ (s.size : Int) - 11 := by rw [hsrcf]; exact hmain
        obtain ⟨st', hstep⟩ := L.run (L.flush hfl (hI hmain)) hsrc' hdst4
        obtain ⟨t, a', hE, hI', _⟩ := L.pass (L.flush hfl (hI hmain)) hsrc' hstep
        rw [hstep]
        simp only
        exact ih st' (kf + 1) _ Bf df a' (hE.cinv L.ok.n4 hif) (fun _ => hI') (haccf.pass L.ok.n4 hE) (by have := hE.adv L.ok.n4; omega)
    · rw [if_neg hmain]
      right
      exact ⟨st, k, F, B, d0, rfl, hi, hacc, hmain⟩

/-- five bytes of `destination` per remaining input byte: the literal and, at worst, a control word -/
theorem ctail_total {s : Buf} : ∀ (m : Nat) (st : CSt) (k F : Nat), CInv s st k F → st.src + m = s.size →
    st.dst + 5 * m ≤ s.size + 400 → ∃ st2 k2 F2, ctail s m st = some st2 ∧ CInv s st2 k2 F2 ∧ st2.src = s.size := by
  intro m
  induction m with
  | zero => intro st k F hi hm _; exact ⟨st, k, F, rfl, hi, by omega⟩
  | succ m ih =>
    intro st k F hi hm hroom
    rw [ctail_succ]
    obtain ⟨stf, hfl⟩ := flushed_total hi
    rw [hfl]
    simp only
    obtain ⟨kf, Ff, hif, hfd⟩ := flushed_inv hi hfl
    have hsrcf := hfd.src
    have hdstf : stf.dst ≤ st.dst + 4 := by
      cases hfd with
      | room _ e => subst e; omega
      | full _ _ _ hd _ => omega
    obtain ⟨b, hb⟩ := getElem?_ok s stf.src (by omega)
    obtain ⟨d, hw⟩ := wr_ok b (by rw [hif.dsz]; omega : stf.dst < stf.dest.size)
    have hlit : tailLit s stf = some ⟨stf.src + 1, stf.dst + 1, stf.cwordVal >>> 1, stf.cwordPtr, d, stf.ht, stf.cache, stf.hc, stf.fetch, stf.lits⟩ := by
      unfold tailLit
      rw [hb]
      simp only
      rw [hw]
    rw [hlit]
    simp only
    obtain ⟨hi', e1, e2, _⟩ := tailLit_spec hlit hif (by omega)
    exact ih _ (kf + 1) Ff hi' (by rw [e1]; omega) (by rw [e2]; omega)

theorem finish_total {s : Buf} {st : CSt} {k F : Nat} (level : Nat) (hi : CInv s st k F) : ∃ c, finish level s st = some c := by
  unfold finish
  obtain ⟨d1, h1⟩ := fastWrite_ok st.dest st.cwordPtr (((normCword 32 st.cwordVal) >>> 1) ||| 0x80000000) CWORD_LEN
    (by have := hi.ptr; have := hi.dstle; simp only [CWORD_LEN]; omega)
  rw [h1]
  simp only
  obtain ⟨d2, h2⟩ := writeHeader_ok d1 level s.size st.dst true (by rw [(fastWrite_spec h1).1, hi.dsz]; omega)
  rw [h2]
  exact ⟨_, rfl⟩

/-- `Compress(x, level)` never panics: every index it uses is in range; in particular the output never outgrows
    `len(x) + 400`, thanks to the give-up rule -/
theorem compress_total {α : Type} {level : Nat} {x : Buf} {D : DecLevel α} {I : CSt → α → Prop} (L : Level level x D I) :
    ∃ c, compress x level = some c := by
  by_cases hx : x.size = 0
  · exact ⟨#[], by unfold compress; rw [if_neg (by have := L.ok.lvl; omega), if_pos hx]⟩
  rw [compress_eq x L.ok.lvl hx]
  obtain ⟨fetch, hfetch⟩ : ∃ f, (if (0 : Int) ≤ (x.size : Int) - 11 then fastRead x 0 3 else some 0) = some f := by
    split
    · exact fastRead_ok _ _ 3 (by omega)
    · exact ⟨0, rfl⟩
  rw [hfetch]
  simp only
  have hi := cinv_init level x fetch
  have hacc : Acc x (cinit level x fetch) 0 0 13 := ⟨by simp [cinit], by simp [cinit], by simp [cinit], Or.inl (by omega)⟩
  rcases cloop_total L (x.size + 1) (cinit level x fetch) 0 0 0 13 _ hi (L.entry hfetch) hacc (by simp [cinit])
    with ⟨out, ho⟩ | ⟨st1, k1, F1, B1, d1, h1, hi1, hacc1, hex⟩
  · rw [ho]; exact ⟨out, rfl⟩
  · rw [h1]
    simp only
    -- the first loop leaves at most 10 bytes of input and `dst ≤ len(x) + 141` (`Acc.dst_le`): 141 + 5·10 ≤ 400
    have hroom : st1.dst + 5 * (x.size - st1.src) ≤ x.size + 400 := by
      have := hacc1.dst_le hi1.shape.le
      have := hi1.srcle
      omega
    obtain ⟨st2, k2, F2, h2, hi2, _⟩ := ctail_total (x.size - st1.src) st1 k1 F1 hi1 (by have := hi1.srcle; omega) hroom
    rw [h2]
    exact finish_total level hi2

theorem compress_total_roundtrip {α : Type} {level : Nat} {x : Buf} {D : DecLevel α} {I : CSt → α → Prop}
    (L : Level level x D I) (hx : x.size ≠ 0) (hsz : x.size + 400 < 2 ^ 32) :
    ∃ c, compress x level = some c ∧ decompress c = .ok x ∧ decompressSafe c = .ok x := by
  obtain ⟨c, hc⟩ := compress_total L
  exact ⟨c, hc, compress_roundtrip L hx hsz hc⟩

end QlzRT
