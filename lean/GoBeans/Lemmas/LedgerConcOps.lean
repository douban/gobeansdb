/-
  The micro-operations of a served command (Model/LedgerConc.lean), over the ledger algebra of Lemmas/Ledger.lean: every
  outcome whose get releases what its keys returned (`RelOK`) leaves exactly the ownership it hands to the write buffer
  plus the residue `leak o` (`eff_microOps`), zero unless one of the four leaking paths is taken; the flusher's program
  gives back exactly the ownership of its batch (`eff_flushOps`).
  The block effects are stated in `tok`, `heap 0`, `setVec`, `heldVec`, `ownVec`, the vectors in which Lemmas/Proto.lean
  states what `readReq` and `process` do.
  Token discipline (`microOps_tokWF`): what a prefix of a command has done to the token (`tokWF_prefix`) is what the token
  count and the absence of deadlock in Lemmas/LedgerConc.lean rest on.
-/
import GoBeans.Lemmas.Ledger
namespace LedgerConc
open Proto (Ledger Buf Cfg)

@[simp] theorem eff_nil : eff [] = nil := rfl
@[simp] theorem eff_cons (op : LedgerOp) (ops : List LedgerOp) : eff (op :: ops) = delta op + eff ops := rfl
theorem eff_append (a b : List LedgerOp) : eff (a ++ b) = eff a + eff b := by
  simp only [eff, List.map_append, vsum_append]
theorem delta_io : delta .io = nil := rfl
theorem delta_add (c : Ctr) (d : Int) : delta (.add c d) = c.vec d := rfl

theorem applyOps_eq (ops : List LedgerOp) (l : Ledger) : applyOps ops l = l + eff ops := by
  induction ops generalizing l with
  | nil => exact (vadd_nil l).symm
  | cons op ops ih => exact (ih _).trans (vadd_assoc _ _ _)

theorem applyOps_append (a b : List LedgerOp) (l : Ledger) : applyOps (a ++ b) l = applyOps b (applyOps a l) := by
  simp [applyOps, List.foldl_append]

theorem eff_flatMap {α} (f : α → List LedgerOp) (l : List α) : eff (l.flatMap f) = vsum (l.map (fun x => eff (f x))) := by
  induction l with
  | nil => rfl
  | cons x xs ih => simp [List.flatMap_cons, eff_append, ih]

@[simp] theorem pushes_nil : pushes [] = [] := rfl
@[simp] theorem pushes_cons (op : LedgerOp) (ops : List LedgerOp) : pushes (op :: ops) = pushOf op ++ pushes ops := rfl
@[simp] theorem pushes_append (a b : List LedgerOp) : pushes (a ++ b) = pushes a ++ pushes b := by
  simp [pushes]
theorem pushes_flatMap_nil {α} (f : α → List LedgerOp) (l : List α) (h : ∀ x, pushes (f x) = []) : pushes (l.flatMap f) = [] := by
  rw [pushes, List.flatMap_assoc]; exact List.flatMap_eq_nil_iff.mpr fun x _ => h x

@[simp] theorem eff_addSC (s c : Ctr) (n : Int) : eff (addSC s c n) = s.vec n + c.vec 1 := by
  simp [addSC, delta, vadd_nil]
@[simp] theorem eff_subSC (s c : Ctr) (n : Int) : eff (subSC s c n) = s.vec (-n) + c.vec (-1) := by
  simp [subSC, delta, vadd_nil]
@[simp] theorem eff_allocOps (b : Buf) : eff (allocOps b) = allocVec b := by
  unfold allocOps allocVec; cases b.inC <;> simp [Ctr.vec] <;> vec
@[simp] theorem eff_freeOps (b : Buf) : eff (freeOps b) = -allocVec b := by
  unfold freeOps allocVec; cases b.inC <;> simp [Ctr.vec] <;> vec

theorem eff_readOps (r : RdBuf) : eff (readOps r) = heldVec r.fin := by
  unfold readOps
  cases hd : r.dec <;> simp [eff_append, RdBuf.fin, hd] <;> vec

theorem eff_releaseOps (b : Buf) : eff (releaseOps b) = -heldVec b := by
  unfold releaseOps; simp [eff_append]; vec

theorem eff_flatMap_release (bs : List Buf) : eff (bs.flatMap releaseOps) = -vsum (bs.map heldVec) := by
  simp only [eff_flatMap, eff_releaseOps, vsum_map_neg]

theorem eff_compressOps (cur : Buf) (a : Attempt) : eff (compressOps cur a) = setVec (a.out cur) + -setVec cur := by
  unfold compressOps
  have h0 : eff (a.tries.flatMap (fun t => allocOps t ++ freeOps t)) = nil := by
    rw [eff_flatMap]
    exact vsum_map_nil _ _ fun t _ => by rw [eff_append, eff_allocOps, eff_freeOps, vadd_neg]
  cases hc : a.comp <;> simp [eff_append, h0, Attempt.out, hc] <;> vec

theorem eff_handOver (b : Buf) : eff (handOver b) = ownVec b + -setVec b := by
  unfold handOver; simp [eff_append]; vec

/-- `SetData.SubSizeAndCount(Cap)`; `CArray.Free()`.  With the sum so far in front: `eff_microOps` brackets its sums to the
    left, where the two blocks are not a subterm of their own -/
theorem eff_unset (x : Ledger) (b : Buf) : x + eff (subSC .setS .setC b.cap) + eff (freeOps b) = x + -setVec b := by
  simp; vec

theorem eff_storeHead (b : Buf) : eff (storeHead b) = -tok + setVec b := by
  unfold storeHead; simp [eff_append]; vec

theorem eff_incrHead : eff incrHead = -tok + setVec (heap 0) := by
  unfold incrHead; simp; vec

theorem vec_setC_neg_one : Ctr.vec .setC (-1) = -setVec (heap 0) := by vec

theorem setVec_units (b : Buf) : allocVec b + Ctr.vec .setS b.cap + Ctr.vec .setC 1 = setVec b := by vec
theorem setVec_heap_zero : setVec (heap 0) = Ctr.vec .setC 1 := by vec

theorem eff_tail : eff tail = tok := by
  unfold tail; simp; vec

def leakK : KeyRead → Ledger
  | .readErrLeak b => allocVec b
  | .decompFailLeak _ diff => Ctr.vec .getS diff
  | _ => nil

/-- what a served command leaves behind for good (`leakK`: one key of a get), in unit vectors `Ctr.vec`; `setVec_units`,
    `setVec_heap_zero` tie them to the block effects.  `getPanic`: no `CleanBuffer` runs after the recovered panic, so all
    that was read stays held. -/
def leak : Outcome → Ledger
  | .get keys _ => vsum (keys.map leakK)
  | .getPanic keys raw => vsum ((keys.flatMap keyHeld).map heldVec) + vsum (keys.map leakK) + heldVec raw
  | .store body .recvTimeoutLeak => allocVec body + Ctr.vec .setS body.cap + Ctr.vec .setC 1
  | .incr .recvTimeoutLeak => Ctr.vec .setC 1
  | .incr (.failed old) => leakK old
  | .incr (.written old _) => leakK old
  | _ => nil

theorem eff_keyOps (k : KeyRead) : eff (keyOps k) = leakK k + vsum ((keyHeld k).map heldVec) := by
  cases k with
  | miss => exact (vadd_nil _).symm
  | transient r => simp only [keyOps, keyHeld, leakK, eff_append, eff_readOps, eff_releaseOps, vadd_neg]; rfl
  | hit r => simp only [keyOps, keyHeld, leakK, eff_readOps, List.map, vsum_cons, vsum_nil, nil_vadd, vadd_nil]
  | collision r1 r2 =>
    simp only [keyOps, keyHeld, leakK, eff_append, eff_readOps, eff_releaseOps, List.map, vsum_cons, vsum_nil, nil_vadd,
      vadd_nil, vadd_tele0]
  | readErrLeak b => simp [keyOps, keyHeld, leakK, eff_append]; vec
  | decompFailLeak raw d => simp [keyOps, keyHeld, leakK, eff_append]; vec

theorem eff_flatMap_keyOps (ks : List KeyRead) :
    eff (ks.flatMap keyOps) = vsum (ks.map leakK) + vsum ((ks.flatMap keyHeld).map heldVec) := by
  induction ks with
  | nil => exact (vadd_nil _).symm
  | cons k ks ih =>
    simp only [List.flatMap_cons, eff_append, eff_keyOps, ih, List.map_cons, vsum_cons, List.map_append, vsum_append]
    ac_rfl

@[simp] theorem pushes_addSC (s c : Ctr) (n : Int) : pushes (addSC s c n) = [] := rfl
@[simp] theorem pushes_subSC (s c : Ctr) (n : Int) : pushes (subSC s c n) = [] := rfl
@[simp] theorem pushes_allocOps (b : Buf) : pushes (allocOps b) = [] := by unfold allocOps; cases b.inC <;> simp
@[simp] theorem pushes_freeOps (b : Buf) : pushes (freeOps b) = [] := by unfold freeOps; cases b.inC <;> simp
@[simp] theorem pushes_readOps (r : RdBuf) : pushes (readOps r) = [] := by
  unfold readOps; cases r.dec <;> simp [pushOf]
@[simp] theorem pushes_releaseOps (b : Buf) : pushes (releaseOps b) = [] := by simp [releaseOps]
@[simp] theorem pushes_keyOps (k : KeyRead) : pushes (keyOps k) = [] := by
  cases k <;> simp [keyOps, pushOf]
@[simp] theorem pushes_compressOps (cur : Buf) (a : Attempt) : pushes (compressOps cur a) = [] := by
  unfold compressOps
  have : pushes (a.tries.flatMap (fun t => allocOps t ++ freeOps t)) = [] := pushes_flatMap_nil _ _ (by simp)
  cases a.comp <;> simp [this, pushOf]
@[simp] theorem pushes_handOver (b : Buf) : pushes (handOver b) = [b] := by simp [handOver, pushOf]
@[simp] theorem pushes_storeHead (b : Buf) : pushes (storeHead b) = [] := by simp [storeHead, pushOf]
@[simp] theorem pushes_tail : pushes tail = [] := rfl
@[simp] theorem pushes_incrHead : pushes incrHead = [] := rfl
@[simp] theorem pushes_flatMap_keyOps (ks : List KeyRead) : pushes (ks.flatMap keyOps) = [] := pushes_flatMap_nil _ _ pushes_keyOps
@[simp] theorem pushes_flatMap_releaseOps (bs : List Buf) : pushes (bs.flatMap releaseOps) = [] := pushes_flatMap_nil _ _ pushes_releaseOps

/-- `CleanBuffer` walks a Go map: the release order is SOME permutation of the buffers the gets returned -/
def RelOK (o : Outcome) : Prop := ∀ keys rel, o = .get keys rel → rel.Perm (keys.flatMap keyHeld)

instance (o : Outcome) : Decidable (RelOK o) :=
  match o with
  | .get keys rel => decidable_of_iff (rel.Perm (keys.flatMap keyHeld))
      ⟨fun h _ _ e => by cases e; exact h, fun h => h keys rel rfl⟩
  | .plain | .getPanic .. | .store .. | .incr .. => isTrue nofun

/-- each command is a bracket `-tok … tok` (`vadd_bracket`) around a chain in which every block gives back what the block
    before it took (`vadd_neg_cancel`, `vadd_tele`), up to the buffer handed over and the leak -/
theorem eff_microOps (o : Outcome) (hrel : RelOK o) : eff (microOps o) = ownSum (pushes (microOps o)) + leak o := by
  cases o with
  | plain => exact (vadd_nil _).symm
  | get keys rel =>
    simp only [microOps, eff_append, eff_cons, eff_nil, delta_io, delta_tokGet, eff_flatMap_keyOps, eff_flatMap_release,
      vsum_perm ((hrel keys rel rfl).map heldVec), ← vadd_assoc, vadd_nil, vadd_neg_cancel, vadd_bracket,
      pushes_append, pushes_cons, pushes_nil, pushes_flatMap_keyOps, pushes_flatMap_releaseOps, pushOf,
      List.append_nil, ownSum_nil, nil_vadd, leak]
  | getPanic keys raw =>
    simp [microOps, eff_append, eff_flatMap_keyOps, pushOf, leak]; vec
  | store body e =>
    cases e <;>
    simp only [microOps, eff_append, eff_cons, eff_nil, delta_tokGet, eff_storeHead, eff_compressOps, eff_handOver, eff_unset,
      eff_tail, ← vadd_assoc, vadd_nil, vadd_neg_cancel, vadd_tele, vadd_bracket, vneg_vadd,
      pushes_append, pushes_cons, pushes_nil, pushes_storeHead, pushes_compressOps, pushes_handOver, pushes_subSC,
      pushes_freeOps, pushes_tail, pushOf, List.append_nil, List.nil_append, ownSum_cons, ownSum_nil, nil_vadd, leak,
      setVec_units]
  | incr e =>
    cases e with
    | written old a =>
      -- the leak of the old value's read is carried along to the left of the buffer in hand
      simp only [microOps, eff_append, eff_incrHead, eff_keyOps, eff_flatMap_release, eff_compressOps, eff_handOver, eff_tail,
        ← vadd_assoc, vadd_right_comm _ (setVec _) (leakK _), vadd_neg_cancel, vadd_tele,
        pushes_append, pushes_incrHead, pushes_keyOps, pushes_flatMap_releaseOps, pushes_compressOps, pushes_handOver,
        pushes_tail, List.append_nil, List.nil_append, ownSum_cons, ownSum_nil, vadd_nil, leak]
      rw [vadd_assoc (-tok), vadd_bracket, vadd_comm]
    | _ =>
      simp only [microOps, eff_append, eff_cons, eff_nil, delta_add, vec_setC_neg_one, eff_incrHead, eff_keyOps,
        eff_flatMap_release, eff_tail, ← vadd_assoc, vadd_nil, vadd_neg_cancel, vadd_tele, vadd_bracket, vneg_vadd,
        setVec_heap_zero, pushes_append, pushes_cons, pushes_nil, pushes_incrHead, pushes_keyOps, pushes_flatMap_releaseOps,
        pushes_tail, pushOf, List.append_nil, ownSum_nil, nil_vadd, leak]

@[simp] theorem resid_nil : resid [] = nil := rfl

theorem resid_snoc (d : List LedgerOp) (op : LedgerOp) : resid (d ++ [op]) = resid d + (delta op + -ownSum (pushOf op)) := by
  simp only [resid, eff_append, pushes_append, ownSum_append, eff_cons, eff_nil, pushes_cons, pushes_nil, List.append_nil,
    vsub_eq, vneg_add, vadd_nil]
  ac_rfl

theorem resid_microOps (o : Outcome) (h : RelOK o) : resid (microOps o) = leak o := by
  rw [resid, eff_microOps o h, vsub_eq, vadd_tele0]

theorem leakK_clean (k : KeyRead) (h : k.clean = true) : leakK k = nil := by
  cases k <;> simp [KeyRead.clean] at h <;> rfl

theorem leak_clean (o : Outcome) (h : o.clean = true) : leak o = nil := by
  cases o with
  | plain => rfl
  | get keys rel =>
    simp only [Outcome.clean, List.all_eq_true] at h
    exact vsum_map_nil _ _ (fun k hk => leakK_clean k (h k hk))
  | getPanic keys raw => simp [Outcome.clean] at h
  | store body e => cases e <;> simp [Outcome.clean] at h <;> rfl
  | incr e =>
    cases e <;> simp [Outcome.clean] at h <;> simp [leak, leakK_clean, h]

theorem resid_clean (o : Outcome) (h : o.clean = true ∧ RelOK o) : resid (microOps o) = nil := by
  rw [resid_microOps o h.2, leak_clean o h.1]

/-- `tokWF` and the `tokens` component of `eff` see only the token operations (`tokWF_filter`, `eff_tokens_filter`): both
    are computed block by block on `ops.filter isTok` (the lemmas `ft_*`) -/
def isTok : LedgerOp → Bool
  | .tokGet => true
  | .tokPut => true
  | _ => false

theorem tokWF_filter (h : Bool) (ops : List LedgerOp) : tokWF h ops = tokWF h (ops.filter isTok) := by
  induction ops generalizing h with
  | nil => rfl
  | cons op ops ih => cases op <;> simp [List.filter_cons, isTok, tokWF, ih]

theorem eff_tokens_filter (ops : List LedgerOp) : (eff ops).tokens = (eff (ops.filter isTok)).tokens := by
  induction ops with
  | nil => rfl
  | cons op ops ih => cases op <;> simp [List.filter_cons, isTok, delta, ih]

theorem filterTok_flatMap_nil {α} (f : α → List LedgerOp) (l : List α) (h : ∀ x, (f x).filter isTok = []) :
    (l.flatMap f).filter isTok = [] := by
  rw [List.filter_flatMap]; exact List.flatMap_eq_nil_iff.mpr fun x _ => h x

@[simp] theorem ft_addSC (s c : Ctr) (n : Int) : (addSC s c n).filter isTok = [] := rfl
@[simp] theorem ft_subSC (s c : Ctr) (n : Int) : (subSC s c n).filter isTok = [] := rfl
@[simp] theorem ft_allocOps (b : Buf) : (allocOps b).filter isTok = [] := by unfold allocOps; cases b.inC <;> simp
@[simp] theorem ft_freeOps (b : Buf) : (freeOps b).filter isTok = [] := by unfold freeOps; cases b.inC <;> simp
@[simp] theorem ft_readOps (r : RdBuf) : (readOps r).filter isTok = [] := by
  unfold readOps; cases r.dec <;> simp [List.filter_append, isTok]
@[simp] theorem ft_releaseOps (b : Buf) : (releaseOps b).filter isTok = [] := by simp [releaseOps, List.filter_append]
@[simp] theorem ft_keyOps (k : KeyRead) : (keyOps k).filter isTok = [] := by
  cases k <;> simp [keyOps, List.filter_append, isTok]
@[simp] theorem ft_compressOps (cur : Buf) (a : Attempt) : (compressOps cur a).filter isTok = [] := by
  unfold compressOps
  have : (a.tries.flatMap (fun t => allocOps t ++ freeOps t)).filter isTok = [] :=
    filterTok_flatMap_nil _ _ (by simp [List.filter_append])
  cases a.comp <;> simp [List.filter_append, this, isTok]
@[simp] theorem ft_handOver (b : Buf) : (handOver b).filter isTok = [] := by
  simp [handOver, List.filter_append, isTok]
@[simp] theorem ft_storeHead (b : Buf) : (storeHead b).filter isTok = [.tokGet] := by
  simp [storeHead, List.filter_append, List.filter_cons, isTok]
@[simp] theorem ft_tail : tail.filter isTok = [.tokPut] := rfl
@[simp] theorem ft_incrHead : incrHead.filter isTok = [.tokGet] := rfl
@[simp] theorem ft_flatMap_keyOps (ks : List KeyRead) : (ks.flatMap keyOps).filter isTok = [] := filterTok_flatMap_nil _ _ ft_keyOps
@[simp] theorem ft_flatMap_releaseOps (bs : List Buf) : (bs.flatMap releaseOps).filter isTok = [] := filterTok_flatMap_nil _ _ ft_releaseOps

theorem microOps_tokWF (o : Outcome) : tokWF false (microOps o) = true := by
  rw [tokWF_filter]
  cases o with
  | store body e => cases e <;> simp [microOps, List.filter_append, List.filter_cons, isTok, tokWF]
  | incr e => cases e <;> simp [microOps, List.filter_append, isTok, tokWF]
  | _ => simp [microOps, List.filter_append, List.filter_cons, isTok, tokWF]

/-- a command that gives back all it took but what it handed to the write buffer -/
def Balanced (ops : List LedgerOp) : Prop := tokWF false ops = true ∧ eff ops = ownSum (pushes ops)

theorem balanced_iff (ops : List LedgerOp) : Balanced ops ↔ tokWF false ops = true ∧ resid ops = nil := by
  unfold Balanced resid
  refine and_congr_right fun _ => ⟨fun h => by rw [h]; exact vadd_neg _, fun h => ?_⟩
  exact vadd_right_cancel (c := -ownSum (pushes ops)) (h.trans (vadd_neg _).symm)

theorem microOps_balanced (o : Outcome) (h : o.clean = true ∧ RelOK o) : Balanced (microOps o) :=
  ⟨microOps_tokWF o, by rw [eff_microOps o h.2, leak_clean o h.1, vadd_nil]⟩

theorem eff_flushOps (batch : List Buf) : eff (flushOps batch) = -ownSum batch := by
  have one (b : Buf) : eff (subSC .flushS .flushC b.cap) + eff (freeOps b) = -ownVec b := by simp; vec
  have h : eff (batch.flatMap (fun b => subSC .flushS .flushC b.cap)) + eff (batch.flatMap freeOps) = -ownSum batch := by
    induction batch with
    | nil => exact vadd_nil _
    | cons b bs ih =>
      rw [List.flatMap_cons, List.flatMap_cons, eff_append, eff_append, ownSum_cons, vneg_add, ← ih, ← one]
      ac_rfl
  simpa only [flushOps, eff_append, eff_cons, eff_nil, delta_io, vadd_nil] using h

theorem ft_flushOps (batch : List Buf) : (flushOps batch).filter isTok = [] := by
  unfold flushOps
  have h1 : (batch.flatMap (fun b => subSC .flushS .flushC b.cap)).filter isTok = [] := filterTok_flatMap_nil _ _ (by simp)
  have h2 : (batch.flatMap freeOps).filter isTok = [] := filterTok_flatMap_nil _ _ ft_freeOps
  simp [List.filter_append, h1, h2, isTok]

def b2i (b : Bool) : Int := if b then 1 else 0
@[simp] theorem b2i_true : b2i true = 1 := rfl
@[simp] theorem b2i_false : b2i false = 0 := rfl

theorem tokWF_prefix : ∀ (d t : List LedgerOp) (h : Bool), tokWF h (d ++ t) = true →
    tokWF (holdingFrom h d) t = true ∧ (eff d).tokens = b2i h - b2i (holdingFrom h d) := by
  intro d
  induction d with
  | nil => intro t h hw; exact ⟨hw, by simp [holdingFrom]⟩
  | cons op d ih =>
    intro t h hw
    cases op <;> simp [tokWF, holdingFrom] at hw ⊢
    · obtain ⟨h1, h2⟩ := ih t true hw.2
      exact ⟨h1, by rw [h2]; simp [delta, hw.1]; omega⟩
    · obtain ⟨h1, h2⟩ := ih t false hw.2
      exact ⟨h1, by rw [h2]; simp [delta, hw.1]; omega⟩
    all_goals
      obtain ⟨h1, h2⟩ := ih t h hw
      exact ⟨h1, by rw [h2]; simp [delta]⟩

theorem resid_tokens_prefix {d t : List LedgerOp} {h : Bool} (hw : tokWF h (d ++ t) = true) :
    (resid d).tokens = b2i h - b2i (holdingFrom h d) := by
  rw [resid, sub_tokens, ownSum_tokens, (tokWF_prefix d t h hw).2]; omega

theorem resid_tokens {p : List LedgerOp} (hp : tokWF false p = true) : (resid p).tokens = 0 := by
  have hw : tokWF false (p ++ []) = true := by rwa [List.append_nil]
  have hd : holdingFrom false p = false := by simpa [tokWF] using (tokWF_prefix p [] false hw).1
  rw [resid_tokens_prefix hw, hd]; rfl

end LedgerConc
