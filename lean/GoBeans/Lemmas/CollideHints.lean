/-
  The hint manager as the collision path sees it, on hint chunks whose closed splits are all written (`CkGood`):
  `HCk.get` is a search through item lists (`ckGet_eq`); `trydump` and `hintMgr.setItem` have closed forms (the chunk and
  `maxDumpedHintID` afterwards).
-/
import GoBeans.Lemmas.CollideBuf
namespace CollideLemmas
open Store Spec HintIndex Collide HintBufferLemmas HintLoadLemmas HintIndexLemmas

def mkSplit (f : SplitFile) : HSplit := { buf := none, file := some f }

theorem mkSplit_file (f : SplitFile) : (mkSplit f).file = some f := rfl

def IsFile (sp : HSplit) : Prop := sp.buf = none ∧ ∃ f, sp.file = some f ∧ NodupKey f.items

def spItems (sp : HSplit) : List Item :=
  match sp.file with
  | some f => f.items
  | none => match sp.buf with | some b => b.items | none => []

theorem spItems_file {sp : HSplit} {f : SplitFile} (hf : sp.file = some f) : spItems sp = f.items := by
  unfold spItems; rw [hf]

theorem spItems_buf {sp : HSplit} {b : Buf} (hfn : sp.file = none) (hb : sp.buf = some b) : spItems sp = b.items := by
  unfold spItems; rw [hfn, hb]

def AllFiles (old : List HSplit) : Prop := ∀ sp ∈ old, IsFile sp

theorem isFile_eta {sp : HSplit} (h : IsFile sp) : ∃ f, sp = mkSplit f ∧ NodupKey f.items := by
  obtain ⟨hb, f, hf, hn⟩ := h
  refine ⟨f, ?_, hn⟩
  cases sp with
  | mk b fl => simp only at hb hf; subst hb; subst hf; rfl

theorem allFiles_eq_map {old : List HSplit} (h : AllFiles old) : ∃ fl : List SplitFile, old = fl.map mkSplit := by
  induction old with
  | nil => exact ⟨[], rfl⟩
  | cons sp rest ih =>
    obtain ⟨fl, e⟩ := ih (fun s hs => h s (by simp [hs]))
    obtain ⟨f, ef, _⟩ := isFile_eta (h sp (by simp))
    exact ⟨f :: fl, by rw [ef, e]; rfl⟩

/-- what makes the lookups of `HCk.get` searches in item lists.  The invariant `HsG` carries the weaker `OldF`: the
    `NodupKey` half follows from `CkI` (`ckGood_of`) -/
structure CkGood (ck : HCk) : Prop where
  last : BufInv ck.last
  files : AllFiles ck.old

def firstLk (ls : List (List Item)) (h : Nat) (k : Key) : Option Item := ls.findSome? (fun l => lk l h k)

/-- the item lists `HCk.get` searches, in search order -/
def ckLists (ck : HCk) : List (List Item) := ck.last.items :: ck.old.reverse.map spItems

theorem fileGo_eq (h : Nat) (k : Key) (l : List HSplit) (hl : ∀ sp ∈ l, IsFile sp) :
    fileGo h k l = firstLk (l.map spItems) h k := by
  induction l with
  | nil => rfl
  | cons sp rest ih =>
    obtain ⟨hb, f, hf, _⟩ := hl sp List.mem_cons_self
    have ih' := ih (fun s hs => hl s (List.mem_cons_of_mem _ hs))
    unfold fileGo firstLk
    simp only [hf, List.map_cons, List.findSome?_cons]
    rw [spItems_file hf, fileGet_eq]
    cases lk f.items h k with
    | some it => rfl
    | none => exact ih'

theorem memGo_files (h : Nat) (k : Key) (l : List HSplit) (hl : ∀ sp ∈ l, IsFile sp) :
    memGo h k l = firstLk (l.map spItems) h k := by
  cases l with
  | nil => rfl
  | cons sp rest =>
    rw [← fileGo_eq h k _ hl]
    unfold memGo
    rw [(hl sp List.mem_cons_self).1]

theorem firstLk_cons (l : List Item) (ls : List (List Item)) (h : Nat) (k : Key) :
    firstLk (l :: ls) h k = (lk l h k).or (firstLk ls h k) := by
  unfold firstLk
  rw [List.findSome?_cons]
  cases lk l h k <;> rfl

theorem ckGet_eq (ck : HCk) (g : CkGood ck) (h : Nat) (k : Key) : ck.get h k = firstLk (ckLists ck) h k := by
  unfold HCk.get ckLists
  rw [firstLk_cons, bufGet_fst _ g.last]
  cases lk ck.last.items h k with
  | some it => rfl
  | none => exact memGo_files h k _ (fun sp hsp => g.files sp (List.mem_reverse.mp hsp))

def InCk (ck : HCk) (x : Item) : Prop := x ∈ ck.last.items ∨ ∃ sp ∈ ck.old, x ∈ spItems sp

theorem get_inck {ck : HCk} (g : CkGood ck) {h : Nat} {k : Key} {it : Item} (e : ck.get h k = some it) :
    InCk ck it ∧ it.khash = h ∧ it.key = k := by
  rw [ckGet_eq ck g] at e
  obtain ⟨l, hlm, hfe⟩ := List.exists_of_findSome?_eq_some e
  obtain ⟨a, b, c⟩ := lk_some hfe
  refine ⟨?_, b, c⟩
  rcases List.mem_cons.mp hlm with rfl | hlm
  · exact Or.inl a
  · obtain ⟨sp, hsp, rfl⟩ := List.mem_map.mp hlm
    exact Or.inr ⟨sp, by simpa using hsp, a⟩

def dumpIf (sp : HSplit) : HSplit := if sp.needDump then sp.dumped else sp

theorem dumpOldGo_fst (c : Nat) (l : List HSplit) : ∀ (j : Nat) (md : Nat × Int), (dumpOldGo c j l md).1 = l.map dumpIf := by
  induction l with
  | nil => intro j md; rfl
  | cons sp rest ih =>
    intro j md
    unfold dumpOldGo
    simp only [List.map_cons]
    rw [ih]
    rfl

def dumpsLast (hs : Hints) (c : Nat) (dl : Bool) : Bool := !((!dl && c == hs.maxChunk) || (hs.chunks c).last.items.isEmpty)

theorem trydump_eq (hs : Hints) (c : Nat) (dl : Bool) :
    hs.trydump c dl =
      if dumpsLast hs c dl then
        { hs.setCk c { old := (hs.chunks c).old.map dumpIf ++ [mkSplit (hs.chunks c).last.dump], last := {} } with
          maxDumped := setIfLarger (dumpOldGo c 0 (hs.chunks c).old hs.maxDumped).2 c (hs.chunks c).old.length }
      else { hs.setCk c { (hs.chunks c) with old := (hs.chunks c).old.map dumpIf } with
             maxDumped := (dumpOldGo c 0 (hs.chunks c).old hs.maxDumped).2 } := by
  unfold Hints.trydump dumpsLast
  simp only [dumpOldGo_fst, List.length_map]
  cases ((!dl && c == hs.maxChunk) || (hs.chunks c).last.items.isEmpty) <;> rfl

theorem dumpsLast_nonempty {hs : Hints} {c : Nat} {dl : Bool} (h : dumpsLast hs c dl = true) : (hs.chunks c).last.items ≠ [] := by
  intro he; simp [dumpsLast, he] at h

theorem IsFile.needDump {sp : HSplit} (h : IsFile sp) : sp.needDump = false := by
  obtain ⟨_, f, hf, _⟩ := h
  unfold HSplit.needDump; rw [hf]; rfl

theorem needDump_buf {sp : HSplit} {b : Buf} (hfn : sp.file = none) (hb : sp.buf = some b) (hne : b.items ≠ []) :
    sp.needDump = true := by
  unfold HSplit.needDump; rw [hfn, hb]
  cases hi : b.items with
  | nil => exact absurd hi hne
  | cons _ _ => simp only [hi]; rfl

theorem dumpIf_file {sp : HSplit} (h : IsFile sp) : dumpIf sp = sp := by
  unfold dumpIf; rw [h.needDump]; rfl

theorem setCk_chunks (hs : Hints) (c : Nat) (ck : HCk) (j : Nat) :
    (hs.setCk c ck).chunks j = if j = c then ck else hs.chunks j := rfl

theorem setCk_forall {P : Nat → HCk → Prop} {hs : Hints} (c : Nat) {ck : HCk} (h : ∀ j, j ≠ c → P j (hs.chunks j)) (hck : P c ck) :
    ∀ j, P j ((hs.setCk c ck).chunks j) := by
  intro j
  rw [setCk_chunks]
  by_cases hj : j = c
  · rw [if_pos hj, hj]; exact hck
  · rw [if_neg hj]; exact h j hj

theorem setCk_self (hs : Hints) (c : Nat) : (hs.setCk c (hs.chunks c)).chunks = hs.chunks :=
  funext (setCk_forall (P := fun j ck => ck = hs.chunks j) c (fun _ _ => rfl) rfl)

theorem map_dumpIf_files {old : List HSplit} (h : AllFiles old) : old.map dumpIf = old :=
  (List.map_congr_left fun sp hsp => dumpIf_file (h sp hsp)).trans (List.map_id _)

theorem dumpOldGo_files (c : Nat) (old : List HSplit) (h : AllFiles old) : ∀ (j : Nat) (md : Nat × Int), (dumpOldGo c j old md).2 = md := by
  induction old with
  | nil => intro j md; rfl
  | cons sp rest ih =>
    intro j md
    unfold dumpOldGo
    simp only [(h sp List.mem_cons_self).needDump, Bool.false_eq_true, if_false]
    exact ih (fun s hs => h s (List.mem_cons_of_mem _ hs)) (j + 1) md

theorem trydump_cases (hs : Hints) (c : Nat) (dl : Bool) (g : CkGood (hs.chunks c)) :
    (hs.trydump c dl = hs ∧ (dl = true → (hs.chunks c).last.items = []))
    ∨ ((hs.chunks c).last.items ≠ [] ∧
        hs.trydump c dl = { hs.setCk c { old := (hs.chunks c).old ++ [mkSplit (hs.chunks c).last.dump], last := {} } with
                            maxDumped := setIfLarger hs.maxDumped c (hs.chunks c).old.length }) := by
  rw [trydump_eq, map_dumpIf_files g.files, dumpOldGo_files c _ g.files]
  by_cases hd : dumpsLast hs c dl = true
  · rw [if_pos hd]; exact Or.inr ⟨dumpsLast_nonempty hd, rfl⟩
  · rw [if_neg hd]
    refine Or.inl ⟨?_, fun hdl => ?_⟩
    · show ({ hs with chunks := (hs.setCk c (hs.chunks c)).chunks } : Hints) = hs
      rw [setCk_self]
    · subst hdl; simpa [dumpsLast] using hd

theorem files_snoc_ex {P : SplitFile → Prop} {old : List HSplit} {f0 : SplitFile} :
    (∃ sp ∈ old ++ [mkSplit f0], ∃ f, sp.file = some f ∧ P f) ↔ (∃ sp ∈ old, ∃ f, sp.file = some f ∧ P f) ∨ P f0 := by
  simp only [List.mem_append, List.mem_singleton, or_and_right, exists_or, exists_eq_left, mkSplit_file, Option.some.injEq,
    exists_eq_left']

theorem isLarger_iff (a : Nat × Int) (ck : Nat) (sp : Int) : isLarger a ck sp = true ↔ a.1 < ck ∨ (ck = a.1 ∧ a.2 ≤ sp) := by
  unfold isLarger
  simp only [Bool.or_eq_true, Bool.and_eq_true, decide_eq_true_eq, gt_iff_lt, ge_iff_le]

theorem isLarger_refl (a : Nat × Int) : isLarger a a.1 a.2 = true :=
  (isLarger_iff a a.1 a.2).mpr (Or.inr ⟨rfl, Int.le_refl _⟩)

theorem isLarger_trans (a : Nat × Int) (b : Nat × Int) (ck : Nat) (sp : Int) (h1 : isLarger a b.1 b.2 = true) (h2 : isLarger b ck sp = true) :
    isLarger a ck sp = true := by
  rw [isLarger_iff] at *
  omega

theorem isLarger_setIfLarger (a b : Nat × Int) (ck : Nat) (sp : Int) (h : isLarger a b.1 b.2 = true) :
    isLarger a (setIfLarger b ck sp).1 (setIfLarger b ck sp).2 = true := by
  unfold setIfLarger
  by_cases hl : isLarger b ck sp = true
  · rw [if_pos hl]; exact isLarger_trans a b ck sp h hl
  · rw [if_neg hl]; exact h

/-- the split id `(c, j)` is at or below `md` (`isLarger a c j`: `a` is at or below `(c, j)`, `isLarger_iff`) -/
def idLe (c j : Nat) (md : Nat × Int) : Prop := isLarger (c, (j : Int)) md.1 md.2 = true

theorem setIfLarger_or (md : Nat × Int) (c : Nat) (j : Int) : setIfLarger md c j = md ∨ (setIfLarger md c j).1 = c := by
  unfold setIfLarger
  split
  · exact Or.inr rfl
  · exact Or.inl rfl

theorem idLe_setIfLarger_self (md : Nat × Int) (c j : Nat) : idLe c j (setIfLarger md c j) := by
  unfold idLe setIfLarger
  by_cases hl : isLarger md c (j : Int) = true
  · rw [if_pos hl]; exact isLarger_refl (c, (j : Int))
  · rw [if_neg hl]
    rw [isLarger_iff] at hl ⊢
    omega

theorem idLe_snoc {c n : Nat} {md : Nat × Int} (h : ∀ i, i < n → idLe c i md) : ∀ i, i < n + 1 → idLe c i (setIfLarger md c n) := by
  intro i hi
  by_cases hil : i < n
  · exact isLarger_setIfLarger _ _ _ _ (h i hil)
  · rw [show i = n by omega]; exact idLe_setIfLarger_self _ _ _

/-- `maxDumpedHintID` does not go down; in this form it applies to a `TreeID` at or below it as it stands -/
def MdMono (hs hs' : Hints) : Prop := ∀ a, isLarger a hs.maxDumped.1 hs.maxDumped.2 = true → isLarger a hs'.maxDumped.1 hs'.maxDumped.2 = true

theorem mdMono_refl (hs : Hints) : MdMono hs hs := fun _ h => h
theorem mdMono_trans {a b c : Hints} (h1 : MdMono a b) (h2 : MdMono b c) : MdMono a c := fun x h => h2 x (h1 x h)

theorem dumpOldGo_snoc (c : Nat) (old : List HSplit) (h : AllFiles old) (sp : HSplit) (hn : sp.needDump = true) :
    ∀ (j : Nat) (md : Nat × Int), dumpOldGo c j (old ++ [sp]) md = (old ++ [sp.dumped], setIfLarger md c (j + old.length)) := by
  induction old with
  | nil =>
    intro j md
    simp only [List.nil_append, List.length_nil]
    unfold dumpOldGo
    simp only [hn, if_true]
    unfold dumpOldGo
    rfl
  | cons s0 rest ih =>
    intro j md
    simp only [List.cons_append]
    unfold dumpOldGo
    simp only [(h s0 List.mem_cons_self).needDump, Bool.false_eq_true, if_false]
    rw [ih (fun s hs => h s (List.mem_cons_of_mem _ hs)) (j + 1) md]
    simp only [List.length_cons]
    have : ((j + 1 : Nat) : Int) + (rest.length : Int) = (j : Int) + ((rest.length + 1 : Nat) : Int) := by omega
    rw [this]

/-- `hintMgr.setItem` after a refused `Set`: the full buffer is closed and written; the item, alone in a fresh buffer, is
    written at once too unless the chunk is `maxChunkID` -/
theorem setItem_refused_form (cap : Nat) (hcap : 1 ≤ cap) (hs : Hints) (it : Item) (c : Nat) (sz : Nat) (g : CkGood (hs.chunks c))
    (ha : ((hs.chunks c).last.set cap it sz).2 = false) :
    (hs.setItem cap it c sz).1.chunks c =
      (if c = hs.maxChunk then
        { old := (hs.chunks c).old ++ [mkSplit ((hs.chunks c).last.set cap it sz).1.dump],
          last := (({} : Buf).set cap it sz).1 }
       else
        { old := (hs.chunks c).old ++ [mkSplit ((hs.chunks c).last.set cap it sz).1.dump]
                  ++ [mkSplit (({} : Buf).set cap it sz).1.dump],
          last := {} })
    ∧ (∀ j, j ≠ c → (hs.setItem cap it c sz).1.chunks j = hs.chunks j)
    ∧ (hs.setItem cap it c sz).1.maxDumped =
        (if c = hs.maxChunk then setIfLarger hs.maxDumped c (hs.chunks c).old.length
         else setIfLarger (setIfLarger hs.maxDumped c (hs.chunks c).old.length) c ((hs.chunks c).old.length + 1 : Nat)) := by
  have hne := refused_nonempty cap hcap _ it sz ha
  have hfr : (({} : Buf).set cap it sz).1.items.isEmpty = false := by rw [(set_fresh cap hcap it sz).1]; rfl
  unfold Hints.setItem HCk.setItem
  simp only [ha, Bool.false_eq_true, if_false, if_true]
  generalize ((hs.chunks c).last.set cap it sz).1 = b' at hne ⊢
  generalize (({} : Buf).set cap it sz).1 = fr at hfr ⊢
  have hnd : ({ buf := some b', file := none } : HSplit).needDump = true := needDump_buf rfl rfl hne
  unfold Hints.trydump
  simp only [setCk_chunks, if_true, dumpOldGo_snoc c _ g.files _ hnd 0 _, Bool.not_false, Bool.true_and, hfr, Bool.or_false, beq_iff_eq]
  rw [show (hs.setCk c { old := (hs.chunks c).old ++ [{ buf := some b', file := none }], last := fr }).maxChunk = hs.maxChunk from rfl,
    show ({ buf := some b', file := none } : HSplit).dumped = mkSplit b'.dump from rfl,
    show (((0 : Nat) : Int) + (((hs.chunks c).old.length : Nat) : Int)) = (((hs.chunks c).old.length : Nat) : Int) by omega]
  split
  · exact ⟨if_pos rfl, fun j hj => by simp only [setCk_chunks, if_neg hj], rfl⟩
  · refine ⟨if_pos rfl, fun j hj => by simp only [setCk_chunks, if_neg hj], ?_⟩
    simp only [List.length_append, List.length_singleton]
    rfl
theorem setItem_accepted_form (cap : Nat) (hs : Hints) (it : Item) (c : Nat) (sz : Nat)
    (ha : ((hs.chunks c).last.set cap it sz).2 = true) :
    (hs.setItem cap it c sz).1.chunks c = { (hs.chunks c) with last := ((hs.chunks c).last.set cap it sz).1 }
    ∧ (∀ j, j ≠ c → (hs.setItem cap it c sz).1.chunks j = hs.chunks j)
    ∧ (hs.setItem cap it c sz).1.maxDumped = hs.maxDumped := by
  unfold Hints.setItem HCk.setItem
  simp only [ha, if_true, Bool.false_eq_true, if_false, setCk_chunks]
  exact ⟨trivial, fun j hj => if_neg hj, rfl⟩

/-- a non-empty data file is covered to its end by a split file or by the newest buffer -/
def DsFull (ck : HCk) (size : Nat) : Prop :=
  size > 0 → (∃ sp ∈ ck.old, ∃ f, sp.file = some f ∧ f.datasize = size) ∨ (ck.last.items ≠ [] ∧ ck.last.maxoffset = size)

theorem setItem_covers (cap : Nat) (hcap : 1 ≤ cap) (hs : Hints) (it : Item) (c : Nat) (sz : Nat) (g : CkGood (hs.chunks c))
    (hm : (hs.chunks c).last.maxoffset ≤ it.off) : DsFull ((hs.setItem cap it c sz).1.chunks c) (it.off + sz) := by
  intro _
  by_cases ha : ((hs.chunks c).last.set cap it sz).2 = true
  · obtain ⟨e1, _, _⟩ := setItem_accepted_form cap hs it c sz ha
    have hmo : ((hs.chunks c).last.set cap it sz).1.maxoffset = it.off + sz := by
      rw [set_maxoffset, ha]; simp only [if_true]; split <;> omega
    rw [e1]
    refine Or.inr ⟨fun he => ?_, hmo⟩
    rcases set_cases cap _ g.last it sz with ⟨e, _⟩ | ⟨_, hp⟩
    · rw [ha] at e; cases e
    · have : it ∈ ((hs.chunks c).last.set cap it sz).1.items := hp.symm.subset (by simp)
      rw [he] at this; cases this
  · -- refused: the item sits alone in a fresh buffer, or in a second file
    rw [Bool.not_eq_true] at ha
    obtain ⟨f1, f2⟩ := set_fresh cap hcap it sz
    obtain ⟨e1, _, _⟩ := setItem_refused_form cap hcap hs it c sz g ha
    rw [e1]
    split
    · exact Or.inr ⟨by rw [f1]; exact List.cons_ne_nil _ _, f2⟩
    · exact Or.inl (files_snoc_ex.mpr (Or.inr f2))

/-- `hintMgr.close` (hint.go:416-420), with `n` = `maxChunkID + 1` -/
def closeAll (hs : Hints) (n : Nat) : Hints := (List.range n).foldl (fun hs i => hs.trydump i true) hs

/-- the dumper's round (`Hints.dumpAll`, `dl = false`) and `hints.close` (`closeAll`, `dl = true`) are this fold -/
theorem trydumpFold_ind (dl : Bool) (P : Nat → Hints → Prop) {hs : Hints} (h0 : P 0 hs)
    (step : ∀ n hs', P n hs' → P (n + 1) (hs'.trydump n dl)) :
    ∀ n, P n ((List.range n).foldl (fun hs i => hs.trydump i dl) hs) := by
  intro n
  induction n with
  | zero => exact h0
  | succ n ih =>
    rw [List.range_succ, List.foldl_append]
    exact step n _ ih

theorem trydump_maxChunk (hs : Hints) (c : Nat) (dl : Bool) :
    (hs.trydump c dl).maxChunk = hs.maxChunk ∧ (hs.trydump c dl).merged = hs.merged := by
  unfold Hints.trydump
  simp only
  split <;> exact ⟨rfl, rfl⟩

theorem trydumpFold_maxChunk (dl : Bool) (n : Nat) (hs : Hints) :
    ((List.range n).foldl (fun hs i => hs.trydump i dl) hs).maxChunk = hs.maxChunk
    ∧ ((List.range n).foldl (fun hs i => hs.trydump i dl) hs).merged = hs.merged :=
  trydumpFold_ind dl (fun _ hs' => hs'.maxChunk = hs.maxChunk ∧ hs'.merged = hs.merged) ⟨rfl, rfl⟩
    (fun n hs' ih => by rw [(trydump_maxChunk hs' n dl).1, (trydump_maxChunk hs' n dl).2]; exact ih) n

theorem closeAll_maxChunk (n : Nat) (hs : Hints) : (closeAll hs n).maxChunk = hs.maxChunk ∧ (closeAll hs n).merged = hs.merged :=
  trydumpFold_maxChunk true n hs

end CollideLemmas
