/-
  C16: the regenerated hash and CRC kernels equal the reference definitions; `L_x` is the lemma behind `C16_x`
  (`utilsFnv_toNat` behind `C16_fnv_utils`).  `L_vhash` and `L_crc_chunked` ask for lengths below 2^63 because the
  kernels compare `len` as an int64 (`ofNat_le_ofNat`).
  The FNV kernels are folds, compared step by step.  The table step of the CRC equals eight bit steps (`crc8`) because
  the bit step is xor-linear (`crcBit_xor`): `crc ^^^ b` is split into its low byte and the rest (`split_lo_hi`); on the
  low byte the table holds the eight steps (`crc_table_eq`), and on the rest, whose low byte is zero, they only shift
  (`crc8_mul_256`).  That is `crc_step_nat`.
-/
import GoBeans.Gen.Kernels
import GoBeans.Spec.Hash
namespace HashLemmas

theorem forall_uint8 {P : UInt8 → Prop} (h : ∀ i : Fin 256, P (UInt8.ofFin i)) (b : UInt8) : P b := by
  have := h b.toFin; simpa using this

theorem signExt_byte (b : UInt8) : b.toInt8.toInt32.toUInt32.toNat = Ref.signExt32 b := by
  revert b; apply forall_uint8; decide +kernel

theorem gen_fnv1a_eq_fold (bs : Bytes) :
    Gen.fnv1a bs = bs.foldl (fun h b => (h ^^^ b.toInt8.toInt32.toUInt32) * 16777619) 2166136261 := by
  simp [Gen.fnv1a, Id.run]; rfl

theorem fnv_fold (bs : Bytes) (h : UInt32) :
    (bs.foldl (fun h b => (h ^^^ b.toInt8.toInt32.toUInt32) * 16777619) h).toNat
      = bs.foldl (fun h b => ((h ^^^ Ref.signExt32 b) * 16777619) % 2^32) h.toNat := by
  induction bs generalizing h with
  | nil => rfl
  | cons b bs ih =>
    simp only [List.foldl_cons]
    rw [ih, UInt32.toNat_mul, UInt32.toNat_xor, signExt_byte]
    rfl

theorem L_fnv (bs : Bytes) : (Gen.fnv1a bs).toNat = Ref.fnv1aSigned bs := by
  rw [gen_fnv1a_eq_fold, fnv_fold]; rfl

theorem gen_utilsFnv1a_eq (bs : Bytes) : Gen.utilsFnv1a bs = Gen.fnv1a bs := by
  simp [Gen.fnv1a, Gen.utilsFnv1a, Id.run]

theorem utilsFnv_toNat (bs : Bytes) : (Gen.utilsFnv1a bs).toNat = Ref.fnv1aSigned bs := by
  rw [gen_utilsFnv1a_eq, L_fnv]

theorem ofNat_le_ofNat {m n : Nat} (hm : m < 2^63) (hn : n < 2^63) : Int64.ofNat m ≤ Int64.ofNat n ↔ m ≤ n := by
  rw [Int64.le_iff_toInt_le, Int64.toInt_ofNat_of_lt hm, Int64.toInt_ofNat_of_lt hn]; omega

theorem ofNat_lt_ofNat {m n : Nat} (hm : m < 2^63) (hn : n < 2^63) : Int64.ofNat m < Int64.ofNat n ↔ m < n := by
  rw [← Int64.not_le, ofNat_le_ofNat hn hm, Nat.not_le]

theorem L_vhash (bs : Bytes) (hlen : bs.length < 2^63) : (Gen.Getvhash bs).toNat = Ref.vhash bs := by
  unfold Gen.Getvhash Ref.vhash
  simp only [Id.run, pure]
  by_cases h : bs.length ≤ 1024
  · have h' : Int64.ofNat bs.length ≤ 1024 := (ofNat_le_ofNat hlen (by decide)).2 h
    simp [h, h', utilsFnv_toNat]
  · have h' : ¬ (Int64.ofNat bs.length ≤ 1024) := fun c => h ((ofNat_le_ofNat hlen (by decide)).1 c)
    have h512 : (512 : Int64) ≤ Int64.ofNat bs.length := (ofNat_le_ofNat (m := 512) (by decide) hlen).2 (by omega)
    have e1 : (Int64.ofNat bs.length - 512).toNatClampNeg = bs.length - 512 := by
      rw [Int64.toNatClampNeg_sub_of_le (by decide) h512, Int64.toNatClampNeg_ofNat_of_lt hlen]; rfl
    have e2 : (Int64.ofNat bs.length).toNatClampNeg = bs.length := Int64.toNatClampNeg_ofNat_of_lt hlen
    simp [h, h', utilsFnv_toNat, e1, e2, Go.slice]

open Ref

def crc8 (c : Nat) : Nat := crcBit (crcBit (crcBit (crcBit (crcBit (crcBit (crcBit (crcBit c)))))))

theorem crcByte_eq (c : Nat) (b : UInt8) : crcByte c b = crc8 (c ^^^ b.toNat) := rfl

/-- one equation between lists, so that the kernel walks the table once -/
theorem crc_table_eq : Gen.crc32_table.toList.map UInt32.toNat = (List.range 256).map crc8 := by
  decide +kernel

theorem L_crc_table (i : Fin 256) : (Gen.crc32_table[i.val]!).toNat = crc8 i.val := by
  have h := congrArg (·[i.val]?) crc_table_eq
  simp only [List.getElem?_map, Array.getElem?_toList, List.getElem?_range i.isLt] at h
  rw [getElem!_def]
  cases h' : Gen.crc32_table[i.val]? with
  | none => rw [h'] at h; cases h
  | some u => rw [h'] at h; exact Option.some.inj h

theorem crcBit_xor (x y : Nat) : crcBit (x ^^^ y) = crcBit x ^^^ crcBit y := by
  simp only [crcBit, Nat.xor_div_two, Nat.xor_mod_two_eq_one]
  by_cases hx : x % 2 = 1 <;> by_cases hy : y % 2 = 1 <;>
    simp only [hx, hy, if_true, if_false, not_true, not_false_eq_true, iff_self, iff_false, false_iff]
  · rw [Nat.xor_assoc, Nat.xor_comm (y / 2), ← Nat.xor_assoc 0xEDB88320, Nat.xor_self, Nat.zero_xor]
  · rw [Nat.xor_assoc, Nat.xor_comm (y / 2), Nat.xor_assoc]
  · rw [Nat.xor_assoc]

theorem crc8_xor (x y : Nat) : crc8 (x ^^^ y) = crc8 x ^^^ crc8 y := by
  simp only [crc8, crcBit_xor]

theorem crcBit_two_mul (k : Nat) : crcBit (2 * k) = k := by
  simp [crcBit]

theorem crc8_mul_256 (k : Nat) : crc8 (k * 256) = k := by
  rw [show k * 256 = 2 * (2 * (2 * (2 * (2 * (2 * (2 * (2 * k))))))) by omega]
  simp only [crc8, crcBit_two_mul]

theorem split_lo_hi (x : Nat) : x = (x % 256) ^^^ (x / 256 * 256) := by
  apply Nat.eq_of_testBit_eq
  intro i
  rw [Nat.testBit_xor]
  have e1 : x % 256 = x % 2^8 := rfl
  have e2 : x / 256 * 256 = (x >>> 8) <<< 8 := by
    rw [Nat.shiftRight_eq_div_pow, Nat.shiftLeft_eq]
  rw [e1, e2, Nat.testBit_mod_two_pow, Nat.testBit_shiftLeft, Nat.testBit_shiftRight]
  by_cases h : i < 8
  · have : ¬ 8 ≤ i := by omega
    simp [h, this]
  · have h8 : 8 ≤ i := by omega
    have : 8 + (i - 8) = i := by omega
    simp [h, h8, this]

theorem crc_step_nat (c : Nat) (b : Nat) (hb : b < 256) :
    crc8 (c ^^^ b) = crc8 ((c ^^^ b) % 256) ^^^ (c / 256) := by
  conv => lhs; rw [split_lo_hi (c ^^^ b)]
  rw [crc8_xor, crc8_mul_256]
  congr 1
  have : (c ^^^ b) / 256 = (c ^^^ b) >>> 8 := by rw [Nat.shiftRight_eq_div_pow]
  rw [this, Nat.shiftRight_xor_distrib, Nat.shiftRight_eq_div_pow, Nat.shiftRight_eq_div_pow]
  have : b / 2^8 = 0 := by omega
  rw [this, Nat.xor_zero]

theorem gen_crc_step (crc : UInt32) (b : UInt8) : (Gen.crc32_step crc b).toNat = crcByte crc.toNat b := by
  rw [crcByte_eq, crc_step_nat _ _ b.toNat_lt]
  unfold Gen.crc32_step
  rw [UInt32.toNat_xor]
  have hidx : ((crc ^^^ b.toUInt32) &&& 255).toNat = (crc.toNat ^^^ b.toNat) % 256 := by
    rw [UInt32.toNat_and, UInt32.toNat_xor, UInt8.toNat_toUInt32]
    exact Nat.and_two_pow_sub_one_eq_mod _ 8
  have hlt : (crc.toNat ^^^ b.toNat) % 256 < 256 := Nat.mod_lt _ (by decide)
  rw [hidx, L_crc_table ⟨_, hlt⟩]
  congr 1
  simp [Go.shr32, Nat.shiftRight_eq_div_pow]

theorem gen_crc_write (bs : Bytes) (c : UInt32) : (Gen.crc32_write c bs).toNat = bs.foldl crcByte c.toNat := by
  unfold Gen.crc32_write
  induction bs generalizing c with
  | nil => rfl
  | cons b bs ih => simp only [List.foldl_cons]; rw [ih, gen_crc_step]

theorem not_eq_xor (x : Nat) (h : x < 2^32) : 2^32 - 1 - x = x ^^^ 0xFFFFFFFF := by
  apply Nat.eq_of_testBit_eq
  intro i
  have e : (0xFFFFFFFF : Nat) = 2^32 - 1 := rfl
  have e2 : 2^32 - 1 - x = 2^32 - (x + 1) := by omega
  rw [Nat.testBit_xor, e, Nat.testBit_two_pow_sub_one, e2, Nat.testBit_two_pow_sub_succ h]
  by_cases hi : i < 32
  · simp [hi]
  · have : x.testBit i = false := Nat.testBit_lt_two_pow (Nat.lt_of_lt_of_le h (Nat.pow_le_pow_right (by decide) (by omega)))
    simp [hi, this]

theorem L_crc (bs : Bytes) : (Gen.crc32_get (Gen.crc32_write 0xFFFFFFFF bs)).toNat = Ref.crc32 bs := by
  unfold Gen.crc32_get Ref.crc32
  simp only [Id.run, pure]
  rw [UInt32.toNat_not, gen_crc_write]
  exact not_eq_xor _ (by rw [← gen_crc_write]; exact UInt32.toNat_lt _)

theorem crc_write_append (c : UInt32) (a b : Bytes) :
    Gen.crc32_write (Gen.crc32_write c a) b = Gen.crc32_write c (a ++ b) := by
  simp [Gen.crc32_write, List.foldl_append]

theorem crc_write_nil (c : UInt32) : Gen.crc32_write c [] = c := rfl

theorem L_crc_chunked (header key body : Bytes) (hk : key.length < 2^63) (hb : body.length < 2^63) :
    (Gen.getCRC header key body).toNat = Ref.crc32 (header.drop 4 ++ key ++ body) := by
  rw [← L_crc]
  unfold Gen.getCRC
  simp only [Id.run, pure]
  have hk' : key ≠ [] → (0 : Int64) < Int64.ofNat key.length := fun h =>
    (ofNat_lt_ofNat (by decide) hk).2 (List.length_pos_iff.mpr h)
  have hb' : body ≠ [] → (0 : Int64) < Int64.ofNat body.length := fun h =>
    (ofNat_lt_ofNat (by decide) hb).2 (List.length_pos_iff.mpr h)
  by_cases h1 : key = [] <;> by_cases h2 : body = []
  · subst h1; subst h2; simp
  · subst h1; simp [hb' h2, crc_write_append]
  · subst h2; simp [hk' h1, crc_write_append]
  · simp [hk' h1, hb' h2, crc_write_append]

theorem fmix32_bound (h : Nat) : fmix32 h < 2^32 := by
  unfold fmix32
  apply Nat.xor_lt_two_pow
  · exact Nat.mod_lt _ (by decide)
  · exact Nat.lt_of_le_of_lt (Nat.div_le_self _ _) (Nat.mod_lt _ (by decide))

theorem fmix32_lt (h : Nat) (hh : h < 2^32) : fmix32 h < 2^32 := fmix32_bound h

theorem murmur_lt (bs : Bytes) : murmur3_32 bs < 2^32 := fmix32_bound _

theorem L_keyhash (bs : Bytes) : (Gen.getKeyHashDefalut bs).toNat = keyHash bs := by
  unfold Gen.getKeyHashDefalut keyHash
  simp only [Id.run, pure]
  have hm : (murmurU32 bs).toNat = murmur3_32 bs := by
    unfold murmurU32
    show (murmur3_32 bs).toUInt32.toNat = _
    rw [UInt32.toNat_ofNat', Nat.mod_eq_of_lt (murmur_lt bs)]
  have hf := L_fnv bs
  have hflt : (Gen.fnv1a bs).toNat < 2^32 := UInt32.toNat_lt _
  rw [UInt64.toNat_or, UInt32.toNat_toUInt64, hm]
  simp only [Go.shl64, show (32 : Nat) < 64 by decide, if_true]
  rw [UInt64.toNat_shiftLeft, UInt32.toNat_toUInt64, hf]
  have e : (Nat.toUInt64 32).toNat % 64 = 32 := by decide
  rw [e, Nat.shiftLeft_eq]
  have hlt : fnv1aSigned bs * 2^32 < 2^64 := by rw [← hf]; omega
  rw [Nat.mod_eq_of_lt hlt, ← Nat.shiftLeft_eq]
  exact (Nat.shiftLeft_add_eq_or_of_lt (murmur_lt bs) _).symm

end HashLemmas
