/-
  The layout invariant `ChunkInv` of Model/ConcFine.lean: every chunk and its data file are laid out as `ChunkOK` says,
  with the number of records the running flush has written so far (`progress`); chunks above the head are untouched; the
  locals of the flusher (`FlushOK`) and of the appending writer (`SlotOK`) agree with the shared state.  Preservation
  (`micro_layout`, `invoke_layout`) is proved for the generalisation `ConcGC.HotLay X`.
-/
import GoBeans.Lemmas.ConcFineLock

namespace ConcFine

/-- how many records of chunk `c`'s buffer the thread with this program counter has already written to the file -/
def prog (c : Nat) : PC → Nat
  | .fFetch c' _ _ i _ => if c' = c then i else 0
  | .fWrite c' _ _ i _ _ => if c' = c then i else 0
  | .fDetach c' n _ => if c' = c then n else 0
  | _ => 0

def progress (s : State) (c : Nat) : Nat :=
  match s.flushLock with
  | some t => prog c (s.thr t).pc
  | none => 0

def FlushOK (ch : Nat → Chunk) : PC → Prop
  | .fCheck c woff => woff = (ch c).fsize
  | .fCount c woff => woff = (ch c).fsize
  | .fFetch c woff n i _ => woff = (ch c).fsize ∧ i ≤ n ∧ n ≤ (ch c).wbuf.length
  | .fWrite c woff n i _ r => woff = (ch c).fsize ∧ i < n ∧ n ≤ (ch c).wbuf.length ∧ (ch c).wbuf[i]? = some r
  | .fDetach c n _ => n ≤ (ch c).wbuf.length
  | _ => True

def SlotOK (ch : Nat → Chunk) (head : Nat) : PC → Prop
  | .wAppend _ _ pos => pos.chunk = head ∧ pos.off = (ch head).writingHead
  | _ => True

structure ChunkInv (s : State) : Prop where
  ok : ∀ c, ChunkOK (s.chunks c) (progress s c)
  above : ∀ c, s.newHead < c → (s.chunks c).writingHead = 0
  fl : ∀ u, FlushOK s.chunks (s.thr u).pc
  slot : ∀ u, SlotOK s.chunks s.newHead (s.thr u).pc

theorem flushOK_of_not_holdsF {ch : Nat → Chunk} {pc : PC} (h : holdsF pc = false) : FlushOK ch pc := by
  cases pc <;> simp_all [holdsF, FlushOK]

theorem slotOK_of_not_holdsD {ch : Nat → Chunk} {hd : Nat} {pc : PC} (h : holdsD pc = false) : SlotOK ch hd pc := by
  cases pc <;> simp_all [holdsD, SlotOK]

theorem slotOK_congr {ch ch' : Nat → Chunk} {hd : Nat} {pc : PC} (h : (ch' hd).writingHead = (ch hd).writingHead)
    (hs : SlotOK ch hd pc) : SlotOK ch' hd pc := by
  cases pc <;> simp_all [SlotOK]

theorem flushOK_append {s : State} {pc : PC} (c0 : Nat) (r : Rec) (h : FlushOK s.chunks pc) :
    FlushOK (s.setChunk c0 ((s.chunks c0).append r)).chunks pc := by
  have hle : (s.chunks c0).wbuf.length ≤ ((s.chunks c0).append r).wbuf.length := by simp [Chunk.append]
  cases pc with
  | fCheck c woff => simp only [FlushOK, State.setChunk] at h ⊢; split <;> (try subst c) <;> exact h
  | fCount c woff => simp only [FlushOK, State.setChunk] at h ⊢; split <;> (try subst c) <;> exact h
  | fFetch c woff n i fl =>
    simp only [FlushOK, State.setChunk] at h ⊢
    split
    · subst c; exact ⟨h.1, h.2.1, Nat.le_trans h.2.2 hle⟩
    · exact h
  | fWrite c woff n i fl r' =>
    simp only [FlushOK, State.setChunk] at h ⊢
    split
    · subst c
      exact ⟨h.1, h.2.1, Nat.le_trans h.2.2.1 hle,
        (List.getElem?_append_left (Nat.lt_of_lt_of_le h.2.1 h.2.2.1)).trans h.2.2.2⟩
    · exact h
  | fDetach c n fl =>
    simp only [FlushOK, State.setChunk] at h ⊢
    split
    · subst c; exact Nat.le_trans h hle
    · exact h
  | _ => trivial

theorem progress_same {s s' : State} {t : Nat} (hthr : ∀ u, u ≠ t → s'.thr u = s.thr u)
    (hf : s'.flushLock = s.flushLock) (hp : ∀ c, prog c (s'.thr t).pc = prog c (s.thr t).pc) :
    ∀ c, progress s' c = progress s c := by
  intro c
  unfold progress
  rw [hf]
  cases s.flushLock with
  | none => rfl
  | some u =>
    by_cases hu : u = t
    · subst hu; exact hp c
    · simp only [hthr u hu]

theorem progress_holder {s : State} {t : Nat} (h : s.flushLock = some t) (c : Nat) :
    progress s c = prog c (s.thr t).pc := by
  unfold progress; rw [h]

local macro "others" : tactic =>
  `(tactic| (intro u hu; simp [State.goto, State.log, State.respond, State.readDone, State.setChunk, hu]))

-- the layout case of a micro-step of `t` (standing at `hpc`) that touches neither chunks nor head nor the progress of
-- a flush; not called (`layout_frame` does not exist: the lemma is `on_frame`)
local macro "frame_case" t:ident hc:ident hpc:ident : tactic => `(tactic| (
  refine layout_frame $t $hc (by others) rfl rfl
    (progress_same (t := $t) (by others) rfl
      (by intro c; simp [State.goto, State.log, State.respond, State.readDone, prog, $hpc:ident])) ?_
    (by simp [State.goto, State.log, State.respond, State.readDone, SlotOK])
  first
    | (simp [State.goto, State.log, State.respond, State.readDone, FlushOK]; done)
    | simp only [State.goto, State.log, State.respond, State.readDone, if_true, FlushOK]))

end ConcFine

namespace ConcGC
open ConcFine

/-- `ChunkInv` with `ChunkOK` demanded only of the chunks outside `X` (in the model with GC: the chunks the pass owns) -/
structure HotLay (X : Nat → Prop) (s : ConcFine.State) : Prop where
  ok : ∀ c, ¬ X c → ChunkOK (s.chunks c) (progress s c)
  above : ∀ c, s.newHead < c → (s.chunks c).writingHead = 0
  fl : ∀ u, FlushOK s.chunks (s.thr u).pc
  slot : ∀ u, SlotOK s.chunks s.newHead (s.thr u).pc

theorem chunkInv_of_hotlay {s : ConcFine.State} (h : HotLay (fun _ => False) s) : ChunkInv s :=
  ⟨fun c => h.ok c (fun x => x), h.above, h.fl, h.slot⟩

end ConcGC

namespace ConcFine
open ConcGC (HotLay)

theorem hotlay_of_chunkInv {s : State} (h : ChunkInv s) (X : Nat → Prop) : HotLay X s :=
  ⟨fun c _ => h.ok c, h.above, h.fl, h.slot⟩

theorem hotlay_mono {X Y : Nat → Prop} {s : State} (h : HotLay X s) (hxy : ∀ c, X c → Y c) : HotLay Y s :=
  ⟨fun c hy => h.ok c (fun hx => hy (hxy c hx)), h.above, h.fl, h.slot⟩

theorem tick_hotlay {X : Nat → Prop} {s : State} (h : HotLay X s) : HotLay X s.tick := ⟨h.ok, h.above, h.fl, h.slot⟩

theorem flusher_ok {X : Nat → Prop} {s : State} {t c : Nat} {pc : PC} (hl : LockInv s) (hc : HotLay X s)
    (hpc : (s.thr t).pc = pc) (hF : holdsF pc = true) (hx : ¬ X c) : ChunkOK (s.chunks c) (prog c pc) := by
  subst hpc
  exact progress_holder ((hl.f t).2 hF) c ▸ hc.ok c hx

/-- nobody but the flusher `t` itself writes to the file whose size it checks: `getDiskFileSize` = length of the file -/
theorem flusher_disk {X : Nat → Prop} {s : State} {t c woff : Nat} (hl : LockInv s) (hc : HotLay X s)
    (hpc : (s.thr t).pc = .fCheck c woff) (hx : ¬ X c) : diskFileSize (s.chunks c) = (s.chunks c).fsize :=
  ChunkOK.disk (flusher_ok hl hc hpc rfl hx)

/- `HotLay X` after a step of `t`: `on_frame` when chunks, head and `progress` stay; `on_step` from the parts; `on_goto` when
   only the pc moves (`s₁` differs from `s` in fields the layout does not read: its four equations are `rfl` at every
   call); `on_flush` when the flusher rewrites its chunk. -/
theorem on_frame {s s' : State} (t : Nat) {X : Nat → Prop} (hc : HotLay X s)
    (hthr : ∀ u, u ≠ t → s'.thr u = s.thr u) (hch : s'.chunks = s.chunks) (hh : s'.newHead = s.newHead)
    (hprog : ∀ c, progress s' c = progress s c)
    (hfl : FlushOK s'.chunks (s'.thr t).pc) (hsl : SlotOK s'.chunks s'.newHead (s'.thr t).pc) : HotLay X s' := by
  refine ⟨?_, ?_, ?_, ?_⟩
  · intro c hx; rw [hch, hprog]; exact hc.ok c hx
  · intro c hlt; rw [hch]; rw [hh] at hlt; exact hc.above c hlt
  · intro u
    by_cases hu : u = t
    · subst hu; exact hfl
    · rw [hthr u hu, hch]; exact hc.fl u
  · intro u
    by_cases hu : u = t
    · subst hu; exact hsl
    · rw [hthr u hu, hch, hh]; exact hc.slot u

theorem progress_goto_holder {s₁ : State} (t : Nat) (pc' : PC) (h : s₁.flushLock = some t) (c : Nat) :
    progress (s₁.goto t pc') c = prog c pc' := by
  rw [progress_holder (show (s₁.goto t pc').flushLock = some t from h), goto_pc]

theorem progress_goto_same {s s₁ : State} (t : Nat) (pc' : PC) (h1 : s₁.thr = s.thr)
    (h4 : s₁.flushLock = s.flushLock) (hp : ∀ c, prog c pc' = prog c (s.thr t).pc) (c : Nat) :
    progress (s₁.goto t pc') c = progress s c :=
  progress_same (s' := s₁.goto t pc') (t := t) (fun u hu => by rw [goto_thr_ne _ _ hu, h1]) h4
    (fun c => by rw [goto_pc]; exact hp c) c

theorem on_step {s s₁ : State} (t : Nat) (pc' : PC) {X : Nat → Prop} (p : Nat → Nat) (h1 : s₁.thr = s.thr)
    (hpr : ∀ c, progress (s₁.goto t pc') c = p c) (hok : ∀ c, ¬ X c → ChunkOK (s₁.chunks c) (p c))
    (hab : ∀ c, s₁.newHead < c → (s₁.chunks c).writingHead = 0)
    (hfl : FlushOK s₁.chunks pc') (hflo : ∀ u, u ≠ t → FlushOK s₁.chunks (s.thr u).pc)
    (hsl : SlotOK s₁.chunks s₁.newHead pc') (hslo : ∀ u, u ≠ t → SlotOK s₁.chunks s₁.newHead (s.thr u).pc) :
    HotLay X (s₁.goto t pc') := by
  refine ⟨fun c hx => hpr c ▸ hok c hx, hab, fun u => ?_, fun u => ?_⟩ <;> by_cases hu : u = t
  · subst hu; rw [goto_pc]; exact hfl
  · rw [goto_thr_ne _ _ hu, h1]; exact hflo u hu
  · subst hu; rw [goto_pc]; exact hsl
  · rw [goto_thr_ne _ _ hu, h1]; exact hslo u hu

theorem on_goto {s s₁ : State} (t : Nat) (pc' : PC) {X : Nat → Prop} (hc : HotLay X s) (h1 : s₁.thr = s.thr)
    (h2 : s₁.chunks = s.chunks) (h3 : s₁.newHead = s.newHead) (h4 : s₁.flushLock = s.flushLock)
    (hp : ∀ c, prog c pc' = prog c (s.thr t).pc) (hfl : FlushOK s.chunks pc') (hsl : SlotOK s.chunks s.newHead pc') :
    HotLay X (s₁.goto t pc') := by
  refine on_step t pc' (progress s) h1 (progress_goto_same t pc' h1 h4 hp) ?_ ?_ ?_ ?_ ?_ ?_ <;> rw [h2] <;> try rw [h3]
  · exact hc.ok
  · exact hc.above
  · exact hfl
  · exact fun u _ => hc.fl u
  · exact hsl
  · exact fun u _ => hc.slot u

theorem on_flush {s : State} (t c : Nat) (ch' : Chunk) {pc : PC} (pc' : PC) {X : Nat → Prop} (hl : LockInv s) (hc : HotLay X s)
    (hpc : (s.thr t).pc = pc) (htF : holdsF pc = true) (hwh : ch'.writingHead = (s.chunks c).writingHead)
    (hok : ¬ X c → ChunkOK ch' (prog c pc')) (hoth : ∀ c0, c0 ≠ c → prog c0 pc' = prog c0 pc)
    (hfl : FlushOK (s.setChunk c ch').chunks pc') (hsl : ∀ ch hd, SlotOK ch hd pc') :
    HotLay X ((s.setChunk c ch').goto t pc') := by
  subst hpc
  have hwh' : ∀ d, ((s.setChunk c ch').chunks d).writingHead = (s.chunks d).writingHead := by
    intro d
    by_cases hd : d = c
    · rw [hd, setChunk_same]; exact hwh
    · rw [setChunk_ne _ _ hd]
  refine on_step t pc' (prog · pc') rfl (progress_goto_holder t pc' ((hl.f t).2 htF)) (fun c0 hx0 => ?_) (fun c0 hlt => ?_) hfl
    (fun u hu => flushOK_of_not_holdsF (lock_others hl.f htF hu)) (hsl _ _) (fun u _ => slotOK_congr (hwh' _) (hc.slot u))
  · by_cases hcc : c0 = c
    · rw [hcc, setChunk_same]; exact hok (hcc ▸ hx0)
    · rw [setChunk_ne _ _ hcc, hoth c0 hcc]; exact flusher_ok hl hc rfl htF hx0
  · rw [hwh']; exact hc.above c0 hlt

theorem micro_layout {cfg : Cfg} {s s' : State} {t : Nat} {X : Nat → Prop} (hl : LockInv s) (hc : HotLay X s)
    (h : micro cfg s t = some s') : HotLay X s' := by
  have hfo := hc.fl t
  have hso := hc.slot t
  obtain ⟨sh, pc', hm, rfl⟩ := micro_elim h
  generalize hpc : (s.thr t).pc = pc at hm
  rw [hpc] at hfo hso
  cases hm with
  | fOpen => exact on_goto t _ hc rfl rfl rfl rfl (fun c => by rw [hpc]; rfl) rfl trivial
  | wSlotStay => exact on_goto t _ hc rfl rfl rfl rfl (fun c => by rw [hpc]; rfl) trivial ⟨rfl, rfl⟩
  | fCheckOk => exact on_goto t _ hc rfl rfl rfl rfl (fun c => by rw [hpc]; rfl) hfo trivial
  | fCheckBad | fFetchBad => exact on_goto t _ hc rfl rfl rfl rfl (fun c => by rw [hpc]) hfo trivial
  | fCount c woff =>
    exact on_goto t _ hc rfl rfl rfl rfl (fun c => by rw [hpc]; exact ite_self 0) ⟨hfo, Nat.zero_le _, Nat.le_refl _⟩ trivial
  | fFetchSome c woff n i fl r hlt hr =>
    exact on_goto t _ hc rfl rfl rfl rfl (fun c => by rw [hpc]; rfl) ⟨hfo.1, hlt, hfo.2.2, hr⟩ trivial
  | fFetchDone c woff n i fl hlt =>
    obtain rfl : i = n := by have := hfo.2.1; omega
    exact on_goto t _ hc rfl rfl rfl rfl (fun c => by rw [hpc]; rfl) hfo.2.2 trivial
  | fLock c force late hfl =>
    refine on_frame t hc (fun u hu => by simp [State.goto, hu]) rfl rfl ?_ (by simp [State.goto, FlushOK])
      (by simp [State.goto, SlotOK])
    intro c
    simp [progress, State.goto, prog, hfl]
  | fUnlock =>
    have hlk : s.flushLock = some t := (hl.f t).2 (by rw [hpc]; rfl)
    refine on_frame t hc (fun u hu => by simp [State.goto, hu]) rfl rfl ?_ (by simp [State.goto, FlushOK])
      (by simp [State.goto, SlotOK])
    intro c
    simp [progress, State.goto, prog, hlk, hpc]
  | wSlotRot q ver hds =>
    exact on_step t _ (progress s) rfl (progress_goto_same t _ rfl rfl (fun c => by rw [hpc]; rfl)) hc.ok
      (fun c hlt => hc.above c (Nat.lt_of_succ_lt hlt)) trivial (fun u _ => hc.fl u)
      ⟨rfl, (hc.above _ (Nat.lt_succ_self _)).symm⟩ (fun u _ => slotOK_of_not_holdsD (lock_free hl.d hds u))
  | wAppend q ver pos =>
    have htD : holdsD (s.thr t).pc = true := by rw [hpc]; rfl
    refine on_step t _ (progress s) rfl (progress_goto_same t _ rfl rfl (fun c => by rw [hpc]; rfl)) (fun c hx => ?_)
      (fun c hlt => ?_) trivial (fun u _ => flushOK_append s.newHead _ (hc.fl u))
      trivial (fun u hu => slotOK_of_not_holdsD (lock_others hl.d htD hu))
    · by_cases hcn : c = s.newHead
      · rw [hcn, setChunk_same]
        exact (hc.ok s.newHead (hcn ▸ hx)).append (q.toRec ver pos.off) hso.2 (Nat.succ_pos _)
      · rw [setChunk_ne _ _ hcn]; exact hc.ok c hx
    · have hlt : s.newHead < c := hlt
      rw [setChunk_ne _ _ (Nat.ne_of_gt hlt)]; exact hc.above c hlt
  | fWrite c woff n i fl r =>
    obtain ⟨rfl, hin, hnl, hget⟩ := hfo
    refine on_flush t c _ _ hl hc hpc rfl rfl (fun hx => ?_) (fun c0 hcc => ?_) ?_ (fun _ _ => trivial)
    · have hok := flusher_ok hl hc hpc rfl hx
      simp only [prog, if_true] at hok ⊢
      exact hok.write r hget
    · simp only [prog, if_neg (Ne.symm hcc)]
    · simp only [FlushOK, setChunk_same]
      exact ⟨rfl, hin, hnl⟩
  | fDetach c n fl =>
    refine on_flush t c _ _ hl hc hpc rfl rfl (fun hx => ?_) (fun c0 hcc => ?_) trivial (fun _ _ => trivial)
    · have hok := flusher_ok hl hc hpc rfl hx
      simp only [prog, if_true] at hok
      exact hok.detach
    · simp only [prog, if_neg (Ne.symm hcc)]
  | _ => exact on_goto t _ hc rfl rfl rfl rfl (fun c => by rw [hpc]; rfl) trivial trivial

theorem invoke_layout {s s' : State} {t : Nat} {op : Op} {X : Nat → Prop} (hc : HotLay X s) (h : invoke s t op = some s') :
    HotLay X s' := by
  obtain ⟨hpc, pc, rfl, hop⟩ := invoke_elim h
  have hp : (∀ c, prog c pc = 0) ∧ FlushOK s.chunks pc ∧ SlotOK s.chunks s.newHead pc := by
    cases hop <;> exact ⟨fun _ => rfl, trivial, trivial⟩
  refine on_frame t hc (by intro u hu; simp [hu]) rfl rfl
    (progress_same (t := t) (by intro u hu; simp [hu]) rfl ?_) (by simpa using hp.2.1) (by simpa using hp.2.2)
  intro c; simp only [↓reduceIte]; rw [hp.1, hpc]; rfl

end ConcFine
