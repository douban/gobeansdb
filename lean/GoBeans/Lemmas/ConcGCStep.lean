/-
  GC beside clients: the structural invariant `SInv` (locks, the clients' layout outside `X`, and `GCtl`, `GChk`, `GTree`,
  `DInv` of Lemmas/ConcGCBase.lean), preserved by a GC micro-step (`sinv_gmicro`), which changes no register
  (`gmicro_absReg`), and by the start of the pass (`sinv_gcStart`) as long as no monitor fires.  The steps of a client come
  in Lemmas/ConcGCHist.lean; what they need of `GCtl`, `GChk`, `GTree`, `WPosOK` and the one case analysis of `cmicro`
  (`cmicro_cases`) are prepared here.  The monitors are monotone (`HazLe`), so after a schedule in which none has fired
  none had fired at any moment (`noHaz_back`).
-/
import GoBeans.Lemmas.ConcGCData

namespace ConcGC
open ConcFine

structure SInv (s : State) : Prop where
  lock : LockInv s.base
  hot : HotLay (X s) s.base
  ctl : GCtl s
  chk : GChk s
  tr : GTree s
  data : DInv s

local macro "others" : tactic =>
  `(tactic| (intro u hu; simp [ConcFine.State.goto, ConcFine.State.log, ConcFine.State.respond, ConcFine.State.readDone, ConcFine.State.setChunk, hu]))

-- the frame argument of a client micro-step of `t` standing at `hpc`; not called below
local macro "frame_case" t:ident hc:ident hpc:ident : tactic => `(tactic| (
  refine hot_frame $t $hc (by others) rfl rfl
    (progress_same (t := $t) (by others) rfl
      (by intro c; simp [ConcFine.State.goto, ConcFine.State.log, ConcFine.State.respond, ConcFine.State.readDone, prog, $hpc:ident])) ?_
    (by simp [ConcFine.State.goto, ConcFine.State.log, ConcFine.State.respond, ConcFine.State.readDone, SlotOK])
  first
    | (simp [ConcFine.State.goto, ConcFine.State.log, ConcFine.State.respond, ConcFine.State.readDone, FlushOK]; done)
    | simp only [ConcFine.State.goto, ConcFine.State.log, ConcFine.State.respond, ConcFine.State.readDone, if_true, FlushOK]))

/-- a GC micro-step rewrites chunks in `X` only; `HotLay` speaks of the chunks outside `X` and of the locals of flushers,
    whose targets `DInv.fltg` keeps outside `X` -/
theorem hotlay_gmicro {cfg : GCfg} {s s' : State} (hc : GCtl s) (hd : DInv s) (hh : HotLay (X s) s.base)
    (h : gmicro cfg s = some s') : HotLay (X s') s'.base := by
  have hf := gmicro_frame h
  have hX : ∀ c, X s' c ↔ X s c := X_congr hf.started hf.gend
  have hst := gmicro_started hc h
  have hhot : ∀ c, ¬ X s c → s'.base.chunks c = s.base.chunks c := fun c hx =>
    gmicro_other_chunks h (fun e => hx (e ▸ hc.X_dst hst))
      (fun hp e => hx (e ▸ hc.X_src (Or.inl (by rcases hp with e | e <;> rw [e] <;> rfl))))
  have hprog : ∀ c, progress s'.base c = progress s.base c := by
    intro c; unfold progress; rw [hf.flushLock, hf.thr]
  refine ⟨?_, ?_, ?_, ?_⟩
  · intro c hx
    have hx' : ¬ X s c := fun e => hx ((hX c).2 e)
    rw [hhot c hx', hprog]; exact hh.ok c hx'
  · intro c hlt
    rw [hf.newHead] at hlt
    rw [hhot c (hc.not_X_head c (by omega))]; exact hh.above c hlt
  · intro u
    rw [hf.thr]
    exact flushOK_congr' (fun c hf => hhot c (hd.fltg u c hf)) (hh.fl u)
  · intro u
    rw [hf.thr, hf.newHead]
    exact slotOK_congr (congrArg _ (hhot _ (hc.not_X_head _ (Nat.le_refl _)))) (hh.slot u)

theorem ctl_client {s s' : State} (hc : GCtl s) (hg : s'.gc = s.gc) (hh : s.base.newHead ≤ s'.base.newHead) : GCtl s' := by
  obtain ⟨h1, h2, h3, h4, h5, h6, h7, h8⟩ := hc
  refine ⟨?_, ?_, ?_, ?_, ?_, ?_, ?_, ?_⟩ <;> rw [hg] <;> try assumption
  intro hst; have := h3 hst; exact ⟨this.1, by omega⟩

theorem chk_client {s s' : State} (hc : GCtl s) (hk : GChk s) (hg : s'.gc = s.gc)
    (hch : ∀ c, X s c → s'.base.chunks c = s.base.chunks c) : GChk s' := by
  have hX : ∀ c, X s' c ↔ X s c := X_congr (by rw [hg]) (by rw [hg])
  have hxd : s.gc.pc ≠ .idle → X s s.gc.dst := fun hne => hc.X_dst (hc.started_of hne)
  have hxs : procPC s.gc.pc = true → X s s.gc.src := fun hp => hc.X_src (Or.inl hp)
  refine ⟨?_, ?_, ?_, ?_, ?_, ?_, ?_, ?_⟩
  · intro c hx; rw [hch c ((hX c).1 hx)]; exact hk.cold c ((hX c).1 hx)
  · intro c hx hne; rw [hg] at hne ⊢; rw [hch c ((hX c).1 hx)]; exact hk.whf c ((hX c).1 hx) hne
  · intro hp; rw [hg] at hp ⊢
    rw [hch _ (hxs (by rw [hp]; rfl))]; exact hk.clr hp
  · intro c hd
    have hd' : Dead s c := by
      obtain ⟨d1, d2, d3⟩ := hd; rw [hg] at d1 d2 d3; exact ⟨d1, d2, d3⟩
    rw [hch c (dead_X hc hd')]; exact hk.dead c hd'
  · intro ho; rw [hg] at ho ⊢
    rw [hch _ (hxd (by intro e; rw [e] at ho; simp [openPC] at ho))]; exact hk.wop ho
  · intro o ho; rw [hg] at ho ⊢
    rw [hch _ (hxd (by intro e; rw [e] at ho; simp [curOff] at ho))]; exact hk.off o ho
  · intro r hr; rw [hg] at hr ⊢
    have hp : procPC s.gc.pc = true := by
      cases hpc : s.gc.pc <;> simp [rem, hpc] at hr <;> rfl
    rw [hch _ (hxs hp)]; exact hk.remIn r hr
  · intro r o hp; rw [hg] at hp ⊢
    rw [hch _ (hxd (by rw [hp]; simp))]; exact hk.mv r o hp

theorem gtree_client {s s' : State} (hc : GCtl s) (ht : GTree s) (hg : s'.gc = s.gc)
    (htr : s'.base.tree = s.base.tree ∨ ∃ k it, ¬ X s it.pos.chunk ∧
      s'.base.tree = fun k' => if k' = k then some it else s.base.tree k') : GTree s' := by
  have hX : ∀ c, X s' c ↔ X s c := X_congr (by rw [hg]) (by rw [hg])
  rcases htr with he | ⟨k, it, hx, he⟩
  · refine ⟨?_, ?_⟩
    · rw [hg, he]; exact ht.g2
    · intro r hr it' hit'; rw [hg] at hr; rw [he] at hit'; rw [hX]; exact ht.nf r hr it' hit'
  · refine ⟨?_, ?_⟩
    · intro hp k' it' hit' hcs
      rw [hg] at hp hcs ⊢
      rw [he] at hit'
      by_cases hkk : k' = k
      · simp only [hkk, if_true] at hit'
        obtain rfl := Option.some.inj hit'
        exact absurd (hcs ▸ hc.X_src (Or.inl hp)) hx
      · simp only [hkk, if_false] at hit'
        exact ht.g2 hp k' it' hit' hcs
    · intro r hr it' hit'
      rw [hg] at hr; rw [he] at hit'; rw [hX]
      by_cases hkk : r.key = k
      · simp only [hkk, if_true] at hit'
        obtain rfl := Option.some.inj hit'
        exact hx
      · simp only [hkk, if_false] at hit'
        exact ht.nf r hr it' hit'

theorem micro_self_wpos {cfg : Cfg} {s s' : ConcFine.State} {t : Nat} (hwp : WPosOK s.newHead (s.thr t).pc)
    (h : micro cfg s t = some s') : WPosOK s'.newHead (s'.thr t).pc := by
  obtain ⟨sh, pc', hm, rfl⟩ := micro_elim h
  rw [goto_pc]
  generalize (s.thr t).pc = pc at hm hwp
  cases hm with
  | wSlotRot q ver | wSlotStay q ver => exact rfl
  | wAppend q ver pos | wDsUnlock q ver pos => exact hwp
  | _ => trivial

theorem wposOK_not_holdsW {hd : Nat} {pc : PC} (h : holdsW pc = false) : WPosOK hd pc := by
  cases pc <;> simp_all [holdsW, WPosOK]

/-- the head moves under the write lock only -/
theorem micro_wpos {cfg : Cfg} {b b' : ConcFine.State} {t : Nat} (hl : LockInv b) (hw : ∀ u, WPosOK b.newHead (b.thr u).pc)
    (h : micro cfg b t = some b') : ∀ u, WPosOK b'.newHead (b'.thr u).pc := by
  refine thr_cases (micro_thr_others h) (micro_self_wpos (hw t) h) fun u hu => ?_
  cases hhw : holdsW (b.thr u).pc with
  | false => exact wposOK_not_holdsW hhw
  | true =>
    rcases micro_newHead h with e | ⟨e, _⟩
    · exact e ▸ hw u
    · rw [lock_others hl.w hhw (Ne.symm hu)] at e; cases e

theorem liftBase_some {s s' : State} {ob : Option ConcFine.State} (h : liftBase s ob = some s') :
    ∃ b', ob = some b' ∧ s' = { s with base := b' } := by
  unfold liftBase at h
  cases ob with
  | none => simp at h
  | some b' => simp only [Option.map_some, Option.some.injEq] at h; exact ⟨b', rfl, h.symm⟩

/-- a step of client `t` beside the pass that is a step of `ConcFine.micro`, to the embedded state `b'`; `hz` is the monitor
    `hazCold` after it -/
structure CMicro (cfg : GCfg) (s : State) (t : Nat) (b' : ConcFine.State) (hz : Bool) : Prop where
  micro : micro cfg.fine s.base t = some b'
  mono : s.hazCold = true → hz = true
  -- a flusher keeps its target; where it picks one (`fDs1`) inside `X`, the monitor fires
  target : hz = false → ∀ c, flushTarget (b'.thr t).pc = some c → flushTarget (s.base.thr t).pc = some c ∨ ¬ X s c
  read : ReadOK s.base t

theorem cmicro_cases {cfg : GCfg} {s s' : State} {t : Nat} (h : cmicro cfg s t = some s') :
    (((∃ k it, (s.base.thr t).pc = .rBuf k it) ∨ ∃ k it, (s.base.thr t).pc = .rFile k it) ∧ s' = readFail s t) ∨
    ∃ b' hz, s' = { s with base := b', hazCold := hz } ∧ CMicro cfg s t b' hz := by
  -- through `liftBase`: no monitor, a flusher keeps its target
  have hl : (∀ c f l, (s.base.thr t).pc ≠ .fDs1 c f l) → ReadOK s.base t → liftBase s (micro cfg.fine s.base t) = some s' →
      ∃ b' hz, s' = { s with base := b', hazCold := hz } ∧ CMicro cfg s t b' hz := by
    intro hn hro hh
    obtain ⟨b', h1, rfl⟩ := liftBase_some hh
    exact ⟨b', s.hazCold, rfl, h1, id, fun _ c hf => Or.inl (micro_target h1 hn c hf), hro⟩
  unfold cmicro at h
  split at h
  · rename_i k it hpc
    have hn : ∀ c f l, (s.base.thr t).pc ≠ .fDs1 c f l := by rw [hpc]; nofun
    -- `ReadOK` has a clause for `rBuf` and one for `rFile`: the one that is not about the pc of `t` is vacuous
    have hfile : ∀ {P : Nat → Item → Prop} k it, (s.base.thr t).pc = .rFile k it → P k it := by rw [hpc]; nofun
    split at h
    · rename_i r hf
      split at h
      · rename_i hk
        refine Or.inr (hl hn ⟨?_, hfile⟩ h)
        intro k' it' he
        obtain ⟨rfl, rfl⟩ := PC.rBuf.inj (hpc.symm.trans he)
        rw [hf]
        exact ⟨nofun, fun r' hr' => by obtain rfl := BufRes.found.inj hr'; exact hk⟩
      · obtain rfl := Option.some.inj h; exact Or.inl ⟨Or.inl ⟨k, it, hpc⟩, rfl⟩
    · obtain rfl := Option.some.inj h; exact Or.inl ⟨Or.inl ⟨k, it, hpc⟩, rfl⟩
    · rename_i hf
      refine Or.inr (hl hn ⟨?_, hfile⟩ h)
      intro k' it' he
      obtain ⟨rfl, rfl⟩ := PC.rBuf.inj (hpc.symm.trans he)
      rw [hf]
      exact ⟨nofun, nofun⟩
  · rename_i k it hpc
    have hn : ∀ c f l, (s.base.thr t).pc ≠ .fDs1 c f l := by rw [hpc]; nofun
    have hbuf : ∀ {P : Nat → Item → Prop} k it, (s.base.thr t).pc = .rBuf k it → P k it := by rw [hpc]; nofun
    split at h
    · rename_i r hf
      split at h
      · rename_i hk
        refine Or.inr (hl hn ⟨hbuf, ?_⟩ h)
        intro k' it' he
        obtain ⟨rfl, rfl⟩ := PC.rFile.inj (hpc.symm.trans he)
        exact ⟨r, hf, hk⟩
      · obtain rfl := Option.some.inj h; exact Or.inl ⟨Or.inr ⟨k, it, hpc⟩, rfl⟩
    · obtain rfl := Option.some.inj h; exact Or.inl ⟨Or.inr ⟨k, it, hpc⟩, rfl⟩
  · rename_i c f l hpc
    split at h
    · rename_i b hb
      obtain rfl := Option.some.inj h
      refine Or.inr ⟨b, _, rfl, hb, fun hh => by simp [hh], ?_, by rw [hpc]; nofun, by rw [hpc]; nofun⟩
      intro hz c' hf
      rw [hf] at hz
      simp only [Bool.or_eq_false_iff] at hz
      exact Or.inr (by rw [X, hz.2]; nofun)
    · contradiction
  · rename_i h1 h2 h3
    exact Or.inr (hl (fun c f l e => h3 c f l e) ⟨fun k it e => (h1 k it e).elim, fun k it e => (h2 k it e).elim⟩ h)

theorem sinv_gmicro {cfg : GCfg} {s s' : State} (hb : cfg.blind = false) (hi : SInv s) (hz : noHaz s')
    (h : gmicro cfg s = some s') : SInv s' := by
  have hf := gmicro_frame h
  refine ⟨?_, hotlay_gmicro hi.ctl hi.data hi.hot h, ctl_gmicro hi.ctl hz h, chk_gmicro hi.ctl hi.chk hz h,
    gtree_gmicro hi.ctl hi.chk hi.tr hi.data hz h, dinv_gmicro hb hi.ctl hi.chk hi.tr hi.data hz h⟩
  obtain ⟨hw, hd, hfl⟩ := hi.lock
  exact ⟨by rw [hf.writeLock, hf.thr]; exact hw, by rw [hf.dsLock, hf.thr]; exact hd, by rw [hf.flushLock, hf.thr]; exact hfl⟩

theorem readable_all {s : State} (hh : HotLay (X s) s.base) (hg : GInv s) (c : Nat) : Readable (s.base.chunks c) :=
  readable_on hh (fun c hx => readable_of_cold (hg.chk.cold c hx).1) c

theorem readable_sinv {s : State} (hi : SInv s) (c : Nat) : Readable (s.base.chunks c) :=
  readable_all hi.hot ⟨hi.ctl, hi.chk, hi.tr⟩ c

theorem gmicro_absReg {cfg : GCfg} {s s' : State} (hb : cfg.blind = false) (hi : SInv s) (hz : noHaz s')
    (h : gmicro cfg s = some s') (k : Nat) : absReg s'.base k = absReg s.base k := by
  cases hit' : s'.base.tree k with
  | none => rw [absReg_none hit', absReg_none ((gmicro_none h k).1 hit')]
  | some it' =>
    obtain ⟨it, r, r', hs⟩ := gmicro_item hb hi.ctl hi.chk hi.tr hi.data hz h hit'
    rw [absReg_of hit' hs.new ((readable_sinv (sinv_gmicro hb hi hz h) _).lookup _ hs.new.1),
      absReg_of hs.item hs.old ((readable_sinv hi _).lookup _ hs.old.1), hs.ver, hs.val]

theorem sinv_congr {s : State} (hi : SInv s) (clk : Nat) (cn : Bool) (f : Nat) (h1 h2 h3 : Bool) :
    SInv { base := { s.base with clock := clk }, gc := { s.gc with cancel := cn }, fails := f, hazCold := h1, hazInplace := h2,
           hazReuse := h3 } :=
  ⟨⟨hi.lock.w, hi.lock.d, hi.lock.f⟩, ⟨hi.hot.ok, hi.hot.above, hi.hot.fl, hi.hot.slot⟩, ⟨hi.ctl.idle, hi.ctl.busy, hi.ctl.rng,
    hi.ctl.norew, hi.ctl.dst, hi.ctl.src, hi.ctl.srcp, hi.ctl.notail⟩,
   ⟨hi.chk.cold, hi.chk.whf, hi.chk.clr, hi.chk.dead, hi.chk.wop, hi.chk.off, hi.chk.remIn, hi.chk.mv⟩,
   ⟨hi.tr.g2, hi.tr.nf⟩,
   ⟨hi.data.recs, hi.data.tree, hi.data.wr, hi.data.wpos, hi.data.fltg⟩⟩

theorem sinv_tick {s : State} (hi : SInv s) : SInv s.tick := sinv_congr hi _ _ _ _ _ _

theorem sinv_cancel {s : State} (hi : SInv s) : SInv { s with gc := { s.gc with cancel := true } } :=
  sinv_congr hi _ _ _ _ _ _

theorem gcStart_elim {cfg : GCfg} {s s' : State} {b e : Nat} (h : gcStart cfg s b e = some s') :
    s.gc.started = false ∧ b ≤ e ∧ e < s.base.newHead ∧ ∃ hz : Bool,
      s' = { s with gc := { pc := .gBegin, started := true, gbegin := b, gend := e, src := b, dst := pickDst cfg s.base.chunks b },
                    hazCold := s.hazCold || hz } ∧
      (hz = false → (∀ c, c ≤ e → (s.base.chunks c).wbuf = []) ∧
        ∀ u c, s.base.flushLock = some u → flushTarget (s.base.thr u).pc = some c → ¬ c ≤ e) := by
  unfold gcStart at h
  split at h
  · contradiction
  · rename_i hc
    obtain rfl := Option.some.inj h
    have hns : s.gc.started = false := by
      cases hs : s.gc.started with
      | false => rfl
      | true => exact absurd (Or.inl hs) hc
    have hbe : b ≤ e ∧ e < s.base.newHead := Decidable.not_not.1 fun hh => hc (Or.inr hh)
    refine ⟨hns, hbe.1, hbe.2, _, by rw [Bool.or_assoc], fun hz => ?_⟩
    simp only [Bool.or_eq_false_iff] at hz
    refine ⟨fun c hc => ?_, fun u c hl hf hle => ?_⟩
    · have := List.any_eq_false.mp hz.1 c (List.mem_range.mpr (Nat.lt_succ_of_le hc))
      simpa using this
    · have := hz.2
      simp only [hl, hf, decide_eq_false_iff_not] at this
      exact this hle

theorem sinv_gcStart {cfg : GCfg} {s s' : State} {b e : Nat} (hi : SInv s) (hz : noHaz s')
    (h : gcStart cfg s b e = some s') : SInv s' := by
  obtain ⟨hns, hb, he, hzv, rfl, hcl⟩ := gcStart_elim h
  obtain ⟨hnb, hfl⟩ := hcl (Bool.or_eq_false_iff.mp hz.1).2
  have hft : ∀ u c, flushTarget (s.base.thr u).pc = some c → ¬ c ≤ e :=
    fun u c hf => hfl u c ((hi.lock.f u).2 (holdsF_of_target hf)) hf
  have hXs : ∀ c, ¬ X s c := by intro c hx; rw [X_iff, hns] at hx; exact absurd hx.1 (by simp)
  have hprog : ∀ c, c ≤ e → progress s.base c = 0 := by
    intro c hle
    unfold progress
    cases hl : s.base.flushLock with
    | none => rfl
    | some u =>
      simp only
      cases hp : prog c (s.base.thr u).pc with
      | zero => rfl
      | succ n => exact absurd hle (hft u c (prog_target (by rw [hp]; simp)))
  have hcold : ∀ c, c ≤ e → ColdOK (s.base.chunks c) ∧
      (s.base.chunks c).size = (s.base.chunks c).writingHead ∧ (s.base.chunks c).writingHead = (s.base.chunks c).fsize := by
    intro c hx
    have hok := hi.hot.ok c (hXs c)
    rw [hprog c hx] at hok
    exact cold_of_ok hok (hnb c hx)
  refine ⟨hi.lock, hotlay_mono hi.hot (fun c hx => absurd hx (hXs c)),
    ⟨nofun, nofun, fun _ => ⟨hb, he⟩, rfl, fun _ => Or.inr ⟨Or.inl rfl, pickDst_le cfg s.base.chunks b⟩,
      fun _ => ⟨Nat.le_refl _, Nat.le_succ_of_le hb⟩, (by rintro (h | h) <;> cases h), nofun⟩,
    ⟨fun c hx => ?_, fun c hx _ => ?_, nofun, ?_, nofun, nofun, nofun, nofun⟩, ⟨nofun, nofun⟩,
    ⟨hi.data.recs, hi.data.tree, hi.data.wr, hi.data.wpos, fun u c hf hx => hft u c hf ((X_iff _ c).1 hx).2⟩⟩
  · have := hcold c ((X_iff _ c).1 hx).2
    exact ⟨this.1, this.2.1⟩
  · exact (hcold c ((X_iff _ c).1 hx).2).2.2
  · rintro c ⟨_, d2, d3 | ⟨_, d4⟩⟩
    · exact absurd d2 (Nat.not_le_of_gt d3)
    · cases d4

def HazLe (s s' : State) : Prop :=
  (s.hazCold = true → s'.hazCold = true) ∧ (s.hazInplace = true → s'.hazInplace = true) ∧
  (s.hazReuse = true → s'.hazReuse = true)

theorem hazLe_refl (s : State) : HazLe s s := ⟨id, id, id⟩

theorem WFrame.hazLe {s s' : State} (h : WFrame s s') : HazLe s s' := ⟨fun e => h.hazCold ▸ e, h.hazInplace, h.hazReuse⟩

theorem gmicro_hazLe {cfg : GCfg} {s s' : State} (h : gmicro cfg s = some s') : HazLe s s' := by
  have hs := gmicro_elim h
  generalize hpc : s.gc.pc = pc at hs
  cases hs with
  | begin | reopen => exact (beginW_frame ..).hazLe
  | close | final => exact (endW_frame s).hazLe
  | _ => exact hazLe_refl _

theorem cmicro_hazLe {cfg : GCfg} {s s' : State} {t : Nat} (h : cmicro cfg s t = some s') : HazLe s s' := by
  rcases cmicro_cases h with ⟨_, rfl⟩ | ⟨b', hz, rfl, hm⟩
  · exact hazLe_refl _
  · exact ⟨hm.mono, id, id⟩

/-- one scheduler decision, up to the tick of the clock -/
inductive Step (cfg : GCfg) (s : State) (t : Nat) : State → Prop
  | call (op : Op) (b' : ConcFine.State) : invoke s.base t op = some b' → Step cfg s t { s with base := b' }
  | go (s1 : State) : cmicro cfg s t = some s1 → Step cfg s t s1
  | gcStart (b e : Nat) (s1 : State) : ConcGC.gcStart cfg s b e = some s1 → Step cfg s t s1
  | gcGo (s1 : State) : gmicro cfg s = some s1 → Step cfg s t s1
  | gcCancel : Step cfg s t { s with gc := { s.gc with cancel := true } }

theorem step_elim {cfg : GCfg} {s s' : State} {t : Nat} {a : Act} (h : step cfg s t a = some s') :
    s.base.fatal = false ∧ ∃ s1, Step cfg s t s1 ∧ s' = s1.tick := by
  unfold step at h
  split at h
  · contradiction
  · next hf =>
    refine ⟨Bool.not_eq_true _ ▸ hf, ?_⟩
    cases a with
    | gcCancel => exact ⟨_, .gcCancel, (Option.some.inj h).symm⟩
    | call op =>
      simp only [Option.map_eq_some_iff] at h
      obtain ⟨s1, h1, rfl⟩ := h
      obtain ⟨b', h2, rfl⟩ := liftBase_some h1
      exact ⟨_, .call op b' h2, rfl⟩
    | go => simp only [Option.map_eq_some_iff] at h; obtain ⟨s1, h1, rfl⟩ := h; exact ⟨s1, .go s1 h1, rfl⟩
    | gcStart b e => simp only [Option.map_eq_some_iff] at h; obtain ⟨s1, h1, rfl⟩ := h; exact ⟨s1, .gcStart b e s1 h1, rfl⟩
    | gcGo => simp only [Option.map_eq_some_iff] at h; obtain ⟨s1, h1, rfl⟩ := h; exact ⟨s1, .gcGo s1 h1, rfl⟩

theorem exec_inv {cfg : GCfg} {P : State → Prop} (hstep : ∀ s s' t a, P s → step cfg s t a = some s' → P s') :
    ∀ (sched : List (Nat × Act)) (s : State), P s → P (exec cfg s sched) := by
  intro sched
  induction sched with
  | nil => exact fun s hs => hs
  | cons d rest ih =>
    intro s hs
    simp only [exec]
    cases hst : step cfg s d.1 d.2 with
    | none => exact ih s hs
    | some s1 => exact ih s1 (hstep s s1 _ _ hs hst)

theorem step_hazLe {cfg : GCfg} {s s' : State} {t : Nat} {a : Act} (h : step cfg s t a = some s') : HazLe s s' := by
  obtain ⟨_, s1, hs, rfl⟩ := step_elim h
  show HazLe s s1
  cases hs with
  | call | gcCancel => exact hazLe_refl _
  | go _ h1 => exact cmicro_hazLe h1
  | gcGo _ h1 => exact gmicro_hazLe h1
  | gcStart b e _ h1 =>
    obtain ⟨_, _, _, hz, rfl, _⟩ := gcStart_elim h1
    exact ⟨fun hh => by simp [hh], id, id⟩

theorem noHaz_back {s s' : State} (h : HazLe s s') (hz : noHaz s') : noHaz s := by
  have back : ∀ {a b : Bool}, (a = true → b = true) → b = false → a = false := by
    intro a b hab hb
    cases a with
    | false => rfl
    | true => rw [hab rfl] at hb; contradiction
  exact ⟨back h.1 hz.1, back h.2.1 hz.2.1, back h.2.2 hz.2.2⟩

end ConcGC
