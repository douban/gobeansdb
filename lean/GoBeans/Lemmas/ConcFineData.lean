/-
  The data invariant `DataInv` of Model/ConcFine.lean: every tree item points at a stored record of its key and version;
  every position a reader took from the tree still has its record; the writer that holds the write lock computed its
  version from the item the tree holds NOW.  It rests on `Grows`: a micro-step of any thread keeps every stored record
  stored (the buffer → file migration) and every record of the file in the file; the latter serves the reader at
  `rFile`, which has missed the buffer and will not test it again.  The readers' part (`micro_self_rd`) holds without GC
  only: beside a GC pass a position may lie in a chunk the pass has emptied.
-/
import GoBeans.Lemmas.ConcFineLayout

namespace ConcFine

def Grows (ch ch' : Nat → Chunk) : Prop :=
  ∀ c r, (r ∈ (ch c).file → r ∈ (ch' c).file) ∧ (Stored (ch c) r → Stored (ch' c) r)

theorem micro_grows {cfg : Cfg} {s s' : State} {t : Nat} {X : Nat → Prop} (hl : LockInv s) (hc : ConcGC.HotLay X s)
    (hfd : ∀ c n fl, (s.thr t).pc = .fDetach c n fl → ¬ X c)
    (h : micro cfg s t = some s') : Grows s.chunks s'.chunks := by
  intro c r
  rcases micro_chunks h c with e | ⟨q, ver, pos, _, _, e⟩ | ⟨woff, n, i, fl, r1, _, e⟩ | ⟨n, fl, hpc, e⟩ <;> rw [e]
  · exact ⟨id, id⟩
  · exact ⟨id, fun hr => stored_append.2 (.inl hr)⟩
  · exact ⟨List.mem_append_left _, fun hr => stored_write.2 (.inl hr)⟩
  · have hok := flusher_ok hl hc hpc rfl (hfd c n fl hpc)
    simp only [prog, if_true] at hok
    exact ⟨id, hok.detach_stored r⟩

/-- a live record carries a value, a delete marker none -/
def RecOK (r : Rec) : Prop := r.ver ≠ 0 ∧ (0 < r.ver → r.val ≠ 0) ∧ (r.ver < 0 → r.val = 0)

def StoredAt (ch : Nat → Chunk) (p : Pos) (r : Rec) : Prop := Stored (ch p.chunk) r ∧ r.off = p.off

theorem StoredAt.buf {ch : Nat → Chunk} {p : Pos} {r : Rec} (h : StoredAt ch p r) (hrd : ConcGC.Readable (ch p.chunk)) :
    (∀ r', bufLookup (ch p.chunk) p.off = .found r' → r' = r) ∧ bufLookup (ch p.chunk) p.off ≠ .err ∧
    (bufLookup (ch p.chunk) p.off = .miss → r ∈ (ch p.chunk).file) := by
  rcases hrd r h.1 with hf | ⟨hf, hm, _⟩ <;> rw [h.2] at hf <;> rw [hf]
  · exact ⟨fun r' e => (BufRes.found.inj e).symm, nofun, nofun⟩
  · exact ⟨nofun, nofun, fun _ => hm⟩

/-- a delete request carries no value, a set request carries one -/
def QOK (q : WReq) : Prop := (q.del = true → q.val = 0) ∧ (q.del = false → q.val ≠ 0)

/-- the writer's version is what `checkAndUpdateVerison` yields for the item the tree holds NOW; NOT_FOUND did not fire -/
def WPre (s : State) (q : WReq) (ver : Int) : Prop :=
  ver = (checkAndUpdateVersion (oldVer s q.key) q.rev).1 ∧ ¬ (ver < 0 ∧ (s.tree q.key = none ∨ oldVer s q.key < 0))

def WriterOK (s : State) : PC → Prop
  | .wLock q => QOK q
  | .wGet q => QOK q
  | .wSlot q ver => QOK q ∧ WPre s q ver
  | .wAppend q ver _ => QOK q ∧ WPre s q ver
  | .wDsUnlock q ver pos => QOK q ∧ WPre s q ver ∧ StoredAt s.chunks pos (q.toRec ver pos.off)
  | .wTreeSet q ver pos => QOK q ∧ WPre s q ver ∧ StoredAt s.chunks pos (q.toRec ver pos.off)
  | _ => True

def ReaderOK (ch : Nat → Chunk) : PC → Prop
  | .rBuf k it => ∃ r, StoredAt ch it.pos r ∧ r.key = k
  | .rFile k it => ∃ r, r ∈ (ch it.pos.chunk).file ∧ r.off = it.pos.off ∧ r.key = k
  | _ => True

structure DataInv (s : State) : Prop where
  recs : ∀ c r, Stored (s.chunks c) r → RecOK r
  tree : ∀ k it, s.tree k = some it → ∃ r, StoredAt s.chunks it.pos r ∧ r.key = k ∧ r.ver = it.ver
  wr : ∀ u, WriterOK s (s.thr u).pc
  rd : ∀ u, ReaderOK s.chunks (s.thr u).pc

theorem storedAt_grows {ch ch' : Nat → Chunk} (g : Grows ch ch') {p : Pos} {r : Rec} (h : StoredAt ch p r) :
    StoredAt ch' p r := ⟨(g _ _).2 h.1, h.2⟩

theorem readerOK_grows {ch ch' : Nat → Chunk} (g : Grows ch ch') {pc : PC} (h : ReaderOK ch pc) : ReaderOK ch' pc := by
  cases pc with
  | rBuf k it => obtain ⟨r, h1, h2⟩ := h; exact ⟨r, storedAt_grows g h1, h2⟩
  | rFile k it => obtain ⟨r, h1, h2⟩ := h; exact ⟨r, (g _ _).1 h1, h2⟩
  | _ => trivial

theorem wpre_of_oldVer {s s' : State} (h1 : ∀ k, oldVer s' k = oldVer s k) (h2 : ∀ k, s'.tree k = none ↔ s.tree k = none)
    {q : WReq} {ver : Int} (h : WPre s q ver) : WPre s' q ver := by
  unfold WPre at *
  rw [h1, h2]; exact h

theorem writerOK_of {s s' : State} (h1 : ∀ k, oldVer s' k = oldVer s k) (h2 : ∀ k, s'.tree k = none ↔ s.tree k = none)
    {pc : PC} (h3 : ∀ q ver pos r, pc = .wDsUnlock q ver pos ∨ pc = .wTreeSet q ver pos →
      StoredAt s.chunks pos r → StoredAt s'.chunks pos r) (h : WriterOK s pc) : WriterOK s' pc := by
  cases pc with
  | wSlot q ver => exact ⟨h.1, wpre_of_oldVer h1 h2 h.2⟩
  | wAppend q ver pos => exact ⟨h.1, wpre_of_oldVer h1 h2 h.2⟩
  | wDsUnlock q ver pos => exact ⟨h.1, wpre_of_oldVer h1 h2 h.2.1, h3 q ver pos _ (.inl rfl) h.2.2⟩
  | wTreeSet q ver pos => exact ⟨h.1, wpre_of_oldVer h1 h2 h.2.1, h3 q ver pos _ (.inr rfl) h.2.2⟩
  | wLock q => exact h
  | wGet q => exact h
  | _ => trivial

theorem writerOK_mono {s s' : State} (ht : s'.tree = s.tree) (g : Grows s.chunks s'.chunks) {pc : PC}
    (h : WriterOK s pc) : WriterOK s' pc :=
  writerOK_of (fun k => by unfold oldVer; rw [ht]) (fun k => by rw [ht]) (fun _ _ _ _ _ => storedAt_grows g) h

theorem writerOK_not_holdsW {s s' : State} {pc : PC} (hn : holdsW pc = false) (h : WriterOK s pc) : WriterOK s' pc := by
  cases pc <;> simp_all [holdsW, WriterOK]

theorem cauv_valid (oldv : Int) (q : WReq) : (checkAndUpdateVersion oldv q.rev).2 = true := by
  unfold checkAndUpdateVersion WReq.rev
  cases q.del <;> simp

theorem cauv_write (oldv : Int) (q : WReq) (h : q.del = false) :
    (checkAndUpdateVersion oldv q.rev).1 = (oldv.natAbs : Int) + 1 := by
  unfold checkAndUpdateVersion WReq.rev
  simp only [h, Bool.false_eq_true, if_false, if_true]
  split <;> omega

theorem cauv_delete (oldv : Int) (q : WReq) (h : q.del = true) :
    (checkAndUpdateVersion oldv q.rev).1 = -(oldv.natAbs : Int) - 1 := by
  unfold checkAndUpdateVersion WReq.rev
  simp [h]

theorem wpre_recOK {s : State} {q : WReq} {ver : Int} (hq : QOK q) (hw : WPre s q ver) (off : Nat) :
    RecOK (q.toRec ver off) := by
  unfold RecOK WReq.toRec
  cases hd : q.del with
  | false =>
    have := cauv_write (oldVer s q.key) q hd
    have hv := hq.2 hd
    rw [← hw.1] at this
    simp only
    refine ⟨by omega, fun _ => hv, fun h => by omega⟩
  | true =>
    have := cauv_delete (oldVer s q.key) q hd
    have hv := hq.1 hd
    rw [← hw.1] at this
    simp only
    refine ⟨by omega, fun h => by omega, fun _ => hv⟩

theorem micro_recs {cfg : Cfg} {s s' : State} {t : Nat} (hfo : FlushOK s.chunks (s.thr t).pc) (hw : WriterOK s (s.thr t).pc)
    (hrecs : ∀ c r, Stored (s.chunks c) r → RecOK r)
    (h : micro cfg s t = some s') (c : Nat) (r : Rec) (hr : Stored (s'.chunks c) r) : RecOK r := by
  rcases micro_chunks h c with e | ⟨q, ver, pos, hpc, _, e⟩ | ⟨woff, n, i, fl, r1, hpc, e⟩ | ⟨n, fl, _, e⟩ <;> rw [e] at hr
  · exact hrecs c r hr
  · rcases stored_append.1 hr with h1 | rfl
    · exact hrecs c r h1
    · rw [hpc] at hw; exact wpre_recOK hw.1 hw.2 _
  · rcases stored_write.1 hr with h1 | rfl
    · exact hrecs c r h1
    · rw [hpc] at hfo; exact hrecs c r1 (Or.inr (List.mem_of_getElem? hfo.2.2.2))
  · exact hrecs c r (stored_detach hr)

theorem micro_self_wr {cfg : Cfg} {s s' : State} {t : Nat} (h : micro cfg s t = some s')
    (hw : WriterOK s (s.thr t).pc) (hso : SlotOK s.chunks s.newHead (s.thr t).pc) : WriterOK s' (s'.thr t).pc := by
  obtain ⟨sh, pc', hm, rfl⟩ := micro_elim h
  rw [goto_pc]
  generalize (s.thr t).pc = pc at hm hw hso
  cases hm with
  | wLock q hg | wSlotRot q ver | wSlotStay q ver | wDsUnlock q ver pos => exact hw
  | wGetOk q hg => exact ⟨hw, rfl, hg⟩  -- `WPre` has `¬ notFound s q` written out
  | wAppend q ver pos =>
    refine ⟨hw.1, hw.2, ?_, rfl⟩
    show Stored ((s.setChunk s.newHead _).chunks pos.chunk) _
    rw [hso.1, setChunk_same]
    exact stored_append.2 (.inr rfl)
  | _ => trivial

/-- the part of `DataInv` that the register `absReg` of a key rests on; the clients keep it with or without GC beside them -/
structure TreeOK (s : State) : Prop where
  tree : ∀ k it, s.tree k = some it → ∃ r, StoredAt s.chunks it.pos r ∧ r.key = k ∧ r.ver = it.ver
  recs : ∀ c r, Stored (s.chunks c) r → RecOK r

/-- the layout of the chunks enters through `g`, `hfo`, `hso` only -/
theorem micro_wdata {cfg : Cfg} {s s' : State} {t : Nat} (hl : LockInv s) (g : Grows s.chunks s'.chunks)
    (hfo : FlushOK s.chunks (s.thr t).pc) (hso : SlotOK s.chunks s.newHead (s.thr t).pc) (hT : TreeOK s)
    (hwr : ∀ u, WriterOK s (s.thr u).pc) (h : micro cfg s t = some s') : TreeOK s' ∧ ∀ u, WriterOK s' (s'.thr u).pc := by
  have htree := micro_tree h
  refine ⟨⟨fun k it hit => ?_, micro_recs hfo (hwr t) hT.recs h⟩, thr_cases (micro_thr_others h) ?_ ?_⟩
  · -- the record was stored before the step: the item is an old one, or the one this writer sets after its append
    obtain ⟨r, h1, h2⟩ : ∃ r, StoredAt s.chunks it.pos r ∧ r.key = k ∧ r.ver = it.ver := by
      rcases htree with he | ⟨q, ver, pos, hpc, he⟩ <;> simp only [he] at hit
      · exact hT.tree k it hit
      · split at hit
        · next hk =>
          obtain rfl := Option.some.inj hit
          have hw := hwr t
          rw [hpc] at hw
          exact ⟨_, hw.2.2, hk.symm, rfl⟩
        · exact hT.tree k it hit
    exact ⟨r, storedAt_grows g h1, h2⟩
  · exact micro_self_wr h (hwr t) hso
  · intro u hu
    rcases htree with he | ⟨q, ver, pos, hpc, he⟩
    · exact writerOK_mono he g (hwr u)
    · exact writerOK_not_holdsW (lock_others hl.w (by rw [hpc]; rfl) hu) (hwr u)

theorem micro_self_rd {cfg : Cfg} {s s' : State} {t : Nat} (h : micro cfg s t = some s')
    (hc : ChunkInv s) (hd : DataInv s) : ReaderOK s'.chunks (s'.thr t).pc := by
  have hr := hd.rd t
  obtain ⟨sh, pc', hm, rfl⟩ := micro_elim h
  rw [goto_pc]
  generalize (s.thr t).pc = pc at hm hr
  cases hm with
  | rGetSome k it hit =>
    obtain ⟨r, h1, h2, _⟩ := hd.tree k it hit
    exact ⟨r, h1, h2⟩
  | rBufMiss k it hmiss =>
    -- the buffer test missed a stored record: it is in the file
    obtain ⟨r, h1, h3⟩ := hr
    exact ⟨r, (h1.buf (readable_of_ok (hc.ok _))).2.2 hmiss, h1.2, h3⟩
  | _ => trivial

/-- the read that thread `t` is about to finish (buffer test, or file read) delivers a record of the right key -/
def ReadOK (s : State) (t : Nat) : Prop :=
  (∀ k it, (s.thr t).pc = .rBuf k it →
    bufLookup (s.chunks it.pos.chunk) it.pos.off ≠ .err ∧ ∀ r, bufLookup (s.chunks it.pos.chunk) it.pos.off = .found r → r.key = k) ∧
  (∀ k it, (s.thr t).pc = .rFile k it → ∃ r, fileLookup (s.chunks it.pos.chunk) it.pos.off = some r ∧ r.key = k)

theorem readOK_of {s : State} (hc : ChunkInv s) (hd : DataInv s) (t : Nat) : ReadOK s t := by
  have hr := hd.rd t
  refine ⟨fun k it hpc => ?_, fun k it hpc => ?_⟩ <;> rw [hpc] at hr
  · obtain ⟨r, h1, h2⟩ := hr
    have hb := h1.buf (readable_of_ok (hc.ok _))
    exact ⟨hb.2.1, fun r' h => hb.1 r' h ▸ h2⟩
  · obtain ⟨r, h1, h2, h3⟩ := hr
    exact ⟨r, h2 ▸ (hc.ok _).fileLookup r h1, h3⟩

theorem micro_noerr {cfg : Cfg} {s s' : State} {t : Nat} (h : micro cfg s t = some s')
    (hfo : FlushOK s.chunks (s.thr t).pc)
    (hdisk : ∀ c woff, (s.thr t).pc = .fCheck c woff → diskFileSize (s.chunks c) = (s.chunks c).fsize)
    (hro : ReadOK s t) (hf : s.fatal = false) (he : s.readErr = false) : s'.fatal = false ∧ s'.readErr = false := by
  obtain ⟨sh, pc', hm, rfl⟩ := micro_elim h
  generalize hpc : (s.thr t).pc = pc at hm hfo
  cases hm with
  | fCheckBad c woff hne => exact absurd (hfo.trans (hdisk c woff hpc).symm) hne
  | fFetchBad c woff n i fl hlt hnone =>
    rw [List.getElem?_eq_none_iff] at hnone
    exact absurd (Nat.lt_of_lt_of_le hlt hfo.2.2) (Nat.not_lt.mpr hnone)
  | rBufFound k it r hfound =>
    exact ⟨hf, show (s.readErr || readBad k (some r)) = false by simp [readBad, he, (hro.1 k it hpc).2 r hfound]⟩
  | rBufErr k it herr => exact absurd herr (hro.1 k it hpc).1
  | rFile k it =>
    obtain ⟨r0, h0, hk0⟩ := hro.2 k it hpc
    rw [h0]
    exact ⟨hf, show (s.readErr || readBad k (some r0)) = false by simp [readBad, he, hk0]⟩
  | _ => exact ⟨hf, he⟩

end ConcFine
