/-
  Reply round trip (C11), from `Resp.write` to the bytes on the wire and back through `readResp`.
  `Resp.write` yields segments, some of which stand for bytes the model does not fix (server clock, encoded record,
  order of listing lines, statistics the model does not track).  `SegBytes` says which byte strings a segment may stand
  for; `Resp.Wire r w`: `w` is one of the byte strings `Response.Write` may put on the wire for `r` (blocks in any
  order — Go map iteration — then the tail).  For every such `w`, `readResp` of `w ++ rest` gives the parsed form of `r`
  and leaves exactly `rest`; not so for the reply "none" and for a STAT line with an empty value, which it refuses.
-/
import GoBeans.Lemmas.ProtoRespRead

namespace Proto

inductive SegBytes : Seg → Bytes → Prop
  | lit (b : Bytes) : SegBytes (.lit b) b
  | ts (d : Bytes) (hl : d.length = 10) (hd : ∀ c ∈ d, 48 ≤ c.toNat ∧ c.toNat ≤ 57) : SegBytes .ts d
  | recDump (key : Bytes) (ver : Int) (flag : Nat) (body enc : Bytes)
      (hl : enc.length = 24 + key.length + body.length) : SegBytes (.recDump key ver flag body) enc
  | posOf (c o : Nat) : SegBytes (.posOf c o) (itoa c ++ sp ++ itoa o)
  | lines (ls ls' : List Bytes) (hp : ls'.Perm ls) : SegBytes (.lines ls) ls'.flatten
  | statsAll (nvs : List (Bytes × Bytes)) : SegBytes .statsAll (statLines nvs)
  | statVal (name v : Bytes) : SegBytes (.statVal name) (statLineB name v)

inductive SegsBytes : List Seg → Bytes → Prop
  | nil : SegsBytes [] []
  | cons {s : Seg} {ss : List Seg} {b bs : Bytes} (h : SegBytes s b) (hs : SegsBytes ss bs) : SegsBytes (s :: ss) (b ++ bs)

def Resp.Wire (r : Resp) (w : Bytes) : Prop :=
  ∃ (blocks : List (List Seg × Bytes)) (tl : Bytes),
    (blocks.map (·.1)).Perm r.write.1 ∧ (∀ p ∈ blocks, SegsBytes p.1 p.2) ∧ SegsBytes r.write.2 tl ∧
    w = (blocks.map (·.2)).flatten ++ tl

theorem SegBytes.lit_inv {b x : Bytes} (h : SegBytes (.lit b) x) : x = b := by cases h; rfl

theorem SegsBytes.nil_inv {x : Bytes} (h : SegsBytes [] x) : x = [] := by cases h; rfl

theorem SegsBytes.cons_inv {s : Seg} {ss : List Seg} {x : Bytes} (h : SegsBytes (s :: ss) x) :
    ∃ b bs, SegBytes s b ∧ SegsBytes ss bs ∧ x = b ++ bs := by
  cases h with
  | cons h hs => exact ⟨_, _, h, hs, rfl⟩

theorem SegsBytes.append_inv {s1 s2 : List Seg} {x : Bytes} (h : SegsBytes (s1 ++ s2) x) :
    ∃ b1 b2, SegsBytes s1 b1 ∧ SegsBytes s2 b2 ∧ x = b1 ++ b2 := by
  induction s1 generalizing x with
  | nil => exact ⟨[], x, .nil, h, rfl⟩
  | cons s ss ih =>
    obtain ⟨b, bs, hb, hbs, rfl⟩ := SegsBytes.cons_inv h
    obtain ⟨b1, b2, h1, h2, rfl⟩ := ih hbs
    exact ⟨b ++ b1, b2, .cons hb h1, h2, by simp⟩

theorem SegsBytes.append {s1 s2 : List Seg} {b1 b2 : Bytes} (h1 : SegsBytes s1 b1) (h2 : SegsBytes s2 b2) :
    SegsBytes (s1 ++ s2) (b1 ++ b2) := by
  induction h1 with
  | nil => simpa using h2
  | cons h hs ih => simpa [List.append_assoc] using SegsBytes.cons h ih

theorem SegsBytes.single_lit (b : Bytes) : SegsBytes [.lit b] b := by
  simpa using SegsBytes.cons (SegBytes.lit b) .nil

theorem SegsBytes.single_lit_inv {b x : Bytes} (h : SegsBytes [.lit b] x) : x = b := by
  obtain ⟨b', bs, hb, hbs, rfl⟩ := SegsBytes.cons_inv h
  rw [hb.lit_inv, hbs.nil_inv]; simp

theorem perm_map_inv {α β : Type} (f : α → β) {l l2 : List β} (h : l.Perm l2) :
    ∀ m : List α, l2 = m.map f → ∃ m' : List α, m'.Perm m ∧ l = m'.map f := by
  induction h with
  | nil => intro m hm; exact ⟨[], by cases m <;> simp_all, rfl⟩
  | cons x _ ih =>
    intro m hm
    cases m with
    | nil => simp at hm
    | cons a m0 =>
      simp only [List.map_cons, List.cons.injEq] at hm
      obtain ⟨m', hp, he⟩ := ih m0 hm.2
      exact ⟨a :: m', hp.cons a, by simp [hm.1, he]⟩
  | swap x y l =>
    intro m hm
    cases m with
    | nil => simp at hm
    | cons a m1 =>
      cases m1 with
      | nil => simp at hm
      | cons b m0 =>
        simp only [List.map_cons, List.cons.injEq] at hm
        exact ⟨b :: a :: m0, List.Perm.swap a b m0, by simp [hm.1, hm.2.1, hm.2.2]⟩
  | trans _ _ ih1 ih2 =>
    intro m hm
    obtain ⟨m1, hp1, he1⟩ := ih2 m hm
    obtain ⟨m2, hp2, he2⟩ := ih1 m1 he1
    exact ⟨m2, hp2.trans hp1, he2⟩

theorem wire_tail_only {r : Resp} {w : Bytes} (h0 : r.write.1 = []) (hw : r.Wire w) : SegsBytes r.write.2 w := by
  obtain ⟨blocks, tl, hp, _, htl, rfl⟩ := hw
  rw [h0] at hp
  have : blocks = [] := by
    have := hp.eq_nil
    cases blocks with
    | nil => rfl
    | cons b bs => simp at this
  subst this
  simpa using htl

theorem wire_line {status msg w : Bytes} (hw : (Resp.line status msg).Wire w) : w = lineWire status msg :=
  (wire_tail_only rfl hw).single_lit_inv

theorem wire_num {msg w : Bytes} (hw : (Resp.num msg).Wire w) : w = numWire msg :=
  (wire_tail_only rfl hw).single_lit_inv

theorem readResp_wire_line_end (cfg : Cfg) (status w : Bytes) (hs : status ∈ endStatuses)
    (hw : (Resp.line status []).Wire w) (rest : Bytes) (fuel : Nat) (hf : 1 ≤ fuel) :
    readResp cfg fuel (w ++ rest) [] = some ({ status := status, msg := [], items := [] }, rest) := by
  rw [wire_line hw]; exact readResp_line_end cfg status hs rest fuel hf []

theorem readResp_wire_line_msg (cfg : Cfg) (status : Bytes) (toks : List Bytes) (w : Bytes) (hs : status ∈ msgStatuses)
    (ht : ∀ t ∈ toks, Tok t) (hw : (Resp.line status (joinSp toks)).Wire w) (rest : Bytes) (fuel : Nat) (hf : 1 ≤ fuel) :
    readResp cfg fuel (w ++ rest) [] = some ({ status := status, msg := joinSp toks, items := [] }, rest) := by
  rw [wire_line hw]; exact readResp_line_msg cfg status toks hs ht rest fuel hf []

theorem readResp_wire_num (cfg : Cfg) (v : Int) (hv : I64 v) (w : Bytes) (hw : (Resp.num (itoa v)).Wire w)
    (rest : Bytes) (fuel : Nat) (hf : 1 ≤ fuel) :
    readResp cfg fuel (w ++ rest) [] = some ({ status := ascii "INCR", msg := itoa v, items := [] }, rest) := by
  rw [wire_num hw]; exact readResp_num cfg v hv rest fuel hf []

theorem readResp_wire_line (cfg : Cfg) (status msg w : Bytes)
    (hs : (status ∈ endStatuses ∧ msg = []) ∨ (status ∈ msgStatuses ∧ Words msg))
    (hw : (Resp.line status msg).Wire w) (rest : Bytes) (fuel : Nat) (hf : 1 ≤ fuel) :
    readResp cfg fuel (w ++ rest) [] = some ({ status := status, msg := msg, items := [] }, rest) := by
  rcases hs with ⟨h1, rfl⟩ | ⟨h1, toks, ht, rfl⟩
  · exact readResp_wire_line_end cfg status w h1 hw rest fuel hf
  · exact readResp_wire_line_msg cfg status toks w h1 ht hw rest fuel hf

theorem readResp_wire_none_refused (cfg : Cfg) (w : Bytes) (hw : (Resp.line (ascii "none") []).Wire w)
    (rest : Bytes) (fuel : Nat) : readResp cfg fuel (w ++ rest) [] = none := by
  rw [wire_line hw]; exact readResp_none_refused cfg rest fuel []

/-- the rendered body of an item has the length its header announces -/
def RItem.LenOK (it : RItem) : Prop := ∀ b, SegsBytes it.body b → b.length = it.len

def RItem.OK (cfg : Cfg) (it : RItem) : Prop :=
  Tok it.key ∧ I64 it.flag ∧ I64 it.cas ∧ it.len ≤ cfg.bodyMax ∧ it.LenOK

/-- `ps` are the items `its` as they travel: same key, flag, cas, and a body the item's segments stand for -/
def Carries : List RItem → List PItem → Prop
  | [], [] => True
  | it :: its, p :: ps => (p.key = it.key ∧ p.flag = it.flag ∧ p.cas = it.cas ∧ SegsBytes it.body p.body) ∧ Carries its ps
  | _, _ => False

/-- the block `Resp.write` makes of an item (verbatim copy; `write_value` is `rfl`) -/
def valueSegs (cas : Bool) (it : RItem) : List Seg :=
  [Seg.lit (ascii "VALUE " ++ it.key ++ sp ++ itoa it.flag ++ sp ++ itoa it.len ++ (if cas then sp ++ itoa it.cas else []) ++ crlf)]
    ++ it.body ++ [Seg.lit crlf]

theorem write_value (cas : Bool) (items : List RItem) :
    (Resp.value cas items).write = (items.map (valueSegs cas), [Seg.lit endLine]) := rfl

theorem valueSegs_bytes (cas : Bool) (it : RItem) (x : Bytes) (h : SegsBytes (valueSegs cas it) x) (hl : it.LenOK) :
    ∃ p : PItem, p.key = it.key ∧ p.flag = it.flag ∧ p.cas = it.cas ∧ SegsBytes it.body p.body ∧ p.body.length = it.len
      ∧ x = valueBlock cas p := by
  unfold valueSegs at h
  obtain ⟨b12, b3, h12, h3, rfl⟩ := SegsBytes.append_inv h
  obtain ⟨b1, b2, h1, h2, rfl⟩ := SegsBytes.append_inv h12
  refine ⟨{ key := it.key, flag := it.flag, cas := it.cas, body := b2 }, rfl, rfl, rfl, h2, hl b2 h2, ?_⟩
  rw [h1.single_lit_inv, h3.single_lit_inv, valueBlock_eq, hl b2 h2]

theorem blocks_value (cas : Bool) (blocks : List (List Seg × Bytes)) :
    ∀ its : List RItem, blocks.map (·.1) = its.map (valueSegs cas) → (∀ p ∈ blocks, SegsBytes p.1 p.2) →
      (∀ it ∈ its, it.LenOK) →
      ∃ ps : List PItem, Carries its ps ∧ (blocks.map (·.2)).flatten = (ps.map (valueBlock cas)).flatten := by
  induction blocks with
  | nil =>
    intro its hm _ _
    cases its with
    | nil => exact ⟨[], trivial, rfl⟩
    | cons _ _ => simp at hm
  | cons b bs ih =>
    intro its hm hb hl
    cases its with
    | nil => simp at hm
    | cons it its0 =>
      simp only [List.map_cons, List.cons.injEq] at hm
      obtain ⟨ps, hc, hfl⟩ := ih its0 hm.2 (fun p hp => hb p (by simp [hp])) (fun i hi => hl i (by simp [hi]))
      have hb0 := hb b (by simp)
      rw [hm.1] at hb0
      obtain ⟨p, k1, k2, k3, k4, -, k6⟩ := valueSegs_bytes cas it b.2 hb0 (hl it (by simp))
      exact ⟨p :: ps, ⟨⟨k1, k2, k3, k4⟩, hc⟩, by simp [k6, hfl]⟩

theorem Carries_keys : ∀ (its : List RItem) (ps : List PItem), Carries its ps → ps.map (·.key) = its.map (·.key)
  | [], [], _ => rfl
  | it :: its, p :: ps, h => by
    simp only [List.map_cons, h.1.1, Carries_keys its ps h.2]
  | [], _ :: _, h => h.elim
  | _ :: _, [], h => h.elim

theorem Carries_length : ∀ (its : List RItem) (ps : List PItem), Carries its ps → ps.length = its.length :=
  fun its ps h => by simpa using congrArg List.length (Carries_keys its ps h)

theorem Carries.itemOK {cfg : Cfg} : ∀ {its : List RItem} {ps : List PItem}, Carries its ps → (∀ it ∈ its, it.OK cfg) →
    ∀ p ∈ ps, ItemOK cfg p
  | it :: its, p :: ps, h, hok, q, hq => by
    rcases List.mem_cons.mp hq with rfl | hq
    · obtain ⟨⟨k1, k2, k3, k4⟩, -⟩ := h
      obtain ⟨o1, o2, o3, o4, o5⟩ := hok it (by simp)
      exact ⟨k1 ▸ o1, k2 ▸ o2, k3 ▸ o3, o5 _ k4 ▸ o4⟩
    · exact Carries.itemOK h.2 (fun i hi => hok i (by simp [hi])) q hq
  | [], _ :: _, h, _, _, _ => h.elim

theorem readResp_wire_value (cfg : Cfg) (hmax : cfg.bodyMax < 9223372036854775808) (cas : Bool) (items : List RItem)
    (hit : ∀ it ∈ items, it.OK cfg) (w : Bytes) (hw : (Resp.value cas items).Wire w) :
    ∃ (its : List RItem) (ps : List PItem), its.Perm items ∧ Carries its ps ∧
      ∀ (rest : Bytes) (fuel : Nat) (acc : List PItem), items.length + 1 ≤ fuel →
        readResp cfg fuel (w ++ rest) acc
          = some ({ status := ascii "END", msg := [], items := (ps.map (PItem.norm cas)).foldl putItem acc }, rest) := by
  obtain ⟨blocks, tl, hp, hb, htl, rfl⟩ := hw
  rw [write_value] at hp htl
  obtain ⟨its, hperm, hmap⟩ := perm_map_inv (valueSegs cas) hp items rfl
  have hits : ∀ it ∈ its, it.OK cfg := fun it h => hit it (hperm.mem_iff.mp h)
  obtain ⟨ps, hc, hfl⟩ := blocks_value cas blocks its hmap hb (fun it h => (hits it h).2.2.2.2)
  refine ⟨its, ps, hperm, hc, fun rest fuel acc hf => ?_⟩
  rw [htl.single_lit_inv, hfl]
  exact readResp_values cfg hmax cas ps (hc.itemOK hits) rest fuel
    (by rw [Carries_length its ps hc, hperm.length_eq]; exact hf) acc

theorem putItem_fresh (acc : List PItem) (p : PItem) (h : ∀ x ∈ acc, x.key ≠ p.key) : putItem acc p = acc ++ [p] := by
  unfold putItem
  have : acc.any (fun x => x.key == p.key) = false := by
    rw [List.any_eq_false]
    intro x hx
    simpa using h x hx
  simp [this]

theorem foldl_putItem_nodup (ps acc : List PItem) (h : ((acc ++ ps).map (·.key)).Nodup) :
    ps.foldl putItem acc = acc ++ ps := by
  induction ps generalizing acc with
  | nil => simp
  | cons p ps ih =>
    have hfresh : ∀ x ∈ acc, x.key ≠ p.key := by
      intro x hx e
      simp only [List.map_append, List.map_cons, List.nodup_append, List.mem_map, List.mem_cons] at h
      exact h.2.2 x.key ⟨x, hx, rfl⟩ p.key (Or.inl rfl) e
    simp only [List.foldl_cons, putItem_fresh acc p hfresh]
    rw [ih (acc ++ [p]) (by simpa [List.append_assoc] using h)]
    simp

@[simp] theorem PItem.norm_key (cas : Bool) (p : PItem) : (p.norm cas).key = p.key := by
  cases cas <;> rfl

/-- `hnd` holds of every `get`/`gets` reply: GetMulti skips repeated keys -/
theorem readResp_wire_value_nodup (cfg : Cfg) (hmax : cfg.bodyMax < 9223372036854775808) (cas : Bool) (items : List RItem)
    (hit : ∀ it ∈ items, it.OK cfg) (hnd : (items.map (·.key)).Nodup) (w : Bytes) (hw : (Resp.value cas items).Wire w) :
    ∃ (its : List RItem) (ps : List PItem), its.Perm items ∧ Carries its ps ∧
      ∀ (rest : Bytes) (fuel : Nat), items.length + 1 ≤ fuel →
        readResp cfg fuel (w ++ rest) []
          = some ({ status := ascii "END", msg := [], items := ps.map (PItem.norm cas) }, rest) := by
  obtain ⟨its, ps, hperm, hc, h⟩ := readResp_wire_value cfg hmax cas items hit w hw
  refine ⟨its, ps, hperm, hc, fun rest fuel hf => ?_⟩
  rw [h rest fuel [] hf, foldl_putItem_nodup]
  · simp
  · have : (ps.map (PItem.norm cas)).map (·.key) = its.map (·.key) := by
      rw [← Carries_keys its ps hc]; simp [List.map_map, Function.comp_def]
    simp only [List.nil_append, this]
    exact (hperm.map _).nodup_iff.mpr hnd

/-- the reply item of an ordinary key: the stored bytes as they are -/
def RItem.ofLit (p : PItem) : RItem := { key := p.key, flag := p.flag, cas := p.cas, body := [.lit p.body], len := p.body.length }

theorem RItem.ofLit_OK (cfg : Cfg) (p : PItem) (h : ItemOK cfg p) : (RItem.ofLit p).OK cfg :=
  ⟨h.1, h.2.1, h.2.2.1, h.2.2.2, fun b hb => by rw [SegsBytes.single_lit_inv hb]; rfl⟩

theorem Carries_lit : ∀ (vs ps : List PItem), Carries (vs.map RItem.ofLit) ps → ps = vs
  | [], [], _ => rfl
  | v :: vs, p :: ps, h => by
    have ht := Carries_lit vs ps h.2
    obtain ⟨k1, k2, k3, k4⟩ := h.1
    have k4' : p.body = v.body := SegsBytes.single_lit_inv k4
    have : p = v := by
      cases p; cases v; simp only [RItem.ofLit] at k1 k2 k3 k4'; simp_all
    rw [this, ht]
  | [], _ :: _, h => h.elim
  | _ :: _, [], h => h.elim

theorem readResp_wire_value_lit (cfg : Cfg) (hmax : cfg.bodyMax < 9223372036854775808) (cas : Bool) (vs : List PItem)
    (hv : ∀ p ∈ vs, ItemOK cfg p) (hnd : (vs.map (·.key)).Nodup) (w : Bytes)
    (hw : (Resp.value cas (vs.map RItem.ofLit)).Wire w) :
    ∃ ps : List PItem, ps.Perm vs ∧
      ∀ (rest : Bytes) (fuel : Nat), vs.length + 1 ≤ fuel →
        readResp cfg fuel (w ++ rest) []
          = some ({ status := ascii "END", msg := [], items := ps.map (PItem.norm cas) }, rest) := by
  have hit : ∀ it ∈ vs.map RItem.ofLit, it.OK cfg := by
    intro it h
    obtain ⟨p, hp, rfl⟩ := List.mem_map.mp h
    exact RItem.ofLit_OK cfg p (hv p hp)
  have hnd' : ((vs.map RItem.ofLit).map (·.key)).Nodup := by
    simpa [List.map_map, Function.comp_def, RItem.ofLit] using hnd
  obtain ⟨its, ps, hperm, hc, h⟩ := readResp_wire_value_nodup cfg hmax cas _ hit hnd' w hw
  obtain ⟨vs', hp', rfl⟩ := perm_map_inv RItem.ofLit hperm vs rfl
  have := Carries_lit vs' ps hc
  subst this
  exact ⟨ps, hp', fun rest fuel hf => h rest fuel (by simpa using hf)⟩

/-- non-vacuity: the in-order writing is one of the wire forms -/
theorem wire_value_lit (cas : Bool) (vs : List PItem) : (Resp.value cas (vs.map RItem.ofLit)).Wire (valueWire cas vs) := by
  refine ⟨vs.map (fun p => (valueSegs cas (RItem.ofLit p), valueBlock cas p)), endLine, ?_, ?_, ?_, ?_⟩
  · rw [write_value]; simp [List.map_map, Function.comp_def]
  · intro q hq
    obtain ⟨p, _, rfl⟩ := List.mem_map.mp hq
    show SegsBytes (valueSegs cas (RItem.ofLit p)) (valueBlock cas p)
    rw [valueBlock_eq]
    exact SegsBytes.append (SegsBytes.append (SegsBytes.single_lit _) (SegsBytes.single_lit _)) (SegsBytes.single_lit _)
  · rw [write_value]; exact SegsBytes.single_lit _
  · simp [valueWire, List.map_map, Function.comp_def]

/-- the segments `processStats` produces -/
def StatSeg (s : Seg) : Prop := (∃ (k : Bytes) (v : Nat), s = statLine k v) ∨ (∃ k, s = .statVal k) ∨ s = .statsAll

/-- the (name, value) lines a `stats` message stands for -/
inductive StatCarries : List Seg → List (Bytes × Bytes) → Prop
  | nil : StatCarries [] []
  | line (k : Bytes) (v : Nat) {ss : List Seg} {nvs : List (Bytes × Bytes)} (h : StatCarries ss nvs) :
      StatCarries (statLine k v :: ss) ((k, itoa v) :: nvs)
  | val (k v : Bytes) {ss : List Seg} {nvs : List (Bytes × Bytes)} (h : StatCarries ss nvs) :
      StatCarries (.statVal k :: ss) ((k, v) :: nvs)
  | all (l : List (Bytes × Bytes)) {ss : List Seg} {nvs : List (Bytes × Bytes)} (h : StatCarries ss nvs) :
      StatCarries (.statsAll :: ss) (l ++ nvs)

theorem statLines_append (a b : List (Bytes × Bytes)) : statLines (a ++ b) = statLines a ++ statLines b := by
  simp [statLines]

theorem statLine_eq (k : Bytes) (v : Nat) : statLine k v = .lit (statLineB k (itoa v)) := rfl

theorem stat_segs_bytes (msg : List Seg) (hmsg : ∀ s ∈ msg, StatSeg s) (b : Bytes) (h : SegsBytes msg b) :
    ∃ nvs, StatCarries msg nvs ∧ b = statLines nvs := by
  induction msg generalizing b with
  | nil => exact ⟨[], .nil, by rw [h.nil_inv]; rfl⟩
  | cons s ss ih =>
    obtain ⟨b1, b2, h1, h2, rfl⟩ := SegsBytes.cons_inv h
    obtain ⟨nvs, hc, rfl⟩ := ih (fun x hx => hmsg x (by simp [hx])) b2 h2
    rcases hmsg s (by simp) with ⟨k, v, rfl⟩ | ⟨k, rfl⟩ | rfl
    · rw [statLine_eq] at h1
      exact ⟨(k, itoa v) :: nvs, .line k v hc, by rw [h1.lit_inv]; simp [statLines]⟩
    · cases h1 with
      | statVal _ v => exact ⟨(k, v) :: nvs, .val k v hc, by simp [statLines]⟩
    · cases h1 with
      | statsAll l => exact ⟨l ++ nvs, .all l hc, by rw [statLines_append]⟩

/-- that names and values are tokens is a hypothesis on bytes the model leaves open -/
theorem readResp_wire_stat (cfg : Cfg) (msg : List Seg) (hmsg : ∀ s ∈ msg, StatSeg s) (w : Bytes)
    (hw : (Resp.stat msg).Wire w) :
    ∃ nvs : List (Bytes × Bytes), StatCarries msg nvs ∧ w = statLines nvs ++ endLine ∧
      ∀ (rest : Bytes) (fuel : Nat), (∀ nv ∈ nvs, Tok nv.1 ∧ Tok nv.2) → nvs.length + 1 ≤ fuel →
        readResp cfg fuel (w ++ rest) []
          = some ({ status := ascii "END", msg := [], items := (nvs.map statItem).foldl putItem [] }, rest) := by
  have hs := wire_tail_only rfl hw
  obtain ⟨b1, b2, h1, h2, rfl⟩ := SegsBytes.append_inv (show SegsBytes (msg ++ [Seg.lit endLine]) w from hs)
  obtain ⟨nvs, hc, rfl⟩ := stat_segs_bytes msg hmsg b1 h1
  rw [h2.single_lit_inv]
  exact ⟨nvs, hc, rfl, fun rest fuel ht hf => readResp_stats cfg nvs ht rest fuel hf []⟩

/-- a full `stats` listing whose last line is "STAT version " + an empty config.Version (the model's default) is a wire
    form of the reply, and `readResp` rejects it -/
theorem readResp_wire_stat_refused (cfg : Cfg) (rest : Bytes) (fuel : Nat) :
    (Resp.stat [.statsAll]).Wire (statLines [(ascii "version", [])] ++ endLine)
    ∧ readResp cfg fuel (statLines [(ascii "version", [])] ++ endLine ++ rest) [] = none := by
  refine ⟨⟨[], statLines [(ascii "version", [])] ++ endLine, by simp [Resp.write], by simp, ?_, by simp⟩,
    readResp_stat_empty_value_refused cfg rest fuel []⟩
  exact SegsBytes.cons (SegBytes.statsAll _) (SegsBytes.single_lit _)

def exItems : List PItem :=
  [{ key := ascii "a", flag := 7, cas := 3, body := ascii "x\r\nEND\r\nVALUE b 0 1\r\n" },
   { key := ascii "b", flag := 0, cas := 4, body := [0, 13, 10] }]

example : valueWire false exItems
    = ascii "VALUE a 7 21\r\nx\r\nEND\r\nVALUE b 0 1\r\n\r\nVALUE b 0 3\r\n" ++ [0, 13, 10] ++ ascii "\r\nEND\r\n" := by decide +kernel

example : readResp {} 3 (valueWire true exItems ++ ascii "STORED\r\n") []
    = some ({ status := ascii "END", items := exItems }, ascii "STORED\r\n") := by decide +kernel

example : readResp {} 3 (valueWire false exItems ++ ascii "STORED\r\n") []
    = some ({ status := ascii "END", items := exItems.map (PItem.norm false) }, ascii "STORED\r\n") := by decide +kernel

theorem exItems_ok : ∀ p ∈ exItems, ItemOK {} p := by
  intro p hp
  simp only [exItems, List.mem_cons, List.mem_nil_iff, or_false] at hp
  rcases hp with rfl | rfl <;>
    exact ⟨⟨by decide, by decide, by decide⟩, ⟨by decide, by decide⟩, ⟨by decide, by decide⟩, by decide⟩

/-- the theorem, instantiated: its hypotheses hold for this reply -/
example : ∃ ps : List PItem, ps.Perm exItems ∧ ∀ (rest : Bytes) (fuel : Nat), 3 ≤ fuel →
    readResp {} fuel (valueWire true exItems ++ rest) []
      = some ({ status := ascii "END", msg := [], items := ps.map (PItem.norm true) }, rest) :=
  readResp_wire_value_lit {} (by decide) true exItems exItems_ok (by decide) _ (wire_value_lit true exItems)

example : ∀ (fuel : Nat), 3 ≤ fuel → ∀ rest : Bytes,
    readResp {} fuel (valueWire false exItems ++ (lineWire (ascii "STORED") [] ++ (numWire (itoa 42) ++ rest))) []
      = some ({ status := ascii "END", items := exItems.map (PItem.norm false) },
              lineWire (ascii "STORED") [] ++ (numWire (itoa 42) ++ rest))
    ∧ readResp {} fuel (lineWire (ascii "STORED") [] ++ (numWire (itoa 42) ++ rest)) []
      = some ({ status := ascii "STORED" }, numWire (itoa 42) ++ rest)
    ∧ readResp {} fuel (numWire (itoa 42) ++ rest) [] = some ({ status := ascii "INCR", msg := ascii "42" }, rest) := by
  intro fuel hf rest
  refine ⟨?_, readResp_line_end {} _ (by decide) _ fuel (by omega) [], ?_⟩
  · have := readResp_values {} (by decide) false exItems exItems_ok
      (lineWire (ascii "STORED") [] ++ (numWire (itoa 42) ++ rest)) fuel (by simpa [exItems] using hf) []
    rw [this]
    have : (exItems.map (PItem.norm false)).foldl putItem [] = exItems.map (PItem.norm false) := by decide +kernel
    rw [this]
  · have := readResp_num {} 42 (by constructor <;> decide) rest fuel (by omega) []
    have e : itoa 42 = ascii "42" := by decide +kernel
    rw [e] at this ⊢
    exact this

end Proto
