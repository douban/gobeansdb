/-
  The GC pass as an operation of the bucket model.  `Store.gcRun` refines "nothing happened": from the invariants of
  C01/C02 (`Inv`, `LastRec`), well-formed files and no record of version 0, a pass over any range below the head
  re-establishes all of them with the SAME reference map (`gcRun_refines`).
-/
import GoBeans.Lemmas.GCAux
import GoBeans.Lemmas.GCRange
namespace StoreLemmas
open Store Spec

section History
variable (hash : Key → Nat) (K : Key → Prop)

/-- what `LastRec.last` and `Hit` say of a key the tree knows, besides the position and the read -/
structure PG (m : KV) (n : Nat) (k : Key) (ver : Int) (vhash : Nat) (r : Rec) : Prop where
  rver : ver = r.ver
  ref : ∃ e, AMap.get m k = some e ∧ e.ver = ver ∧ e.flag = r.flag ∧ e.body = r.body ∧ e.ts = r.ts
  vhash : vhash = (if ver > 0 then vhashOf r.body else 0)
  len : r.body.length < 2^63
  bound : ver.natAbs ≤ n

theorem vinv_iff {n : Nat} {b : Bucket} {m : KV} (l : Lay b) :
    VInv hash K (PG m n) (fun k => AMap.get m k = none) b.log b.tree ↔ Inv hash K n b m ∧ LastRec hash K b ∧ NoZero b := by
  constructor
  · intro hv
    refine ⟨⟨l.posInv, ?_⟩, ⟨fun x hx => (hv.recs x hx).1, ?_⟩, fun x hx => (hv.recs x hx).2⟩
    · intro k hk
      rcases hv.key k hk with ⟨it, r, ht, hl, pg⟩ | ⟨htn, hm, _⟩
      · obtain ⟨e, href, h1, h2, h3, h4⟩ := pg.ref
        exact Hit.agree ⟨ht, href, l.read_log (lastOf_mem hl).1, (lastOf_mem hl).2, h1, h2, h3, h4, pg.vhash, pg.len, pg.bound⟩
      · left; exact ⟨htn, hm⟩
    · intro k hk
      rcases hv.key k hk with ⟨it, r, ht, hl, pg⟩ | ⟨htn, _, hl⟩
      · left
        exact ⟨it, r, ht, hl, l.read_log (lastOf_mem hl).1, pg.rver⟩
      · right; exact ⟨htn, hl⟩
  · rintro ⟨inv, lr, nz⟩
    refine ⟨fun x hx => ⟨lr.keys x hx, nz x hx⟩, l.log_nodup, fun k hk => ?_⟩
    rcases lr.last k hk with ⟨it, r, ht, hl, hread, hver⟩ | ⟨htn, hl⟩
    · left
      rcases (inv.agree k hk).hit with ⟨a, _⟩ | ⟨it', e, r', h⟩
      · rw [ht] at a; cases a
      · obtain rfl : it = it' := Option.some.inj (ht.symm.trans h.tree)
        obtain rfl : r = r' := Option.some.inj (hread.symm.trans h.read)
        exact ⟨it, r, ht, hl, hver, ⟨e, h.ref, h.ver, h.flag, h.body, h.ts⟩, h.vhash, h.len, h.bound⟩
    · right
      rcases (inv.agree k hk).hit with ⟨_, a⟩ | ⟨it, e, r, h⟩
      · exact ⟨htn, a, hl⟩
      · exact absurd (htn.symm.trans h.tree) nofun

theorem gcRun_post_inv (cfg : Store.Cfg) (hInj : InjOn hash K) {n : Nat} {b : Bucket} {m : KV}
    (inv : Inv hash K n b m) (lr : LastRec hash K b) (w : WF cfg b) (nz : NoZero b)
    (begin stop : Nat) (hbs : begin ≤ stop) (hs : stop < b.head) :
    GcPost hash K (PG m n) (fun k => AMap.get m k = none) cfg begin stop b (gcRun hash cfg b begin stop).1 :=
  gcRun_post hInj cfg w begin stop hbs hs ((vinv_iff hash K w.lay).2 ⟨inv, lr, nz⟩)

theorem gcRun_refines (cfg : Store.Cfg) (hInj : InjOn hash K) {n : Nat} {b : Bucket} {m : KV}
    (inv : Inv hash K n b m) (lr : LastRec hash K b) (w : WF cfg b) (nz : NoZero b)
    (begin stop : Nat) (hbs : begin ≤ stop) (hs : stop < b.head) :
    Inv hash K n (gcRun hash cfg b begin stop).1 m ∧ LastRec hash K (gcRun hash cfg b begin stop).1
    ∧ WF cfg (gcRun hash cfg b begin stop).1 ∧ NoZero (gcRun hash cfg b begin stop).1
    ∧ (gcRun hash cfg b begin stop).1.head = b.head := by
  have post := gcRun_post_inv hash K cfg hInj inv lr w nz begin stop hbs hs
  obtain ⟨i1, i2, i3⟩ := (vinv_iff hash K post.wf.lay).1 post.vinv
  exact ⟨i1, i2, post.wf, i3, post.head⟩

/-
  Histories with garbage collection anywhere: client commands, flushes, restarts (tree dump loaded or rebuilt) and GC
  REQUESTS (any arguments: they go through `gcCheckRange`, a refused request changes nothing) in any order, any
  number of times.  Every reply equals the reply of the reference map, for which a GC request is a no-op.
-/

inductive HOp
  | op (o : Op)
  | gc (g : GcArgs)

def gcOp (cfg : Store.Cfg) (b : Bucket) (g : GcArgs) : Bucket :=
  match gcCheckRange cfg b g with
  | .ok (s, e) => (gcRun hash cfg b s e).1
  | .error _ => b

def hrun (cfg : Store.Cfg) : Bucket → List HOp → Bucket × List Reply
  | b, [] => (b, [])
  | b, .op o :: ops =>
    let (b', r, _) := Store.step hash cfg b o
    let (b'', rs) := hrun cfg b' ops
    (b'', match Store.cmdOf o with | some _ => r :: rs | none => rs)
  | b, .gc g :: ops => hrun cfg (gcOp hash cfg b g) ops

def hspec (c : Spec.Cfg) : KV → List HOp → KV × List Reply
  | m, [] => (m, [])
  | m, .op o :: ops =>
    let (m', r) := specStep c m o
    let (m'', rs) := hspec c m' ops
    (m'', match r with | some r => r :: rs | none => rs)
  | m, .gc _ :: ops => hspec c m ops

def HOpOK (cfg : Store.Cfg) (R : Nat) : HOp → Prop
  | .op o => OpOK3 K cfg R o
  | .gc _ => True

/-- the invariants of C01/C02 (`inv`, `lr`), what the pass needs beyond them (`wf`, `nz`), and what a restart with a
    rebuilt tree needs of the reference map (`nd`) -/
structure HInv (cfg : Store.Cfg) (n : Nat) (b : Bucket) (m : KV) : Prop where
  inv : Inv hash K n b m
  lr : LastRec hash K b
  wf : WF cfg b
  nz : NoZero b
  nd : AMap.NodupKeys m

theorem gcOp_hinv (cfg : Store.Cfg) (hInj : InjOn hash K) {n : Nat} {b : Bucket} {m : KV} (h : HInv hash K cfg n b m) (g : GcArgs) :
    HInv hash K cfg n (gcOp hash cfg b g) m := by
  unfold gcOp
  split
  · rename_i s e hr
    obtain ⟨h1, h2⟩ := gcCheckRange_range cfg b g s e hr
    obtain ⟨i1, i2, i3, i4, _⟩ := gcRun_refines hash K cfg hInj h.inv h.lr h.wf h.nz s e h1 h2
    exact ⟨i1, i2, i3, i4, h.nd⟩
  · exact h

theorem op_hinv (cfg : Store.Cfg) (hcv : cfg.checkVHash = false) (hInj : InjOn hash K) (R : Nat) {n : Nat} {b : Bucket} {m : KV}
    (h : HInv hash K cfg n b m) (hR : R ≤ n) (hn : n + 1 < 2147483647) (o : Op) (hop : OpOK3 K cfg R o) :
    HInv hash K cfg (n + 1) (Store.step hash cfg b o).1 (specStep { checkVHash := cfg.checkVHash } m o).1
    ∧ (match Store.cmdOf o with | some _ => [(Store.step hash cfg b o).2.1] | none => [])
        = (match (specStep { checkVHash := cfg.checkVHash } m o).2 with | some r => [r] | none => []) := by
  obtain ⟨e, inv', lr', nd'⟩ := step_refines_restart hash K cfg hcv hInj R h.inv h.lr h.nd hR hn o hop.ok2
  exact ⟨⟨inv', lr', step_wf hash K cfg h.wf R o hop, step_nz hash K cfg hn h.inv h.nz R o hop, nd'⟩,
    by rw [e]; cases Store.cmdOf o <;> rfl⟩

theorem hinv_mono {cfg : Store.Cfg} {n n' : Nat} (hn : n ≤ n') {b : Bucket} {m : KV} (h : HInv hash K cfg n b m) :
    HInv hash K cfg n' b m :=
  ⟨inv_mono hash K hn h.inv, h.lr, h.wf, h.nz, h.nd⟩

theorem hrun_refines (cfg : Store.Cfg) (hcv : cfg.checkVHash = false) (hInj : InjOn hash K) (R : Nat) (ops : List HOp) :
    ∀ (n : Nat) (b : Bucket) (m : KV), HInv hash K cfg n b m → R ≤ n → n + ops.length < 2147483647 →
      (∀ op ∈ ops, HOpOK K cfg R op) →
      (hrun hash cfg b ops).2 = (hspec { checkVHash := cfg.checkVHash } m ops).2
      ∧ HInv hash K cfg (n + ops.length) (hrun hash cfg b ops).1 (hspec { checkVHash := cfg.checkVHash } m ops).1 := by
  induction ops with
  | nil => intro n b m h _ _ _; exact ⟨rfl, h⟩
  | cons op ops ih =>
    intro n b m h hR hn hops
    have hrest : ∀ o ∈ ops, HOpOK K cfg R o := fun o ho => hops o (by simp [ho])
    rw [List.length_cons] at hn ⊢
    cases op with
    | gc g =>
      have := ih n _ m (gcOp_hinv hash K cfg hInj h g) hR (by omega) hrest
      simp only [hrun, hspec]
      exact ⟨this.1, hinv_mono hash K (by omega) this.2⟩
    | op o =>
      obtain ⟨h', hr⟩ := op_hinv hash K cfg hcv hInj R h hR (by omega) o (hops (.op o) (by simp))
      have := ih (n + 1) _ _ h' (by omega) (by omega) hrest
      simp only [hrun, hspec]
      rw [show n + (ops.length + 1) = n + 1 + ops.length by omega]
      refine ⟨?_, this.2⟩
      rw [this.1]
      generalize (hspec { checkVHash := cfg.checkVHash } (specStep { checkVHash := cfg.checkVHash } m o).1 ops).2 = rs
      generalize (specStep { checkVHash := cfg.checkVHash } m o).2 = sr at hr
      generalize (Store.step hash cfg b o).2.1 = r at hr
      cases hc : Store.cmdOf o <;> cases sr <;> simp [hc] at hr ⊢
      exact hr

theorem hinv_init (cfg : Store.Cfg) {n : Nat} : HInv hash K cfg n ({} : Bucket) ([] : KV) :=
  ⟨inv_init hash K, lr_init hash K, lay_init.wf (fun _ => Nat.zero_le _),
   fun x hx => by simp [Bucket.log] at hx, by simp [AMap.NodupKeys]⟩

theorem hrun_refines_init (cfg : Store.Cfg) (hcv : cfg.checkVHash = false) (hInj : InjOn hash K) (R : Nat) (ops : List HOp)
    (hops : ∀ op ∈ ops, HOpOK K cfg R op) (hbound : R + ops.length < 2147483647) :
    (hrun hash cfg {} ops).2 = (hspec { checkVHash := cfg.checkVHash } [] ops).2
    ∧ HInv hash K cfg (R + ops.length) (hrun hash cfg {} ops).1 (hspec { checkVHash := cfg.checkVHash } [] ops).1 :=
  hrun_refines hash K cfg hcv hInj R ops R {} [] (hinv_init hash K cfg) (Nat.le_refl R) hbound hops
end History
end StoreLemmas
