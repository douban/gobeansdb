/-
  The collision table as a partial function (keyhash, key) → item (`tget`; `thas`: the hash has an entry at all);
  `compareAndSet` writes `tput` or refuses (`cmpSet_cases`).
-/
import GoBeans.Model.Collide
namespace CollideLemmas
open Store Spec HintIndex Collide

def tget (t : CTable) (h : Nat) (k : Key) : Option Item := (AMap.get t.items h).bind (fun m => AMap.get m k)

def thas (t : CTable) (h : Nat) : Bool := (AMap.get t.items h).isSome

theorem ctGet_eq (t : CTable) (h : Nat) (k : Key) : t.get h k = (tget t h k, thas t h) := by
  unfold CTable.get tget thas
  cases AMap.get t.items h <;> rfl

theorem tget_thas {t : CTable} {h : Nat} {k : Key} {it : Item} (e : tget t h k = some it) : thas t h = true := by
  unfold tget at e; unfold thas
  cases hm : AMap.get t.items h with
  | none => rw [hm] at e; simp at e
  | some m => rfl

theorem tget_nil {ct : CTable} (h : ct.items = []) (hh : Nat) (k : Key) : tget ct hh k = none ∧ thas ct hh = false := by
  unfold tget thas; rw [h]; exact ⟨rfl, rfl⟩

def tput (t : CTable) (it : Item) : CTable :=
  { t with items := AMap.set t.items it.khash (AMap.set ((AMap.get t.items it.khash).getD []) it.key it) }

theorem tget_tput (t : CTable) (it : Item) (h : Nat) (k : Key) :
    tget (tput t it) h k = if h = it.khash ∧ k = it.key then some it else tget t h k := by
  unfold tget tput
  by_cases hh : h = it.khash
  · subst hh
    simp only [AMap.get_set_self, Option.bind_some, true_and]
    by_cases hk : k = it.key
    · subst hk; rw [AMap.get_set_self, if_pos rfl]
    · rw [AMap.get_set_ne _ _ _ _ (Ne.symm hk), if_neg hk]
      cases AMap.get t.items it.khash <;> rfl
  · rw [AMap.get_set_ne _ _ _ _ (Ne.symm hh), if_neg (fun c => hh c.1)]

theorem thas_tput (t : CTable) (it : Item) (h : Nat) : thas (tput t it) h = (thas t h || decide (h = it.khash)) := by
  unfold thas tput
  by_cases hh : h = it.khash
  · subst hh; simp [AMap.get_set_self]
  · rw [AMap.get_set_ne _ _ _ _ (Ne.symm hh)]; simp [hh]

theorem cmpSet_cases (t : CTable) (it : Item) (gc : Bool) :
    t.compareAndSet it gc = tput t it
    ∨ (t.compareAndSet it gc = t ∧ ∃ old, tget t it.khash it.key = some old ∧ gc = false ∧ cmpKey it < cmpKey old) := by
  unfold CTable.compareAndSet tget tput
  cases AMap.get t.items it.khash with
  | none => exact Or.inl rfl
  | some m =>
    simp only [Option.bind_some, Option.getD_some]
    cases AMap.get m it.key with
    | none => exact Or.inl rfl
    | some old =>
      simp only
      by_cases hc : (gc || decide (cmpKey it ≥ cmpKey old)) = true
      · exact Or.inl (if_pos hc)
      · simp only [Bool.or_eq_true, decide_eq_true_eq, not_or, Bool.not_eq_true] at hc
        exact Or.inr ⟨if_neg (by simp [hc]), old, rfl, hc.1, by omega⟩

theorem cmpSet_spec (t : CTable) (it : Item) (gc : Bool) :
    (tget (t.compareAndSet it gc) it.khash it.key = some it
      ∨ (∃ old, tget t it.khash it.key = some old ∧ tget (t.compareAndSet it gc) it.khash it.key = some old
            ∧ gc = false ∧ cmpKey it < cmpKey old))
    ∧ (∀ h k, ¬ (h = it.khash ∧ k = it.key) → tget (t.compareAndSet it gc) h k = tget t h k)
    ∧ (∀ h, thas (t.compareAndSet it gc) h = (thas t h || decide (h = it.khash))) := by
  rcases cmpSet_cases t it gc with e | ⟨e, old, ho, hg, hlt⟩ <;> rw [e]
  · exact ⟨Or.inl (by rw [tget_tput, if_pos ⟨rfl, rfl⟩]), fun h k hne => by rw [tget_tput, if_neg hne], thas_tput t it⟩
  · refine ⟨Or.inr ⟨old, ho, ho, hg, hlt⟩, fun _ _ _ => rfl, fun h => ?_⟩
    by_cases hh : h = it.khash
    · rw [hh, tget_thas ho]; rfl
    · simp [hh]

theorem cmpSet_forall {P : Nat → Key → Item → Prop} (t : CTable) (it : Item) (gc : Bool)
    (hold : ∀ h k x, tget t h k = some x → P h k x) (hnew : P it.khash it.key it) :
    ∀ h k x, tget (t.compareAndSet it gc) h k = some x → P h k x := by
  intro h k x hg
  rcases cmpSet_cases t it gc with e | ⟨e, _⟩ <;> rw [e] at hg
  · rw [tget_tput] at hg
    split at hg
    · next hc => cases hg; rw [hc.1, hc.2]; exact hnew
    · exact hold h k x hg
  · exact hold h k x hg

theorem cmpSet_isSome_self (t : CTable) (it : Item) (gc : Bool) : (tget (t.compareAndSet it gc) it.khash it.key).isSome = true := by
  rcases (cmpSet_spec t it gc).1 with e | ⟨old, _, e, _⟩ <;> rw [e] <;> rfl

theorem cmpSet_isSome (t : CTable) (it : Item) (gc : Bool) {h : Nat} {k : Key} (hs : (tget t h k).isSome = true) :
    (tget (t.compareAndSet it gc) h k).isSome = true := by
  by_cases hc : h = it.khash ∧ k = it.key
  · rw [hc.1, hc.2]; exact cmpSet_isSome_self t it gc
  · rw [(cmpSet_spec t it gc).2.1 h k hc]; exact hs

theorem cmpSet_nonempty (t : CTable) (it : Item) (gc : Bool) (hne : ∀ h, thas t h = true → ∃ k x, tget t h k = some x) :
    ∀ h, thas (t.compareAndSet it gc) h = true → ∃ k x, tget (t.compareAndSet it gc) h k = some x := by
  intro h hh
  rw [(cmpSet_spec t it gc).2.2, Bool.or_eq_true, decide_eq_true_eq] at hh
  rcases hh with hh | rfl
  · obtain ⟨k, x, e⟩ := hne h hh
    exact ⟨k, Option.isSome_iff_exists.mp (cmpSet_isSome t it gc (by rw [e]; rfl))⟩
  · exact ⟨it.key, Option.isSome_iff_exists.mp (cmpSet_isSome_self t it gc)⟩

end CollideLemmas
