/-
  QuickLZ (C10) — byte-level facts about the Go port's helpers `fastRead` / `fastWrite` / `writeHeader`
  (quicklz.go:53-78): what a write leaves and a read finds, the bit operations of the token formats as arithmetic, the
  3- and 4-byte fetches of the two levels; and the round trip of the stored form (`stored_roundtrip`).
-/
import GoBeans.Lemmas.Qlz
namespace QlzRT
open Qlz QlzLemmas

/-- the byte `byte(value >> (8*j))` that `fastWrite` stores -/
def byteOf (v j : Nat) : UInt8 := ((v >>> (8 * j)) % 256).toUInt8

theorem byteOf_toNat (v j : Nat) : (byteOf v j).toNat = (v / 2 ^ (8 * j)) % 256 := by
  simp [byteOf, Nat.toUInt8, UInt8.toNat_ofNat', Nat.shiftRight_eq_div_pow]

theorem wr_get {a a' : Buf} {i : Nat} {v : UInt8} (h : wr a i v = some a') (j : Nat) :
    a'[j]? = if j = i then some v else a[j]? := by
  unfold wr at h
  split at h
  · cases h
    rw [Array.getElem?_setIfInBounds]
    by_cases hj : i = j
    · subst hj; simp [*]
    · have : ¬ j = i := fun h => hj h.symm
      simp [hj, this]
  · cases h

theorem wr_ok {a : Buf} {i : Nat} (v : UInt8) (h : i < a.size) : ∃ a', wr a i v = some a' := by
  unfold wr; rw [if_pos h]; exact ⟨_, rfl⟩

theorem fastWrite_spec {a : Buf} {i v : Nat} : ∀ {n : Nat} {a' : Buf}, fastWrite a i v n = some a' →
    a'.size = a.size ∧ ∀ j, a'[j]? = if i ≤ j ∧ j < i + n then some (byteOf v (j - i)) else a[j]? := by
  intro n
  induction n with
  | zero => intro a' h; simp [fastWrite] at h; subst h; simp; intro j h1 h2; omega
  | succ n ih =>
    intro a' h
    unfold fastWrite at h
    split at h
    · cases h
    · rename_i a1 h1
      obtain ⟨hs, hg⟩ := ih h1
      refine ⟨by rw [wr_size h, hs], ?_⟩
      intro j
      rw [wr_get h j, hg j]
      by_cases hj : j = i + n
      · subst hj
        have : i + n - i = n := by omega
        simp [byteOf, this]
      · simp only [hj, if_false]
        by_cases hc : i ≤ j ∧ j < i + n
        · have : i ≤ j ∧ j < i + (n + 1) := by omega
          simp [hc, this]
        · have : ¬ (i ≤ j ∧ j < i + (n + 1)) := by omega
          simp [hc, this]

theorem fastWrite_some_lt {a a' : Buf} {i v n : Nat} (h : fastWrite a i v (n + 1) = some a') : i + n < a.size := by
  unfold fastWrite at h
  split at h
  · cases h
  · rename_i a1 h1
    have := wr_some_lt h
    rw [(fastWrite_spec h1).1] at this
    exact this

theorem fastWrite_ok (a : Buf) (i v : Nat) : ∀ (n : Nat), i + n ≤ a.size → ∃ a', fastWrite a i v n = some a' := by
  intro n
  induction n with
  | zero => intro _; exact ⟨a, rfl⟩
  | succ n ih =>
    intro h
    obtain ⟨a1, h1⟩ := ih (by omega)
    unfold fastWrite
    rw [h1]
    simp only [wr]
    rw [if_pos (by rw [(fastWrite_spec h1).1]; omega)]
    exact ⟨_, rfl⟩

theorem wr_spec {dest d : Buf} {dst : Nat} {b : UInt8} (h : wr dest dst b = some d) :
    d.size = dest.size ∧ dst < d.size ∧ (∀ j, j < dst → d[j]? = dest[j]?) ∧ d[dst]? = some b := by
  refine ⟨wr_size h, by rw [wr_size h]; exact wr_some_lt h, fun j hj => ?_, ?_⟩
  · rw [wr_get h j, if_neg (by omega)]
  · rw [wr_get h, if_pos rfl]

theorem or_shl (a b k : Nat) (h : a < 2 ^ k) : a ||| (b <<< k) = a + b * 2 ^ k := by
  rw [Nat.or_comm, ← Nat.shiftLeft_add_eq_or_of_lt h, Nat.shiftLeft_eq, Nat.add_comm]

theorem and_1 (x : Nat) : x &&& 1 = x % 2 := Nat.and_two_pow_sub_one_eq_mod x 1

theorem and_3 (x : Nat) : x &&& 3 = x % 4 := Nat.and_two_pow_sub_one_eq_mod x 2

theorem and_15 (x : Nat) : x &&& 15 = x % 16 := Nat.and_two_pow_sub_one_eq_mod x 4

theorem and_31 (x : Nat) : x &&& 0x1f = x % 32 := Nat.and_two_pow_sub_one_eq_mod x 5

theorem and_127 (x : Nat) : x &&& 127 = x % 128 := Nat.and_two_pow_sub_one_eq_mod x 7

theorem and_255 (x : Nat) : x &&& 255 = x % 256 := Nat.and_two_pow_sub_one_eq_mod x 8

theorem and_ffff (x : Nat) : x &&& 0xffff = x % 65536 := Nat.and_two_pow_sub_one_eq_mod x 16

theorem and_1ffff (x : Nat) : x &&& 0x1ffff = x % 131072 := Nat.and_two_pow_sub_one_eq_mod x 17

theorem and_fff (x : Nat) : x &&& 0xfff = x % 4096 := Nat.and_two_pow_sub_one_eq_mod x 12

theorem and_2 (x : Nat) : x &&& 2 = (x / 2 % 2) * 2 := by
  have h1 : (x &&& 2) % 2 = 0 := by
    have := @Nat.and_mod_two_pow x 2 1
    simp only [Nat.pow_one] at this
    rw [this]; simp
  have h2 : (x &&& 2) / 2 = x / 2 % 2 := by
    rw [Nat.and_div_two]; exact and_1 (x / 2)
  omega

theorem xor_eq_zero {a b : Nat} (h : a ^^^ b = 0) : a = b := by
  have := congrArg (· ^^^ b) h
  simp [Nat.xor_assoc] at this
  exact this

theorem shr (x k : Nat) : x >>> k = x / 2 ^ k := Nat.shiftRight_eq_div_pow x k

theorem or_hi (a : Nat) (h : a < 2 ^ 31) : a ||| 0x80000000 = a + 2 ^ 31 := by
  have : (0x80000000 : Nat) = 1 <<< 31 := by decide
  rw [this, or_shl _ _ _ h]

theorem or_low (X l k : Nat) (hl : l < 2 ^ k) (hX : X % 2 ^ k = 0) : X ||| l = X + l := by
  have : X = (X / 2 ^ k) <<< k := by
    rw [Nat.shiftLeft_eq]
    have := Nat.div_add_mod X (2 ^ k)
    rw [hX, Nat.add_zero, Nat.mul_comm] at this
    exact this.symm
  rw [this, Nat.or_comm, or_shl _ _ _ hl, Nat.shiftLeft_eq, Nat.add_comm]

/-- the `w` bits of `f` from bit `lo` upward -/
def fld (f lo w : Nat) : Nat := f / 2 ^ lo % 2 ^ w

theorem fld_zero (f w : Nat) : fld f 0 w = f % 2 ^ w := by unfold fld; rw [Nat.pow_zero, Nat.div_one]

theorem fld_mod_div (f lo w : Nat) : f % 2 ^ (lo + w) / 2 ^ lo = fld f lo w := by
  unfold fld; rw [Nat.pow_add, Nat.mod_mul_right_div_self]

/-- three adjacent bit fields from bit 0: `a` in `wa` bits, `b` in `wb` bits, `c` above them -/
def pack (wa wb a b c : Nat) : Nat := a + 2 ^ wa * (b + 2 ^ wb * c)

theorem pack_lt {wa wb wc a b c : Nat} (ha : a < 2 ^ wa) (hb : b < 2 ^ wb) (hc : c < 2 ^ wc) : pack wa wb a b c < 2 ^ (wa + wb + wc) := by
  unfold pack
  have h1 : b + 2 ^ wb * c < 2 ^ wb * 2 ^ wc :=
    Nat.lt_of_lt_of_le (by rw [Nat.mul_succ]; omega : b + 2 ^ wb * c < 2 ^ wb * (c + 1)) (Nat.mul_le_mul_left _ hc)
  rw [Nat.pow_add, Nat.pow_add, Nat.mul_assoc]
  exact Nat.lt_of_lt_of_le (by rw [Nat.mul_succ]; omega : a + 2 ^ wa * (b + 2 ^ wb * c) < 2 ^ wa * (b + 2 ^ wb * c + 1))
    (Nat.mul_le_mul_left _ h1)

/-- `j`: whatever lies above the three fields (the bytes a decoder has fetched behind a token, `TokEnc`) -/
theorem fld_pack {wa wb wc a b c j : Nat} (ha : a < 2 ^ wa) (hb : b < 2 ^ wb) (hc : c < 2 ^ wc) :
    fld (pack wa wb a b c + 2 ^ (wa + wb + wc) * j) 0 wa = a ∧ fld (pack wa wb a b c + 2 ^ (wa + wb + wc) * j) wa wb = b
      ∧ fld (pack wa wb a b c + 2 ^ (wa + wb + wc) * j) (wa + wb) wc = c := by
  have e : pack wa wb a b c + 2 ^ (wa + wb + wc) * j = a + 2 ^ wa * (b + 2 ^ wb * (c + 2 ^ wc * j)) := by
    simp only [pack, Nat.pow_add, Nat.mul_add, Nat.mul_assoc, Nat.add_assoc]
  have pa := Nat.pow_pos (n := wa) (by omega : 0 < 2)
  have pb := Nat.pow_pos (n := wb) (by omega : 0 < 2)
  rw [e]
  unfold fld
  refine ⟨?_, ?_, ?_⟩
  · rw [Nat.pow_zero, Nat.div_one, Nat.add_mul_mod_self_left, Nat.mod_eq_of_lt ha]
  · rw [Nat.add_mul_div_left _ _ pa, Nat.div_eq_of_lt ha, Nat.zero_add, Nat.add_mul_mod_self_left, Nat.mod_eq_of_lt hb]
  · rw [Nat.pow_add, ← Nat.div_div_eq_div_mul, Nat.add_mul_div_left _ _ pa, Nat.div_eq_of_lt ha, Nat.zero_add,
      Nat.add_mul_div_left _ _ pb, Nat.div_eq_of_lt hb, Nat.zero_add, Nat.add_mul_mod_self_left, Nat.mod_eq_of_lt hc]

theorem hashOf_lt (f : Nat) : hashOf f < 4096 := by
  unfold hashOf
  have := @Nat.and_le_right ((f >>> 12) ^^^ f) 4095
  omega

theorem fastRead_bytes {a : Buf} {i v : Nat} : ∀ (n : Nat), (∀ j, j < n → a[i + j]? = some (byteOf v j)) →
    fastRead a i n = some (v % 2 ^ (8 * n)) := by
  intro n
  induction n with
  | zero => intro _; simp [fastRead, Nat.mod_one]
  | succ n ih =>
    intro h
    unfold fastRead
    rw [ih (fun j hj => h j (by omega)), h n (by omega)]
    simp only
    congr 1
    rw [byteOf_toNat]
    have hlt : v % 2 ^ (8 * n) < 2 ^ (8 * n) := Nat.mod_lt _ (Nat.pow_pos (by omega))
    rw [Nat.or_comm, ← Nat.shiftLeft_add_eq_or_of_lt hlt, Nat.shiftLeft_eq]
    have : 2 ^ (8 * (n + 1)) = 2 ^ (8 * n) * 256 := by
      rw [show 8 * (n + 1) = 8 * n + 8 by omega, Nat.pow_add]
    rw [this, Nat.mod_mul]
    rw [Nat.mul_comm]
    omega

theorem fastWrite_read {a a' c : Buf} {i v n : Nat} (h : fastWrite a i v n = some a')
    (hc : ∀ j, i ≤ j → j < i + n → c[j]? = a'[j]?) : fastRead c i n = some (v % 2 ^ (8 * n)) := by
  apply fastRead_bytes
  intro j hj
  rw [hc _ (by omega) (by omega), (fastWrite_spec h).2, if_pos (by omega)]
  congr 2; omega

theorem getElem?_ok {α} (a : Array α) (i : Nat) (h : i < a.size) : ∃ b, a[i]? = some b := ⟨a[i], Array.getElem?_eq_getElem h⟩

theorem fastRead_ok (a : Buf) (i : Nat) : ∀ (n : Nat), i + n ≤ a.size → ∃ f, fastRead a i n = some f := by
  intro n
  induction n with
  | zero => intro _; exact ⟨0, rfl⟩
  | succ n ih =>
    intro h
    obtain ⟨l, hl⟩ := ih (by omega)
    unfold fastRead
    rw [hl]
    simp only
    rw [Array.getElem?_eq_getElem (by omega : i + n < a.size)]
    exact ⟨_, rfl⟩

theorem fastRead_congr {a b : Buf} {i : Nat} : ∀ (n : Nat), (∀ j, j < n → a[i + j]? = b[i + j]?) → fastRead a i n = fastRead b i n := by
  intro n
  induction n with
  | zero => intro _; rfl
  | succ n ih =>
    intro h
    unfold fastRead
    rw [ih (fun j hj => h j (by omega)), h n (by omega)]

theorem fastRead_prefix {c : Buf} {p : Nat} : ∀ {n f : Nat} (len : Nat), len ≤ n → fastRead c p n = some f →
    fastRead c p len = some (f % 2 ^ (8 * len)) := by
  intro n
  induction n with
  | zero => intro f len hl h; obtain rfl : len = 0 := by omega
            simp only [fastRead, Option.some.injEq] at h; subst h; rfl
  | succ n ih =>
    intro f len hl h
    by_cases hn : len = n + 1
    · subst hn; rw [h, Nat.mod_eq_of_lt (fastRead_lt h)]
    · obtain ⟨l, b, hl', _, rfl⟩ := fastRead_succ h
      have hlt := fastRead_lt hl'
      have e : 2 ^ (8 * n) = 2 ^ (8 * len) * 2 ^ (8 * n - 8 * len) := by rw [← Nat.pow_add]; congr 1; omega
      rw [ih len (by omega) hl', or_shl _ _ _ hlt, e, Nat.mul_left_comm, Nat.add_mul_mod_self_left]

theorem fastRead_byte {c : Buf} {p n f j : Nat} (h : fastRead c p n = some f) (hj : j < n) : c[p + j]? = some (byteOf f j) := by
  obtain ⟨l, b, hl, hb, e⟩ := fastRead_succ (fastRead_prefix (j + 1) hj h)
  rw [hb]
  congr 1
  apply UInt8.toNat_inj.mp
  rw [or_shl _ _ _ (fastRead_lt hl)] at e
  rw [byteOf_toNat, ← Nat.mod_mul_right_div_self, show 2 ^ (8 * j) * 256 = 2 ^ (8 * (j + 1)) by rw [← Nat.pow_add 2 _ 8]; rfl, e,
    Nat.add_mul_div_right _ _ (Nat.pow_pos (by omega)), Nat.div_eq_of_lt (fastRead_lt hl), Nat.zero_add]

theorem fastRead_inj {c : Buf} {p p' n f : Nat} (h : fastRead c p n = some f) (h' : fastRead c p' n = some f) {j : Nat} (hj : j < n) :
    c[p + j]? = c[p' + j]? := by
  rw [fastRead_byte h hj, fastRead_byte h' hj]

theorem fastRead3 {c : Buf} {p f : Nat} (h : fastRead c p 3 = some f) :
    ∃ b0 b1 b2 : UInt8, c[p]? = some b0 ∧ c[p + 1]? = some b1 ∧ c[p + 2]? = some b2
      ∧ f = b0.toNat + b1.toNat * 256 + b2.toNat * 65536 := by
  obtain ⟨l2, b2, h2, hb2, rfl⟩ := fastRead_succ h
  obtain ⟨l1, b1, h1, hb1, rfl⟩ := fastRead_succ h2
  obtain ⟨l0, b0, h0, hb0, rfl⟩ := fastRead_succ h1
  simp only [fastRead, Option.some.injEq] at h0
  subst h0
  simp only [Nat.add_zero] at hb0
  refine ⟨b0, b1, b2, hb0, hb1, hb2, ?_⟩
  have e0 := b0.toNat_lt
  have e1 := b1.toNat_lt
  simp only [Nat.mul_zero, Nat.shiftLeft_zero, Nat.zero_or]
  rw [or_shl _ _ _ (by omega : b0.toNat < 2 ^ (8 * 1))]
  rw [or_shl _ _ _ (by omega : b0.toNat + b1.toNat * 2 ^ (8 * 1) < 2 ^ (8 * 2))]

theorem fastRead3_mk {c : Buf} {p : Nat} {b0 b1 b2 : UInt8} (h0 : c[p]? = some b0) (h1 : c[p + 1]? = some b1)
    (h2 : c[p + 2]? = some b2) :
    fastRead c p 3 = some (b0.toNat + b1.toNat * 256 + b2.toNat * 65536) := by
  have e0 := b0.toNat_lt
  have e1 := b1.toNat_lt
  simp only [fastRead, Nat.add_zero, h0, h1, h2, Nat.mul_zero, Nat.shiftLeft_zero, Nat.zero_or]
  rw [or_shl _ _ _ (by omega : b0.toNat < 2 ^ (8 * 1))]
  rw [or_shl _ _ _ (by omega : b0.toNat + b1.toNat * 2 ^ (8 * 1) < 2 ^ (8 * 2))]

/-- the level-1 fetch update after a literal (quicklz.go:411) keeps `fetch = fastRead(source, src, 3)` -/
theorem fetch_shift3 {c : Buf} {p f : Nat} {b2 : UInt8} (h : fastRead c p 3 = some f) (h2 : c[p + 1 + 2]? = some b2) :
    fastRead c (p + 1) 3 = some (((f >>> 8) &&& 0xffff) ||| (b2.toNat <<< 16)) := by
  obtain ⟨a0, a1, a2, g0, g1, g2, rfl⟩ := fastRead3 h
  have e0 := a0.toNat_lt
  have e1 := a1.toNat_lt
  have e2 := a2.toNat_lt
  rw [fastRead3_mk g1 (by rw [show p + 1 + 1 = p + 2 by omega]; exact g2) h2]
  congr 1
  rw [and_ffff, shr, or_shl _ _ _ (by omega)]
  omega

/-- the level-3 fetch update after a literal (quicklz.go:413) keeps `fetch = fastRead(source, src, 4)`: its low three
    bytes are the level-1 update of the low three bytes of `fetch` -/
theorem fetch_shift4 {c : Buf} {p f : Nat} {b2 b3 : UInt8} (h : fastRead c p 4 = some f) (h2 : c[p + 1 + 2]? = some b2)
    (h3 : c[p + 1 + 3]? = some b3) :
    fastRead c (p + 1) 4 = some ((((f >>> 8) &&& 0xffff) ||| (b2.toNat <<< 16)) ||| (b3.toNat <<< 24)) := by
  have h' := fetch_shift3 (fastRead_prefix 3 (by omega) h) h2
  have e : ((f % 2 ^ (8 * 3)) >>> 8) &&& 0xffff = (f >>> 8) &&& 0xffff := by
    rw [and_ffff, and_ffff, shr, shr]; omega
  unfold fastRead
  rw [h', h3, e]

/-- `m` is explicit and `h` last so that a call reads `rw [fastReadI_nat d _ m n (by omega)]` (likewise `rdI_nat`) -/
theorem fastReadI_nat (d : Buf) (i : Int) (m n : Nat) (h : i = (m : Int)) : fastReadI d i n = fastRead d m n := by
  subst h
  unfold fastReadI
  rw [if_neg (by omega)]
  simp

theorem rdI_nat (d : Buf) (i : Int) (m : Nat) (h : i = (m : Int)) : rdI d i = d[m]? := by
  subst h
  unfold rdI
  rw [if_neg (by omega)]
  simp

/-- the first header byte `writeHeader` stores -/
def hdr0 (level : Nat) (compressible : Bool) : Nat := ((2 ||| (if compressible then 1 else 0)) ||| ((level <<< 2) % 256)) ||| 64

theorem writeHeader_eq (d : Buf) (level : Nat) (c : Bool) (p4 p5 : Nat) :
    writeHeader d level c p4 p5 =
      match wr d 0 (hdr0 level c).toUInt8 with
      | none => none
      | some d =>
        match fastWrite d 1 p5 4 with
        | none => none
        | some d => fastWrite d 5 p4 4 := rfl

theorem writeHeader_spec {d d' : Buf} {level p4 p5 : Nat} {c : Bool} (h : writeHeader d level c p4 p5 = some d') :
    d'.size = d.size ∧ 9 ≤ d.size ∧ d'[0]? = some (hdr0 level c).toUInt8 ∧ fastRead d' 1 4 = some (p5 % 2 ^ 32)
      ∧ fastRead d' 5 4 = some (p4 % 2 ^ 32) ∧ ∀ j, 9 ≤ j → d'[j]? = d[j]? := by
  rw [writeHeader_eq] at h
  split at h
  · cases h
  · rename_i d1 h1
    split at h
    · cases h
    · rename_i d2 h2
      obtain ⟨s2, g2⟩ := fastWrite_spec h2
      obtain ⟨s3, g3⟩ := fastWrite_spec h
      have hlt := fastWrite_some_lt h
      have g1 := wr_get h1
      refine ⟨by rw [s3, s2, wr_size h1], by rw [s2, wr_size h1] at hlt; omega, ?_, ?_, ?_, ?_⟩
      · rw [g3, g2, g1]; simp
      · exact fastWrite_read h2 fun j _ _ => by rw [g3, if_neg (by omega)]
      · exact fastWrite_read h fun _ _ _ => rfl
      · intro j hj
        rw [g3, g2, g1]
        have h1 : ¬ (5 ≤ j ∧ j < 5 + 4) := by omega
        have h2 : ¬ (1 ≤ j ∧ j < 1 + 4) := by omega
        have h3 : ¬ j = 0 := by omega
        simp only [h1, h2, h3, if_false]

theorem writeHeader_ok (d : Buf) (level p4 p5 : Nat) (c : Bool) (h : 9 ≤ d.size) : ∃ d', writeHeader d level c p4 p5 = some d' := by
  obtain ⟨d1, h1⟩ := wr_ok (hdr0 level c).toUInt8 (by omega : 0 < d.size)
  obtain ⟨d2, h2⟩ := fastWrite_ok d1 1 p5 4 (by rw [wr_size h1]; omega)
  rw [writeHeader_eq, h1]
  simp only
  rw [h2]
  exact fastWrite_ok d2 5 p4 4 (by rw [(fastWrite_spec h2).1, wr_size h1]; omega)

theorem hdr0_bits (level : Nat) (c : Bool) (hl : level = 1 ∨ level = 3) :
    (hdr0 level c).toUInt8.toNat &&& 2 = 2 ∧ ((hdr0 level c).toUInt8.toNat >>> 2) &&& 3 = level
      ∧ (hdr0 level c).toUInt8.toNat &&& 1 = (if c then 1 else 0) := by
  rcases hl with rfl | rfl <;> cases c <;> decide

theorem header_read {c d : Buf} {level a b : Nat} {cb : Bool} (hl : level = 1 ∨ level = 3) (hpre : ∀ j, j < 9 → c[j]? = d[j]?)
    (h0 : d[0]? = some (hdr0 level cb).toUInt8) (h1 : fastRead d 1 4 = some a) (h5 : fastRead d 5 4 = some b) :
    headerLen c = some 9 ∧ sizeCompressed c = some a ∧ sizeDecompressed c = some b ∧ levelOf c = some level
      ∧ cbitOf c = some (if cb then 1 else 0) := by
  rw [← hpre 0 (by omega)] at h0
  rw [← fastRead_congr (a := c) 4 (fun j hj => hpre _ (by omega))] at h1 h5
  obtain ⟨b1, b2, b3⟩ := hdr0_bits level cb hl
  have hh : headerLen c = some 9 := by simp only [headerLen, h0]; rw [if_pos b1]
  refine ⟨hh, ?_, ?_, ?_, ?_⟩
  · simp [sizeCompressed, hh, h1]
  · simp [sizeDecompressed, hh, h5]
  · simp only [levelOf, h0, Option.map_some, b2]
  · simp only [cbitOf, h0, Option.map_some, b3]

theorem extract_size {d : Buf} {n : Nat} (hn : n ≤ d.size) : (d.extract 0 n).size = n := by
  rw [Array.size_extract]; omega

theorem extract_get {d : Buf} {n j : Nat} (hn : n ≤ d.size) (hj : j < n) : (d.extract 0 n)[j]? = d[j]? := by
  rw [Array.getElem?_extract, if_pos (by omega), Nat.zero_add]

theorem storedCopy_append (h s : Buf) : storedCopy (h ++ s) h.size s.size = s := by
  apply Array.ext_getElem?
  intro i
  simp only [storedCopy, Array.getElem?_ofFn]
  by_cases hi : i < s.size
  · have hlt : h.size + i < (h ++ s).size := by rw [Array.size_append]; omega
    simp only [hi, dite_true, hlt]
    rw [Array.getElem_append_right (Nat.le_add_right _ _), Array.getElem?_eq_getElem hi]
    simp only [Nat.add_sub_cancel_left]
  · simp [hi]

theorem storedStream_total (s : Buf) (level : Nat) : ∃ out, storedStream s level = some out := by
  unfold storedStream
  obtain ⟨d, hd⟩ := writeHeader_ok (Array.replicate (s.size + DEFAULT_HEADERLEN) 0) level s.size (s.size + DEFAULT_HEADERLEN) false
    (by simp [DEFAULT_HEADERLEN])
  rw [hd]
  exact ⟨_, rfl⟩

/-- below 4 GiB − 9: the header's size fields have four bytes -/
theorem stored_roundtrip {s out : Buf} {level : Nat} (hl : level = 1 ∨ level = 3) (hsz : s.size + 9 < 2 ^ 32)
    (h : storedStream s level = some out) : decompress out = .ok s ∧ decompressSafe out = .ok s := by
  unfold storedStream at h
  split at h
  · cases h
  · rename_i d2 hw
    cases h
    obtain ⟨hs, _, h0, h1, h5, _⟩ := writeHeader_spec hw
    have h9 : 9 ≤ d2.size := by rw [hs, Array.size_replicate]; exact Nat.le_add_left _ _
    have hh : (d2.extract 0 DEFAULT_HEADERLEN).size = 9 := extract_size h9
    have hsize : (d2.extract 0 DEFAULT_HEADERLEN ++ s).size = s.size + 9 := by rw [Array.size_append, hh, Nat.add_comm]
    obtain ⟨r1, r2, r3, r4, r5⟩ := header_read (c := d2.extract 0 DEFAULT_HEADERLEN ++ s) hl
      (fun j hj => by rw [Array.getElem?_append_left (by rw [hh]; exact hj)]; exact extract_get h9 hj) h0 h1 h5
    rw [Nat.mod_eq_of_lt (by omega)] at r3
    rw [show s.size + DEFAULT_HEADERLEN = s.size + 9 from rfl, Nat.mod_eq_of_lt hsz] at r2
    have hdec := decompress_stored r3 r1 r4 hl r5
    have hcopy := storedCopy_append (d2.extract 0 DEFAULT_HEADERLEN) s
    rw [hh] at hcopy
    rw [hcopy] at hdec
    exact ⟨hdec, decompressSafe_of_ok (by rw [hsize]; exact r2) hdec⟩

end QlzRT
