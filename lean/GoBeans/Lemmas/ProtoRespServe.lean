/-
  Reply round trip (C11), where the server (Lemmas/Proto.lean) meets the wire (ProtoRT, ProtoRespWire): the served
  `get` / `gets`.  Every item the storage client can produce (ordinary keys, '@' listings and record dumps, '?' meta
  lines) carries its key, no cas, and a body whose rendered length is the length the header announces; its error message
  for a token key is a sequence of words; the items of one request have distinct keys.  Hence the bytes the server model
  writes for a well-formed `get`/`gets` parse back (`readResp`) to exactly the items it looked up, and a storage error
  comes back as the same SERVER_ERROR message.  For every reply of `serveOnce` there is the statement only, at the end.
-/
import GoBeans.Lemmas.Proto
import GoBeans.Lemmas.ProtoRT
import GoBeans.Lemmas.ProtoRespWire

namespace Proto

/-- the number of bytes a segment stands for, when the segment fixes it -/
def segLen : Seg → Nat
  | .lit b => b.length
  | .ts => 10
  | .recDump key _ _ body => 24 + key.length + body.length
  | .posOf c o => (itoa c).length + 1 + (itoa o).length
  | .lines ls => ls.flatten.length
  | .statsAll => 0
  | .statVal _ => 0

def detLen : Seg → Bool
  | .statsAll => false
  | .statVal _ => false
  | _ => true

theorem segBytes_len {s : Seg} {b : Bytes} (h : SegBytes s b) (hd : detLen s = true) : b.length = segLen s := by
  cases h with
  | lit b => rfl
  | ts d hl _ => exact hl
  | recDump key ver flag body enc hl => exact hl
  | posOf c o => simp [segLen, sp]; omega
  | lines ls ls' hp => exact hp.flatten.length_eq
  | statsAll _ => cases hd
  | statVal _ _ => cases hd

theorem segsBytes_len {ss : List Seg} {b : Bytes} (h : SegsBytes ss b) (hd : ss.all detLen = true) :
    b.length = (ss.map segLen).sum := by
  induction h with
  | nil => rfl
  | cons h hs ih =>
    rw [List.all_cons, Bool.and_eq_true] at hd
    rw [List.length_append, List.map_cons, List.sum_cons, segBytes_len h hd.1, ih hd.2]

/-- what the round trip needs of a looked-up item, apart from the numeric ranges -/
def GoodItem (k : Bytes) (it : RItem) : Prop :=
  it.key = k ∧ it.cas = 0 ∧ it.body.all detLen = true ∧ (it.body.map segLen).sum = it.len

theorem GoodItem.lenOK {k : Bytes} {it : RItem} (h : GoodItem k it) : it.LenOK := by
  intro b hb
  rw [segsBytes_len hb h.2.2.1, h.2.2.2]

theorem parsePath_error_mem (l : Bytes) (c : UInt8) (h : parsePath l = .error c) : c ∈ l := by
  induction l with
  | nil => simp [parsePath] at h
  | cons a l ih =>
    unfold parsePath at h
    split at h
    · simp at h; simp [h]
    · split at h
      · simp at h
      · rename_i e heq
        simp at h; subst h
        simp [ih heq]

theorem quoteErr_words (c : UInt8) (h32 : c ≠ 32) (h10 : c ≠ 10) : Words (quoteErr c) := by
  have hq : Tok (34 :: c :: ascii "\":") := by
    have e : ascii "\":" = [34, 58] := by decide
    rw [e]
    refine ⟨by simp, ?_, ?_⟩ <;> simp <;> exact fun h => absurd h.symm ‹_›
  have e1 : ascii "strconv.ParseInt: parsing \"" = ascii "strconv.ParseInt:" ++ sp ++ (ascii "parsing" ++ sp ++ [34]) := by
    decide +kernel
  have e2 : ascii "\": invalid syntax" = ascii "\":" ++ sp ++ (ascii "invalid" ++ sp ++ ascii "syntax") := by
    decide +kernel
  refine ⟨[ascii "strconv.ParseInt:", ascii "parsing", 34 :: c :: ascii "\":", ascii "invalid", ascii "syntax"], ?_, ?_⟩
  · exact List.forall_mem_cons.mpr ⟨tok_of_tokb (by decide), List.forall_mem_cons.mpr ⟨tok_of_tokb (by decide),
      List.forall_mem_cons.mpr ⟨hq, toks_of_all _ (by decide +kernel)⟩⟩⟩
  · simp only [quoteErr, e1, e2, joinSp, List.append_assoc, List.cons_append, List.nil_append]

/-- what `clientGet` can return for the key `k` -/
def GetRes.Good (k : Bytes) : GetRes → Prop
  | .item it => GoodItem k it
  | .err msg => Tok k → Words msg
  | .none => True

theorem clientGet_res (cfg : Cfg) (st : St) (k : Bytes) : (clientGet cfg st k).1.Good k := by
  have qm : Words (ascii "?") := words_of_wordsb (by decide +kernel)
  have hhead (a b c d : Bytes) (tl : List Seg) :
      (([Seg.lit (a ++ sp ++ b ++ sp ++ c ++ sp ++ d ++ sp), Seg.ts] ++ tl).map segLen).sum
        = a.length + b.length + c.length + d.length + 4 + 10 + (tl.map segLen).sum := by
    simp [segLen, sp]; omega
  unfold clientGet
  split
  · trivial                                                   -- the empty key
  · split                                                     -- '@'
    · split                                                   -- "@@" + 16 hex digits: the raw record
      · exact fun _ => words_of_wordsb (by decide +kernel)    -- not 16 characters
      split
      · rename_i c hc                                         -- not hex: the message quotes the offending character
        have hm := parsePath_error_mem _ c hc
        exact fun hk => quoteErr_words c (fun e => hk.2.1 (by simp [← e, hm])) (fun e => hk.2.2 (by simp [← e, hm]))
      split
      · trivial                                               -- no such hash in the tree
      split
      · exact fun _ => qm                                     -- the record cannot be read
      · exact ⟨rfl, rfl, rfl, rfl⟩
    · split                                                   -- "@collision_…"
      · split
        · trivial
        · exact ⟨rfl, rfl, rfl, rfl⟩
      split                                                   -- '@' + path: a directory listing
      · exact ⟨rfl, rfl, rfl, rfl⟩                            -- not hex, or longer than 16: empty
      split
      · exact ⟨rfl, rfl, rfl, rfl⟩
      dsimp only
      split <;> exact ⟨rfl, rfl, rfl, rfl⟩                    -- item lines (any order) / node lines
  · split                                                     -- '?': the meta line
    · exact fun _ => words_of_wordsb (by decide +kernel)      -- "?" alone
    split
    split
    · trivial                                                 -- invalid key
    split
    · dsimp only
      split                                                   -- "??" with / without a position, "?"
      · refine ⟨rfl, rfl, rfl, (hhead ..).trans ?_⟩
        show _ + (1 + (_ + 1 + _ + 0)) = _ + 2 + _ + _
        omega
      · exact ⟨rfl, rfl, rfl, hhead _ _ _ _ [_]⟩
      · exact ⟨rfl, rfl, rfl, hhead _ _ _ _ []⟩
    · trivial
  · split                                                     -- an ordinary key: hit, storage error, miss
    · exact ⟨rfl, rfl, rfl, rfl⟩
    · exact fun _ => qm
    · trivial

theorem clientGet_good (cfg : Cfg) (st : St) (k : Bytes) (it : RItem) (h : (clientGet cfg st k).1 = .item it) :
    GoodItem k it := by
  have := clientGet_res cfg st k
  rwa [h] at this

theorem clientGet_err_words (cfg : Cfg) (st : St) (k msg : Bytes) (hk : Tok k) (h : (clientGet cfg st k).1 = .err msg) :
    Words msg := by
  have := clientGet_res cfg st k
  rw [h] at this
  exact this hk

theorem clientGet_led (cfg : Cfg) (st : St) (l : Ledger) (k : Bytes) :
    clientGet cfg { st with led := l } k = clientGet cfg st k := rfl

theorem multiGet_led (cfg : Cfg) (st : St) (l : Ledger) (ks seen : List Bytes) :
    multiGet cfg { st with led := l } ks seen = multiGet cfg st ks seen := by
  induction ks generalizing seen with
  | nil => rfl
  | cons k ks ih => simp only [multiGet, ih, clientGet_led]

theorem lookedUp_led (cfg : Cfg) (st : St) (l : Ledger) (ks : List Bytes) :
    lookedUp cfg { st with led := l } ks = lookedUp cfg st ks := by
  rw [lookedUp_eq, lookedUp_eq, multiGet_led]

theorem multiGet_spec (cfg : Cfg) (st : St) (ks : List Bytes) : ∀ seen : List Bytes,
    (∀ it ∈ (multiGet cfg st ks seen).1, it.key ∉ seen ∧ ∃ k ∈ ks, (clientGet cfg st k).1 = .item it)
    ∧ ((multiGet cfg st ks seen).1.map (·.key)).Nodup := by
  induction ks with
  | nil => intro seen; simp [multiGet]
  | cons k ks ih =>
    intro seen
    -- a key that contributes nothing: the items are those of the remaining keys
    have skip : (∀ it ∈ (multiGet cfg st ks seen).1, it.key ∉ seen ∧ ∃ k' ∈ k :: ks, (clientGet cfg st k').1 = .item it)
        ∧ ((multiGet cfg st ks seen).1.map (·.key)).Nodup := by
      obtain ⟨h1, h2⟩ := ih seen
      exact ⟨fun it hit => ⟨(h1 it hit).1, by obtain ⟨k', hk', e⟩ := (h1 it hit).2; exact ⟨k', by simp [hk'], e⟩⟩, h2⟩
    unfold multiGet
    split
    · exact skip
    · rename_i hseen
      split
      · rename_i it buf hcg
        have hitem : (clientGet cfg st k).1 = .item it := by rw [hcg]
        have hkey : it.key = k := (clientGet_good cfg st k it hitem).1
        obtain ⟨h1, h2⟩ := ih (k :: seen)
        refine ⟨?_, ?_⟩
        · intro x hx
          simp only [List.mem_cons] at hx
          rcases hx with rfl | hx
          · refine ⟨?_, k, by simp, hitem⟩
            rw [hkey]; simpa using hseen
          · obtain ⟨a, k', hk', e⟩ := h1 x hx
            exact ⟨fun hm => a (by simp [hm]), k', by simp [hk'], e⟩
        · simp only [List.map_cons, List.nodup_cons]
          refine ⟨?_, h2⟩
          intro hm
          obtain ⟨x, hx, e⟩ := List.mem_map.mp hm
          exact (h1 x hx).1 (by rw [e, hkey]; simp)
      · exact skip

theorem lookedUp_spec (cfg : Cfg) (st : St) (ks : List Bytes) :
    (∀ it ∈ lookedUp cfg st ks, ∃ k ∈ ks, (clientGet cfg st k).1 = .item it) ∧ ((lookedUp cfg st ks).map (·.key)).Nodup := by
  rw [lookedUp_eq]
  obtain ⟨h1, h2⟩ := multiGet_spec cfg st ks []
  exact ⟨fun it hit => (h1 it hit).2, h2⟩

theorem serveOnce_get (cfg : Cfg) (st : St) (gets : Bool) (ks : List Bytes) (more : Bytes)
    (hks : ∀ k ∈ ks, Tok k) (hne : ks ≠ []) :
    let r : Req := { cmd := if gets then ascii "gets" else ascii "get", keys := ks }
    (serveOnce cfg st (writeReq r ++ more)).n = (writeReq r).length
    ∧ (serveOnce cfg st (writeReq r ++ more)).resp = (processGet cfg { st with led := st.led.tokGet } r).2.1
    ∧ (serveOnce cfg st (writeReq r ++ more)).closing = (processGet cfg { st with led := st.led.tokGet } r).2.2.2 := by
  intro r
  have h := rt_get cfg st.led gets ks more hks hne
  rw [serveOnce_ok (by rw [h]), h]
  exact ⟨rfl, rfl, rfl⟩

theorem cmd_gets (gets : Bool) : ((if gets then ascii "gets" else ascii "get") == ascii "gets") = gets := by
  cases gets <;> decide

theorem serveOnce_get_reply (cfg : Cfg) (st : St) (gets : Bool) (ks : List Bytes) (more : Bytes)
    (hks : ∀ k ∈ ks, Tok k) (hne : ks ≠ []) (hlen : ∀ k ∈ ks, k.length ≤ cfg.maxKeyLen) :
    let r : Req := { cmd := if gets then ascii "gets" else ascii "get", keys := ks }
    let s := serveOnce cfg st (writeReq r ++ more)
    s.n = (writeReq r).length ∧ s.closing = false ∧
    (s.resp = some (.value gets (lookedUp cfg st ks))
      ∨ ∃ k msg, ks = [k] ∧ (clientGet cfg st k).1 = .err msg ∧ s.resp = some (.line (ascii "SERVER_ERROR") msg)) := by
  intro r s
  obtain ⟨hn, hresp, hclose⟩ := serveOnce_get cfg st gets ks more hks hne
  obtain ⟨_, _, x, e, hx⟩ := processGet_spec cfg { st with led := st.led.tokGet } r
  rw [e] at hresp hclose
  have hx := (if_pos fun k hk => ⟨List.length_pos_iff.mpr (hks k hk).1, hlen k hk⟩).mp hx
  rw [lookedUp_led, show r.cmd = _ from rfl, cmd_gets] at hx
  exact ⟨hn, hclose, hx.imp (fun hv => hresp.trans (congrArg some hv))
    fun ⟨k, msg, hk1, hk2, hk3⟩ => ⟨k, msg, hk1, hk2, hresp.trans (congrArg some hk3)⟩⟩

theorem serveOnce_get_roundtrip (cfg : Cfg) (hmax : cfg.bodyMax < 9223372036854775808) (st : St) (gets : Bool)
    (ks : List Bytes) (more : Bytes) (hks : ∀ k ∈ ks, Tok k) (hne : ks ≠ [])
    (hlen : ∀ k ∈ ks, k.length ≤ cfg.maxKeyLen)
    (hstore : ∀ it ∈ lookedUp cfg st ks, I64 it.flag ∧ it.len ≤ cfg.bodyMax) :
    let r : Req := { cmd := if gets then ascii "gets" else ascii "get", keys := ks }
    let s := serveOnce cfg st (writeReq r ++ more)
    s.n = (writeReq r).length ∧ s.closing = false ∧
    ((s.resp = some (.value gets (lookedUp cfg st ks)) ∧
        ∀ w, (Resp.value gets (lookedUp cfg st ks)).Wire w →
          ∃ (its : List RItem) (ps : List PItem), its.Perm (lookedUp cfg st ks) ∧ Carries its ps ∧
            ∀ (rest : Bytes) (fuel : Nat), (lookedUp cfg st ks).length + 1 ≤ fuel →
              readResp cfg fuel (w ++ rest) []
                = some ({ status := ascii "END", msg := [], items := ps.map (PItem.norm gets) }, rest))
     ∨ (∃ k msg, ks = [k] ∧ (clientGet cfg st k).1 = .err msg ∧ s.resp = some (.line (ascii "SERVER_ERROR") msg) ∧
        ∀ w, (Resp.line (ascii "SERVER_ERROR") msg).Wire w → ∀ (rest : Bytes) (fuel : Nat), 1 ≤ fuel →
          readResp cfg fuel (w ++ rest) [] = some ({ status := ascii "SERVER_ERROR", msg := msg, items := [] }, rest))) := by
  intro r s
  obtain ⟨hn, hclose, hpr⟩ := serveOnce_get_reply cfg st gets ks more hks hne hlen
  refine ⟨hn, hclose, ?_⟩
  rcases hpr with hv | ⟨k, msg, hk1, hk2, hk3⟩
  · left
    refine ⟨hv, ?_⟩
    intro w hw
    obtain ⟨hspec, hnd⟩ := lookedUp_spec cfg st ks
    have hok : ∀ it ∈ lookedUp cfg st ks, it.OK cfg := by
      intro it hit
      obtain ⟨k, hk, hcg⟩ := hspec it hit
      have hg := clientGet_good cfg st k it hcg
      have hs := hstore it hit
      exact ⟨by rw [hg.1]; exact hks k hk, hs.1, by rw [hg.2.1]; constructor <;> decide, hs.2, hg.lenOK⟩
    exact readResp_wire_value_nodup cfg hmax gets _ hok hnd w hw
  · right
    refine ⟨k, msg, hk1, hk2, hk3, ?_⟩
    intro w hw rest fuel hf
    obtain ⟨toks, ht, rfl⟩ := clientGet_err_words cfg st k msg (hks k (by simp [hk1])) hk2
    exact readResp_wire_line_msg cfg _ toks w (by decide) ht hw rest fuel hf

/-- an ordinary key that is stored: the client gets the stored bytes back, byte for byte, and nothing else -/
theorem serveOnce_get_one_lit (cfg : Cfg) (hmax : cfg.bodyMax < 9223372036854775808) (st : St) (gets : Bool)
    (k : Bytes) (flag : Int) (body more : Bytes) (hk : Tok k) (hlen : k.length ≤ cfg.maxKeyLen)
    (hcg : (clientGet cfg st k).1 = .item { key := k, flag := flag, body := [.lit body], len := body.length })
    (hf : I64 flag) (hb : body.length ≤ cfg.bodyMax) :
    let r : Req := { cmd := if gets then ascii "gets" else ascii "get", keys := [k] }
    ∀ w, (serveOnce cfg st (writeReq r ++ more)).resp.elim False (fun x => x.Wire w) →
      ∀ (rest : Bytes) (fuel : Nat), 2 ≤ fuel →
        readResp cfg fuel (w ++ rest) []
          = some ({ status := ascii "END", msg := [], items := [{ key := k, flag := flag, cas := 0, body := body }] }, rest) := by
  intro r w hw rest fuel hfuel
  have hv : (serveOnce cfg st (writeReq r ++ more)).resp
      = some (.value gets [RItem.ofLit { key := k, flag := flag, cas := 0, body := body }]) :=
    (serveOnce_get cfg st gets [k] more (by simpa using hk) (by simp)).2.1.trans <|
      (processGet_one_item cfg { st with led := st.led.tokGet } r k _ rfl ⟨List.length_pos_iff.mpr hk.1, hlen⟩
        (by rw [clientGet_led]; exact hcg)).trans (by rw [show r.cmd = _ from rfl, cmd_gets]; rfl)
  rw [hv] at hw
  obtain ⟨ps, hperm, h⟩ := readResp_wire_value_lit cfg hmax gets [{ key := k, flag := flag, cas := 0, body := body }]
    (by simpa [ItemOK] using ⟨hk, hf, by constructor <;> decide, hb⟩) (by simp) w hw
  rw [h rest fuel hfuel, List.perm_singleton.mp hperm]
  cases gets <;> rfl

/-- the fixed messages of `serveOnce` / `process` are words -/
theorem server_messages_words : ∀ m ∈ [ascii "invalid cmd", ascii "value too large", ascii "bad data chunk",
    ascii "key length error", ascii "invalid number", ascii "NOT_FOUND", ascii "operation not support", []], Words m :=
  fun m hm => words_of_wordsb (List.all_eq_true.mp (by decide +kernel) m hm)

theorem processStats_statSegs (st : St) (r : Req) :
    ∃ msg, (processStats st r).2.1 = some (.stat msg) ∧ ∀ s ∈ msg, StatSeg s := by
  unfold processStats
  refine iteInduction (motive := fun p : PRes => ∃ msg, p.2.1 = some (.stat msg) ∧ ∀ s ∈ msg, StatSeg s) (fun _ => ?_) fun _ => ?_
  · exact ⟨[.statsAll], rfl, by intro s hs; simp at hs; subst hs; exact Or.inr (Or.inr rfl)⟩
  · refine ⟨_, rfl, ?_⟩
    intro s hs
    obtain ⟨k, _, rfl⟩ := List.mem_map.mp hs
    split
    · exact Or.inl ⟨_, _, rfl⟩
    · exact Or.inr (Or.inl ⟨_, rfl⟩)

/-- the round trip for EVERY reply of `serveOnce`, whatever the input bytes: not proved here (needs: the keys `readReq`
    hands on are tokens; a case split over `process`).  Excluded are the two refused classes (`readResp_wire_none_refused`,
    `readResp_wire_stat_refused`): the reply "none" and STAT lines with non-token values.  Assumed besides: a version string
    of words, VALUE items in range (as `hstore` of `serveOnce_get_roundtrip`), a `.num` reply that is an int64 in decimal. -/
def serveOnce_reply_readable_statement : Prop :=
  ∀ (cfg : Cfg) (st : St) (inp : Bytes) (r : Resp) (w rest : Bytes),
    cfg.bodyMax < 9223372036854775808 → Words cfg.version →
    (serveOnce cfg st inp).resp = some r →
    r ≠ .line (ascii "none") [] →
    (∀ msg, r = .stat msg → ∀ nvs, w = statLines nvs ++ endLine → ∀ nv ∈ nvs, Tok nv.1 ∧ Tok nv.2) →
    (∀ c items, r = .value c items → ∀ it ∈ items, I64 it.flag ∧ it.len ≤ cfg.bodyMax) →
    (∀ m, r = .num m → ∃ v, I64 v ∧ m = itoa v) →
    r.Wire w →
    ∃ (p : PResp) (fuel0 : Nat), ∀ fuel, fuel0 ≤ fuel → readResp cfg fuel (w ++ rest) [] = some (p, rest)

end Proto
