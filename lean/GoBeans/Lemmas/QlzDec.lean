/-
  QuickLZ (C10) — the decoder half of the round trips.  A certificate `Enc`, with one constructor per kind of pass of the
  decoder (a literal, a match, the final literal run `TailEnc`), says that a stream encodes a value for the decoder of a level;
  a level enters through `DecLevel`.  The model of the Go `Decompress` run on a certified stream returns exactly that value
  (`dec_loop`, `dec_enc`), given that the level's `litStep` / `matchStep` do what the certificate says (`DecOK`).
-/
import GoBeans.Lemmas.QlzBytes
namespace QlzRT
open Qlz QlzLemmas

theorem wr_prefix {d x : Buf} {q : Nat} {b : UInt8} (hs : d.size = x.size) (hp : ∀ j, j < q → d[j]? = x[j]?)
    (hx : x[q]? = some b) : ∃ d1, wr d q b = some d1 ∧ d1.size = x.size ∧ ∀ j, j < q + 1 → d1[j]? = x[j]? := by
  obtain ⟨d1, hd1⟩ := wr_ok b (by rw [hs]; exact getElem?_some_lt hx : q < d.size)
  refine ⟨d1, hd1, by rw [wr_size hd1, hs], ?_⟩
  intro j hj
  rw [wr_get hd1 j]
  by_cases hjq : j = q
  · subst hjq; simp [hx]
  · simp only [hjq, if_false]; exact hp j (by omega)

theorem copyFrom_match {x : Buf} {q off : Nat} (hoff : 1 ≤ off) (hle : off ≤ q) :
    ∀ (n i : Nat) (d : Buf), d.size = x.size → q + i + n ≤ x.size → (∀ j, j < i + n → x[q + j]? = x[q - off + j]?) →
      (∀ j, j < q + i → d[j]? = x[j]?) →
      ∃ d', copyFrom q ((q : Int) - (off : Nat)) i n d = some d' ∧ d'.size = x.size ∧ ∀ j, j < q + i + n → d'[j]? = x[j]? := by
  intro n
  induction n with
  | zero => intro i d hs _ _ hp; exact ⟨d, rfl, hs, by simpa using hp⟩
  | succ n ih =>
    intro i d hs hb hx hp
    unfold copyFrom
    have hxq : q + i < x.size := by omega
    have hrd : rdI d ((q : Int) - (off : Nat) + (i : Nat)) = some x[q + i] := by
      unfold rdI
      rw [show ((q : Int) - (off : Nat) + (i : Nat)) = ((q - off + i : Nat) : Int) by omega]
      simp only [Int.toNat_natCast, show ¬ (((q - off + i : Nat) : Int) < 0) by omega, if_false]
      rw [hp _ (by omega), ← hx i (by omega)]
      exact Array.getElem?_eq_getElem hxq
    obtain ⟨d1, hd1, hs1, hp1⟩ := wr_prefix hs hp (Array.getElem?_eq_getElem hxq)
    rw [hrd]
    simp only
    rw [hd1]
    simp only
    obtain ⟨d', h1, h2, h3⟩ := ih (i + 1) d1 hs1 (by omega) (fun j hj => hx j (by omega)) hp1
    exact ⟨d', h1, h2, fun j hj => h3 j (by omega)⟩

theorem copyFrom_match2 {x d : Buf} {q off ml : Nat} (hoff : 1 ≤ off) (hle : off ≤ q) (hml : 3 ≤ ml) (hend : q + ml ≤ x.size)
    (hx : ∀ j, j < ml → x[q + j]? = x[q - off + j]?) (hs : d.size = x.size) (hp : ∀ j, j < q → d[j]? = x[j]?) :
    ∃ d3 d', copyFrom q ((q : Int) - (off : Nat)) 0 3 d = some d3 ∧ copyFrom q ((q : Int) - (off : Nat)) 3 (ml - 3) d3 = some d'
      ∧ d'.size = x.size ∧ ∀ j, j < q + ml → d'[j]? = x[j]? := by
  obtain ⟨d3, hc3, hs3, hp3⟩ := copyFrom_match hoff hle 3 0 d hs (by omega) (fun j hj => hx j (by omega)) (by simpa using hp)
  obtain ⟨d', hcd, hsd, hpd⟩ := copyFrom_match hoff hle (ml - 3) 3 d3 hs3 (by omega) (fun j hj => hx j (by omega)) (by simpa using hp3)
  exact ⟨d3, d', hc3, hcd, hsd, fun j hj => hpd j (by omega)⟩

/-- the control word in force after the reload test at the top of a pass -/
def cwAt (c : Buf) (p cw : Nat) : Option (Nat × Nat) :=
  if cw = 1 then (match fastRead c p 4 with | none => none | some W => some (p + 4, W)) else some (p, cw)

theorem cwAt_reload {c : Buf} {p W p' cw' : Nat} (hW : W ≠ 1) (hr : fastRead c p 4 = some W)
    (h : cwAt c (p + 4) W = some (p', cw')) : cwAt c p 1 = some (p', cw') := by
  simp only [cwAt, hW, if_false, Option.some.injEq, Prod.mk.injEq] at h
  obtain ⟨rfl, rfl⟩ := h
  simp [cwAt, hr]

/-- the final literal run: `c` from `p` holds `x[q..]` verbatim, a 4-byte control word skipped whenever the current one
    is used up (its value is not looked at) -/
inductive TailEnc (c x : Buf) : Nat → Nat → Nat → Prop
  | done {p q cw : Nat} : x.size ≤ q → TailEnc c x p q cw
  | step {p q cw : Nat} (b : UInt8) :
      c[if cw = 1 then p + 4 else p]? = some b → x[q]? = some b →
      TailEnc c x ((if cw = 1 then p + 4 else p) + 1) (q + 1) ((if cw = 1 then 0x80000000 else cw) >>> 1) →
      TailEnc c x p q cw

theorem TailEnc.skip {c x : Buf} {p q : Nat} (h : TailEnc c x (p + 4) q 0x80000000) : TailEnc c x p q 1 := by
  cases h with
  | done hq => exact .done hq
  | step b hc hx ht => exact .step b (by simpa using hc) hx (by simpa using ht)

theorem tailLoop_enc {c x : Buf} {p q cw : Nat} (h : TailEnc c x p q cw) :
    ∀ (d : Buf), d.size = x.size → (∀ j, j < q → d[j]? = x[j]?) → q ≤ x.size → tailLoop c (x.size - q) p q cw d = some x := by
  induction h with
  | @done p q cw hq =>
    intro d hs hp hle
    have : x.size - q = 0 := by omega
    rw [this]; simp only [tailLoop]
    congr 1
    apply Array.ext_getElem?
    intro j
    by_cases hj : j < x.size
    · exact hp j (by omega)
    · rw [Array.getElem?_eq_none (by omega), Array.getElem?_eq_none (by omega)]
  | @step p q cw b hc hx _ ih =>
    intro d hs hp hle
    have hq := getElem?_some_lt hx
    have : x.size - q = (x.size - (q + 1)) + 1 := by omega
    rw [this]
    unfold tailLoop
    simp only [CWORD_LEN]
    rw [hc]
    simp only
    obtain ⟨d1, hd1, hs1, hp1⟩ := wr_prefix hs hp hx
    rw [hd1]
    exact ih d1 hs1 hp1 (by omega)

/-- the decoder's variables at the top of a pass, related to a position of the certificate (`n`: the bytes it keeps in
    `fetch`, 3 at level 1 and 4 at level 3) -/
structure DInv (c x : Buf) (st : St) (p q cw n : Nat) : Prop where
  src : st.src = p
  dst : st.dst = q
  cword : st.cword = cw
  size : st.dest.size = x.size
  pre : ∀ j, j < q → st.dest[j]? = x[j]?
  -- with `cw = 1` the pass starts with a reload, which reads `fetch` again
  fetch : cw ≠ 1 → ((q : Nat) : Int) ≤ (x.size : Int) - 11 → fastRead c p n = some st.fetch

/-- the decoder's variables `st1` after the reload test at the top of a pass entered with `st` -/
structure Loaded (c x : Buf) (st st1 : St) (p' q cw' n : Nat) : Prop where
  src : st1.src = p'
  cword : st1.cword = cw'
  dst : st1.dst = q
  dest : st1.dest = st.dest
  ht : st1.ht = st.ht
  lastHashed : st1.lastHashed = st.lastHashed
  fetch : ((q : Nat) : Int) ≤ (x.size : Int) - 11 → fastRead c p' n = some st1.fetch

/-- `hf`: a reload reads `fetch` again while `dst` is in the range of the main loop, so the stream must hold those bytes -/
theorem DInv.load {c x : Buf} {st : St} {level p q cw n p' cw' : Nat} (hn : (if level = 1 then 3 else 4) = n)
    (hi : DInv c x st p q cw n) (hcw : cwAt c p cw = some (p', cw'))
    (hf : ((q : Nat) : Int) ≤ (x.size : Int) - 11 → (fastRead c p' n).isSome) :
    ∃ st1, loadCword c level ((x.size : Int) - 11) st = some st1 ∧ Loaded c x st st1 p' q cw' n := by
  unfold cwAt at hcw
  unfold loadCword
  rw [hn]
  by_cases h1 : cw = 1
  · rw [if_pos h1] at hcw
    rw [if_pos (by rw [hi.cword]; exact h1)]
    split at hcw
    · cases hcw
    · rename_i W hW
      cases hcw
      rw [hi.src, hW]
      simp only
      by_cases hq : ((q : Nat) : Int) ≤ (x.size : Int) - 11
      · rw [if_pos (by rw [hi.dst]; exact hq)]
        obtain ⟨f, hf'⟩ := Option.isSome_iff_exists.mp (hf hq)
        rw [hf']
        exact ⟨_, rfl, rfl, rfl, hi.dst, rfl, rfl, rfl, fun _ => hf'⟩
      · rw [if_neg (by rw [hi.dst]; exact hq)]
        exact ⟨_, rfl, rfl, rfl, hi.dst, rfl, rfl, rfl, fun h => absurd h hq⟩
  · rw [if_neg h1] at hcw
    cases hcw
    rw [if_neg (by rw [hi.cword]; exact h1)]
    exact ⟨st, rfl, hi.src, hi.cword, hi.dst, rfl, rfl, rfl, fun h => hi.fetch h1 h⟩

theorem step_load {c x : Buf} {st : St} {level p q cw n p' cw' : Nat} (hn : (if level = 1 then 3 else 4) = n)
    (hi : DInv c x st p q cw n) (hcw : cwAt c p cw = some (p', cw'))
    (hf : ((q : Nat) : Int) ≤ (x.size : Int) - 11 → (fastRead c p' n).isSome) :
    ∃ st1, Loaded c x st st1 p' q cw' n
      ∧ step c level x.size st =
          if cw' &&& 1 = 1 then (matchStep c level st1).map Step.cont
          else if ((q : Nat) : Int) ≤ (x.size : Int) - 11 then (litStep c level st1).map Step.cont
          else (tailLoop c (x.size - q) p' q cw' st.dest).map Step.done := by
  obtain ⟨st1, hl, ld⟩ := hi.load hn hcw hf
  exact ⟨st1, ld, by rw [step_eq hl, ld.cword, ld.dst, ld.src, ld.dest]⟩

/-- `enc` written little-endian in `len` bytes is a token that a decoder fetching `n` bytes and decoding them with `tok`
    reads as length `ml` and payload `y`, whatever follows it -/
structure TokEnc (tok : Nat → Nat × Nat × Nat) (n enc len ml y : Nat) : Prop where
  pos : 1 ≤ len
  le : len ≤ n
  lt : enc < 2 ^ (8 * len)
  dec : ∀ junk, junk < 2 ^ (8 * n - 8 * len) → tok (enc + 2 ^ (8 * len) * junk) = (ml, y, len)

theorem TokEnc.read {tok : Nat → Nat × Nat × Nat} {c : Buf} {n enc len ml y p f : Nat} (h : TokEnc tok n enc len ml y)
    (hb : ∀ j, j < len → c[p + j]? = some (byteOf enc j)) (hf : fastRead c p n = some f) : tok f = (ml, y, len) := by
  obtain ⟨_, hl, henc, htok⟩ := h
  have h1 := fastRead_prefix len hl hf
  rw [fastRead_bytes len hb, Nat.mod_eq_of_lt henc, Option.some.injEq] at h1
  have h2 : f < 2 ^ (8 * len) * 2 ^ (8 * n - 8 * len) := by
    rw [← Nat.pow_add, show 8 * len + (8 * n - 8 * len) = 8 * n by omega]; exact fastRead_lt hf
  have := htok (f / 2 ^ (8 * len)) (Nat.div_lt_of_lt_mul h2)
  rwa [h1, Nat.add_comm, Nat.div_add_mod] at this

theorem TokEnc.of_fields {tok : Nat → Nat × Nat × Nat} {n len va vb vc ml y : Nat} (wa wb wc : Nat) (hw : wa + wb + wc = 8 * len)
    (h1 : 1 ≤ len) (hn : len ≤ n) (ha : va < 2 ^ wa) (hb : vb < 2 ^ wb) (hc : vc < 2 ^ wc)
    (hdec : ∀ f, f < 2 ^ (8 * n) → fld f 0 wa = va → fld f wa wb = vb → fld f (wa + wb) wc = vc → tok f = (ml, y, len)) :
    TokEnc tok n (pack wa wb va vb vc) len ml y := by
  have hlt := pack_lt ha hb hc
  rw [hw] at hlt
  refine ⟨h1, hn, hlt, fun j hj => ?_⟩
  obtain ⟨f1, f2, f3⟩ := @fld_pack wa wb wc va vb vc j ha hb hc
  rw [hw] at f1 f2 f3
  refine hdec _ ?_ f1 f2 f3
  calc pack wa wb va vb vc + 2 ^ (8 * len) * j < 2 ^ (8 * len) * (j + 1) := by rw [Nat.mul_succ]; omega
    _ ≤ 2 ^ (8 * len) * 2 ^ (8 * n - 8 * len) := Nat.mul_le_mul_left _ hj
    _ = 2 ^ (8 * n) := by rw [← Nat.pow_add]; congr 1; omega

/-- what a level's decoder does with a match token and carries besides the shared variables (`α`: nothing at level 3,
    the hash table and `lastHashed` at level 1) -/
structure DecLevel (α : Type) where
  n : Nat                                   -- bytes kept in `fetch`
  tok : Nat → Nat × Nat × Nat               -- `fetch` ↦ (matchlen, payload, token length)
  aux : Array Int → Int → α                -- of `hashtable`, `lastHashed`
  lit : Buf → Nat → α → α → Prop            -- `lit x q a a'`: over a literal at `q`
  mat : Buf → Nat → Nat → Nat → Nat → α → α → Prop   -- `mat x q ml y off a a'`: payload `y` means distance `off`; over the match

/-- read from position `p` with `cw` left of the current control word, the stream `c` encodes `x[q..]` for a decoder of
    level `D` whose own variables are `a` -/
inductive Enc {α : Type} (D : DecLevel α) (c x : Buf) : Nat → Nat → Nat → α → Prop
  | lit {p q cw p' cw' : Nat} {a a' : α} (b : UInt8) :
      cwAt c p cw = some (p', cw') → cw' &&& 1 = 0 → ((q : Nat) : Int) ≤ (x.size : Int) - 11 →
      (fastRead c p' D.n).isSome → c[p']? = some b → x[q]? = some b → (fastRead c (p' + 1) D.n).isSome → D.lit x q a a' →
      Enc D c x (p' + 1) (q + 1) (cw' >>> 1) a' → Enc D c x p q cw a
  | mat {p q cw p' cw' f ml y off len : Nat} {a a' : α} :
      cwAt c p cw = some (p', cw') → cw' &&& 1 = 1 → ((q : Nat) : Int) ≤ (x.size : Int) - 11 →
      fastRead c p' D.n = some f → D.tok f = (ml, y, len) → D.mat x q ml y off a a' → 1 ≤ off → off ≤ q → 3 ≤ ml → q + ml ≤ x.size →
      (∀ j, j < ml → x[q + j]? = x[q - off + j]?) → (fastRead c (p' + len) D.n).isSome →
      Enc D c x (p' + len) (q + ml) (cw' >>> 1) a' → Enc D c x p q cw a
  | fin {p q cw p' cw' : Nat} {a : α} :
      cwAt c p cw = some (p', cw') → cw' &&& 1 = 0 → ¬ (((q : Nat) : Int) ≤ (x.size : Int) - 11) → q ≤ x.size →
      TailEnc c x p' q cw' → Enc D c x p q cw a

theorem Enc.reload {α : Type} {D : DecLevel α} {c x : Buf} {p q W : Nat} {a : α} (hW : W ≠ 1) (hr : fastRead c p 4 = some W)
    (h : Enc D c x (p + 4) q W a) : Enc D c x p q 1 a := by
  cases h with
  | lit b h1 h2 h3 h4 h5 h6 h7 h8 h9 => exact .lit b (cwAt_reload hW hr h1) h2 h3 h4 h5 h6 h7 h8 h9
  | mat h1 h2 h3 h4 h5 h6 h7 h8 h9 h10 h11 h12 h13 => exact .mat (cwAt_reload hW hr h1) h2 h3 h4 h5 h6 h7 h8 h9 h10 h11 h12 h13
  | fin h1 h2 h3 h4 h5 => exact .fin (cwAt_reload hW hr h1) h2 h3 h4 h5

/-- what `dec_loop` needs of a level: its literal pass and its match pass, run where the certificate says a literal / a
    match stands, are the certificate's step -/
structure DecOK (level : Nat) {α : Type} (D : DecLevel α) : Prop where
  lvl : level = 1 ∨ level = 3
  hn : (if level = 1 then 3 else 4) = D.n
  lit : ∀ {c x : Buf} {st1 : St} {d1 : Buf} {b : UInt8} {f' : Nat} {a' : α}, c[st1.src]? = some b → wr st1.dest st1.dst b = some d1 →
    (∀ j, j < st1.dst + 1 → d1[j]? = x[j]?) →
    fastRead c st1.src D.n = some st1.fetch → fastRead c (st1.src + 1) D.n = some f' → D.lit x st1.dst (D.aux st1.ht st1.lastHashed) a' →
    ∃ st', litStep c level st1 = some st' ∧ st'.src = st1.src + 1 ∧ st'.dst = st1.dst + 1 ∧ st'.cword = st1.cword >>> 1
      ∧ st'.dest = d1 ∧ D.aux st'.ht st'.lastHashed = a' ∧ st'.fetch = f'
  mat : ∀ {c x : Buf} {st1 : St} {d3 d : Buf} {ml y off len f' : Nat} {a' : α}, fastRead c st1.src D.n = some st1.fetch →
    D.tok st1.fetch = (ml, y, len) → D.mat x st1.dst ml y off (D.aux st1.ht st1.lastHashed) a' → 3 ≤ ml →
    copyFrom st1.dst ((st1.dst : Int) - (off : Nat)) 0 3 st1.dest = some d3 →
    copyFrom st1.dst ((st1.dst : Int) - (off : Nat)) 3 (ml - 3) d3 = some d →
    d.size = x.size → (∀ j, j < st1.dst + ml → d[j]? = x[j]?) → fastRead c (st1.src + len) D.n = some f' →
    ∃ st', matchStep c level st1 = some st' ∧ st'.src = st1.src + len ∧ st'.dst = st1.dst + ml ∧ st'.cword = st1.cword >>> 1
      ∧ st'.dest = d ∧ D.aux st'.ht st'.lastHashed = a' ∧ st'.fetch = f'

theorem DecOK.n4 {level : Nat} {α : Type} {D : DecLevel α} (ok : DecOK level D) : D.n ≤ 4 := by
  have := ok.hn
  split at this <;> omega

theorem dec_loop {α : Type} {level : Nat} {D : DecLevel α} (ok : DecOK level D) {c x : Buf} {p q cw : Nat} {a : α}
    (h : Enc D c x p q cw a) : ∀ (st : St), DInv c x st p q cw D.n → D.aux st.ht st.lastHashed = a → ∃ n, loop c level x.size n st = .ok x := by
  induction h with
  | @lit p q cw p' cw' a a' b hcw hbit hq hfr hc hx hnext hA _ ih =>
    intro st hi ha
    obtain ⟨st1, ld, hstep⟩ := step_load ok.hn hi hcw (fun _ => hfr)
    obtain ⟨d1, hd1, hs1, hp1⟩ := wr_prefix hi.size hi.pre hx
    obtain ⟨f', hf'⟩ := Option.isSome_iff_exists.mp hnext
    have haux : D.aux st1.ht st1.lastHashed = a := by rw [ld.ht, ld.lastHashed]; exact ha
    obtain ⟨st', hl, e1, e2, e3, e4, e5, e6⟩ := ok.lit (x := x) (by rw [ld.src]; exact hc) (by rw [ld.dest, ld.dst]; exact hd1)
      (by rw [ld.dst]; exact hp1) (by rw [ld.src]; exact ld.fetch hq) (by rw [ld.src]; exact hf') (by rw [ld.dst, haux]; exact hA)
    rw [if_neg (by rw [hbit]; omega), if_pos hq, hl] at hstep
    exact loop_cont hstep (ih st' ⟨by rw [e1, ld.src], by rw [e2, ld.dst], by rw [e3, ld.cword], by rw [e4]; exact hs1,
      by rw [e4]; exact hp1, fun _ _ => by rw [e6]; exact hf'⟩ e5)
  | @mat p q cw p' cw' f ml y off len a a' hcw hbit hq hf htk hA ho1 ho2 hml hend hx hnext _ ih =>
    intro st hi ha
    obtain ⟨st1, ld, hstep⟩ := step_load ok.hn hi hcw (fun _ => by rw [hf]; rfl)
    have hfe : st1.fetch = f := Option.some.inj ((ld.fetch hq).symm.trans hf)
    obtain ⟨f', hf'⟩ := Option.isSome_iff_exists.mp hnext
    obtain ⟨d3, d, hc3, hcd, hsd, hpd⟩ := copyFrom_match2 ho1 ho2 hml hend hx hi.size hi.pre
    have haux : D.aux st1.ht st1.lastHashed = a := by rw [ld.ht, ld.lastHashed]; exact ha
    obtain ⟨st', hm, e1, e2, e3, e4, e5, e6⟩ := ok.mat (x := x) (by rw [ld.src]; exact ld.fetch hq) (by rw [hfe]; exact htk)
      (by rw [ld.dst, haux]; exact hA) hml (by rw [ld.dst, ld.dest]; exact hc3) (by rw [ld.dst]; exact hcd) hsd
      (by rw [ld.dst]; exact hpd) (by rw [ld.src]; exact hf')
    rw [if_pos hbit, hm] at hstep
    exact loop_cont hstep (ih st' ⟨by rw [e1, ld.src], by rw [e2, ld.dst], by rw [e3, ld.cword], by rw [e4]; exact hsd,
      by rw [e4]; exact hpd, fun _ _ => by rw [e6]; exact hf'⟩ e5)
  | @fin p q cw p' cw' a hcw hbit hq hle ht =>
    intro st hi _
    obtain ⟨st1, _, hstep⟩ := step_load ok.hn hi hcw (fun h => absurd h hq)
    rw [if_neg (by rw [hbit]; omega), if_neg hq, tailLoop_enc ht st.dest hi.size hi.pre hle] at hstep
    exact ⟨1, by simp only [loop, hstep, Option.map_some]⟩

/-- the main loop needs no bound of its own here: `loop_ok_of_lt` carries a result found with any number of passes over to
    the `len(source)` passes `decompress` allows -/
theorem dec_enc {α : Type} {level : Nat} {D : DecLevel α} (ok : DecOK level D) {c x : Buf}
    (hh : headerLen c = some 9) (hsd : sizeDecompressed c = some x.size) (hlv : levelOf c = some level) (hcb : cbitOf c = some 1)
    (henc : Enc D c x 9 0 1 (D.aux (Array.replicate 4096 0) (-1))) : decompress c = .ok x := by
  rw [decompress, decompressFuel_eq _ hsd hh hlv ok.lvl hcb, if_neg (by omega)]
  obtain ⟨fuel, hf⟩ := dec_loop ok henc (initSt 9 x.size)
    ⟨rfl, rfl, rfl, initSt_dest_size _ _, fun j hj => absurd hj (Nat.not_lt_zero j), fun h => absurd rfl h⟩ rfl
  exact loop_ok_of_lt hf (Nat.sub_lt (headerLen_cases hh).2 (Nat.zero_lt_succ 8))

/-- level-3 token decoder: the arithmetic of quicklz.go:349-369 — (matchlen, offset, token length) -/
def tok3 (f : Nat) : Nat × Nat × Nat :=
  if f % 4 = 0 then (3, f % 256 / 4, 1)
  else if f / 2 % 2 = 0 then (3, f % 65536 / 4, 2)
  else if f % 2 = 0 then (f / 4 % 16 + 3, f % 65536 / 64, 2)
  else if f % 128 ≠ 3 then (f / 4 % 32 + 2, f / 128 % 131072, 3)
  else (f / 128 % 256 + 3, f / 32768, 4)

theorem decodeMatch_tok3 (s : Buf) (st : St) :
    decodeMatch s 3 st = some ((tok3 st.fetch).1, (st.dst : Int) - ((tok3 st.fetch).2.1 : Nat), st.src + (tok3 st.fetch).2.2) := by
  unfold decodeMatch tok3
  simp only [show (3 : Nat) ≠ 1 by omega, if_false, and_3, and_2, and_1, and_127, and_255, and_ffff, and_15, and_31, and_1ffff, shr]
  have h2 : (st.fetch / 2 % 2 * 2 = 0) ↔ (st.fetch / 2 % 2 = 0) := by omega
  by_cases c1 : st.fetch % 4 = 0
  · simp [c1]
  · by_cases c2 : st.fetch / 2 % 2 = 0
    · simp [c1, c2]
    · by_cases c3 : st.fetch % 2 = 0
      · simp [c1, c2, c3, h2]
      · by_cases c4 : st.fetch % 128 = 3
        · simp [c1, c2, c3, c4, h2]
        · simp [c1, c2, c3, c4, h2]

def dl3 : DecLevel Unit where
  n := 4
  tok := tok3
  aux _ _ := ()
  lit _ _ _ _ := True
  mat _ _ _ y off _ _ := y = off

theorem decOK3 : DecOK 3 dl3 where
  lvl := .inr rfl
  hn := rfl
  lit {c x st1 d1 b f' a'} hc hw _ hf hn _ := by
    obtain ⟨l, b3, hl, hb3, _⟩ := fastRead_succ hn
    obtain ⟨_, b2, _, hb2, _⟩ := fastRead_succ hl
    refine ⟨⟨st1.src + 1, st1.dst + 1, st1.cword >>> 1, d1, st1.ht, st1.lastHashed, f'⟩, ?_, rfl, rfl, rfl, rfl, rfl, rfl⟩
    rw [← Option.some.inj ((fetch_shift4 hf hb2 hb3).symm.trans hn)]
    unfold litStep
    rw [hc]
    simp only
    rw [hw]
    simp only [show (3 : Nat) ≠ 1 by omega, if_false]
    rw [hb2, hb3]
  mat {c x st1 d3 d ml y off len f' a'} _ htk hy _ hc3 hcd _ _ hn := by
    cases hy
    have htk : tok3 st1.fetch = (ml, y, len) := htk
    have hn : fastRead c (st1.src + len) 4 = some f' := hn
    refine ⟨⟨st1.src + len, st1.dst + ml, st1.cword >>> 1, d, st1.ht, ((st1.dst + ml : Nat) : Int) - 1, f'⟩, ?_, rfl, rfl, rfl, rfl, rfl, rfl⟩
    unfold matchStep
    rw [decodeMatch_tok3, htk]
    simp only
    rw [hc3]
    simp only
    rw [hcd]
    simp only [show (3 : Nat) ≠ 1 by omega, if_false]
    rw [hn]

theorem wrI_eq {ht : Array Int} (hs : ht.size = 4096) (f : Nat) (v : Int) :
    wrI ht (hashOf f) v = some (ht.setIfInBounds (hashOf f) v) := by
  unfold wrI
  rw [if_pos (by rw [hs]; exact hashOf_lt f)]

/-- a run of updates reads only below `lh + n + 3` (an empty run reads nothing, hence `n ≠ 0 →`); `-1 ≤ lh`: `lastHashed`
    starts at −1 (`initSt`) -/
theorem hashUpdLit_congr {d x : Buf} {Q : Nat} (hag : ∀ j, j < Q → d[j]? = x[j]?) :
    ∀ (n : Nat) (ht : Array Int) (lh : Int), -1 ≤ lh → (n ≠ 0 → lh + n + 3 ≤ Q) →
      hashUpdLit d n ht lh = hashUpdLit x n ht lh := by
  intro n
  induction n with
  | zero => intro ht lh _ _; rfl
  | succ n ih =>
    intro ht lh h1 hq
    have hq' := hq (by omega)
    obtain ⟨m, hm⟩ : ∃ m : Nat, lh + 1 = (m : Int) := ⟨(lh + 1).toNat, by omega⟩
    rw [hashUpdLit_succ, hashUpdLit_succ, fastReadI_nat d _ m 3 hm, fastReadI_nat x _ m 3 hm]
    have : fastRead d m 3 = fastRead x m 3 := fastRead_congr 3 (fun j hj => hag _ (by omega))
    rw [this]
    cases fastRead x m 3 with
    | none => rfl
    | some f2 =>
      simp only
      cases wrI ht (hashOf f2) (lh + 1) with
      | none => rfl
      | some ht' =>
        simp only
        exact ih ht' (lh + 1) (by omega) (fun _ => by omega)

theorem hashUpdLit_upto {d x : Buf} {Q : Nat} (hag : ∀ j, j < Q → d[j]? = x[j]?) (ht : Array Int) {lh a : Int}
    (h1 : -1 ≤ lh) (ha : a + 3 ≤ Q) : hashUpdLit d (a - lh).toNat ht lh = hashUpdLit x (a - lh).toNat ht lh :=
  hashUpdLit_congr hag _ ht lh h1 (fun _ => by omega)

theorem hashUpdLit_add (d : Buf) : ∀ (a b : Nat) (ht : Array Int) (lh : Int),
    hashUpdLit d (a + b) ht lh =
      match hashUpdLit d a ht lh with
      | none => none
      | some (ht', lh') => hashUpdLit d b ht' lh' := by
  intro a
  induction a with
  | zero => intro b ht lh; simp [hashUpdLit]
  | succ a ih =>
    intro b ht lh
    rw [show a + 1 + b = (a + b) + 1 by omega, hashUpdLit_succ, hashUpdLit_succ]
    cases fastReadI d (lh + 1) 3 with
    | none => rfl
    | some f2 =>
      simp only
      cases wrI ht (hashOf f2) (lh + 1) with
      | none => rfl
      | some ht' =>
        simp only
        exact ih b ht' (lh + 1)

theorem hashUpdLit_one {d : Buf} {ht : Array Int} {lh : Int} {m f : Nat} (hm : lh + 1 = (m : Int)) (hs : ht.size = 4096)
    (hf : fastRead d m 3 = some f) :
    hashUpdLit d 1 ht lh = some (ht.setIfInBounds (hashOf f) (m : Int), (m : Int)) := by
  rw [hashUpdLit_succ, fastReadI_nat d _ m 3 hm, hf]
  simp only
  rw [wrI_eq hs, hm]
  rfl

/-- the loop after a match (rolling fetch) enters what the loop after a literal (re-reading) would -/
theorem hashUpdMatch_lit (d : Buf) : ∀ (n : Nat) (ht : Array Int) (lh : Int) (f : Nat), -1 ≤ lh → ht.size = 4096 →
    fastReadI d (lh + 1) 3 = some f → lh + n + 3 < d.size →
    ∃ ht' f', hashUpdMatch d n ht lh f = some (ht', lh + n, f') ∧ hashUpdLit d n ht lh = some (ht', lh + n) := by
  intro n
  induction n with
  | zero => intro ht lh f _ _ _ _; exact ⟨ht, f, by simp [hashUpdMatch], by simp [hashUpdLit]⟩
  | succ n ih =>
    intro ht lh f h1 hs hf hb
    obtain ⟨m, hm⟩ : ∃ m : Nat, lh + 1 = (m : Int) := ⟨(lh + 1).toNat, by omega⟩
    have hf' := hf
    rw [fastReadI_nat d _ m 3 hm] at hf'
    obtain ⟨b, hb3⟩ := getElem?_ok d (m + 1 + 2) (by omega)
    have hroll := fetch_shift3 hf' hb3
    unfold hashUpdMatch
    rw [hashUpdLit_succ, hf]
    simp only
    rw [wrI_eq hs, rdI_nat d _ (m + 1 + 2) (by omega), hb3]
    simp only
    obtain ⟨ht', f', e1, e2⟩ := ih (ht.setIfInBounds (hashOf f) (lh + 1)) (lh + 1) _ (by omega)
      (by rw [Array.size_setIfInBounds]; exact hs)
      (by rw [fastReadI_nat d _ (m + 1) 3 (by omega)]; exact hroll) (by omega)
    refine ⟨ht', f', ?_, ?_⟩
    · rw [e1]; congr 3; omega
    · rw [e2]; congr 2; omega

theorem hashUpdMatch_upto {d : Buf} {ht : Array Int} {lh : Int} {q : Nat} (h1 : -1 ≤ lh) (h2 : lh < q) (hs : ht.size = 4096)
    (hq : q + 3 < d.size) :
    ∃ f0 ht' f', fastReadI d (lh + 1) 3 = some f0 ∧ hashUpdMatch d ((q : Int) - lh).toNat ht lh f0 = some (ht', (q : Int), f')
      ∧ hashUpdLit d ((q : Int) - lh).toNat ht lh = some (ht', (q : Int)) := by
  obtain ⟨m, hm⟩ : ∃ m : Nat, lh + 1 = (m : Int) := ⟨(lh + 1).toNat, by omega⟩
  obtain ⟨f0, hf0⟩ := fastRead_ok d m 3 (by omega)
  have hf0' : fastReadI d (lh + 1) 3 = some f0 := by rw [fastReadI_nat d _ m 3 hm]; exact hf0
  obtain ⟨ht', f', e1, e2⟩ := hashUpdMatch_lit d ((q : Int) - lh).toNat ht lh f0 h1 hs hf0' (by omega)
  have hend : lh + ((q : Int) - lh).toNat = q := by omega
  rw [hend] at e1 e2
  exact ⟨f0, ht', f', hf0', e1, e2⟩

/-- level-1 token decoder (quicklz.go:336-345) on the three fetched bytes: (matchlen, hash, token length) -/
def tok1 (f : Nat) : Nat × Nat × Nat :=
  if f % 16 ≠ 0 then (f % 16 + 2, f / 16 % 4096, 2) else (f / 65536 % 256, f / 16 % 4096, 3)

theorem decodeMatch_tok1 {s : Buf} {st : St} {o : Int} (hf : fastRead s st.src 3 = some st.fetch)
    (ho : st.ht[(tok1 st.fetch).2.1]? = some o) :
    decodeMatch s 1 st = some ((tok1 st.fetch).1, o, st.src + (tok1 st.fetch).2.2) := by
  have g2 := fastRead_byte hf (by omega : 2 < 3)
  have hh : (tok1 st.fetch).2.1 = st.fetch / 16 % 4096 := by unfold tok1; split <;> rfl
  rw [hh] at ho
  unfold decodeMatch tok1
  simp only [if_true, and_fff, and_15, and_255, shr, ho, g2]
  by_cases c1 : st.fetch % 16 = 0
  · simp only [c1, ne_eq, not_true_eq_false, if_false, byteOf_toNat, Nat.mod_mod]
  · simp only [c1, ne_eq, not_false_eq_true, if_true]

/-- level 1: the token names a slot of the hash table the decoder rebuilds; `a = (hashtable, lastHashed)`.
    Both relations run the table update over the ORIGINAL `x` (the decoder runs it over `destination`, which agrees with `x`
    where the update reads: `hashUpdLit_upto`). -/
def dl1 : DecLevel (Array Int × Int) where
  n := 3
  tok := tok1
  aux ht lh := (ht, lh)
  -- quicklz.go:404-410: after the literal at `q`, the positions up to `dst − 3 = q + 1 − 3` are entered
  lit x q a a' := -1 ≤ a.2 ∧ a.2 < (q : Int) ∧ hashUpdLit x (((q + 1 : Nat) : Int) - 3 - a.2).toNat a.1 a.2 = some a'
  -- the slot `y` holds `q − off`; quicklz.go:384-390: the positions up to `q` are entered, with a rolling fetch that reads
  -- `destination[lastHashed + 3]` up to `q + 3` (hence the room behind the match); then `lastHashed = dst − 1`
  mat x q ml y off a a' := a.1[y]? = some ((q : Int) - ((off : Nat) : Int)) ∧ -1 ≤ a.2 ∧ a.2 < (q : Int) ∧ a.1.size = 4096
    ∧ q + ml + 4 ≤ x.size ∧ hashUpdLit x ((q : Int) - a.2).toNat a.1 a.2 = some (a'.1, (q : Int)) ∧ a'.2 = ((q + ml : Nat) : Int) - 1

theorem decOK1 : DecOK 1 dl1 where
  lvl := .inl rfl
  hn := rfl
  lit {c x st1 d1 b f' a'} hc hw hp1 hf hn hA := by
    obtain ⟨hl1, hl2, hupd⟩ : -1 ≤ st1.lastHashed ∧ st1.lastHashed < (st1.dst : Int)
      ∧ hashUpdLit x (((st1.dst + 1 : Nat) : Int) - 3 - st1.lastHashed).toNat st1.ht st1.lastHashed = some a' := hA
    obtain ⟨_, b2, _, hb2, _⟩ := fastRead_succ hn
    have hupd1 : hashUpdLit d1 (((st1.dst + 1 : Nat) : Int) - 3 - st1.lastHashed).toNat st1.ht st1.lastHashed = some a' := by
      rw [hashUpdLit_upto hp1 st1.ht hl1 (Int.le_of_eq (Int.sub_add_cancel _ _))]; exact hupd
    refine ⟨⟨st1.src + 1, st1.dst + 1, st1.cword >>> 1, d1, a'.1, a'.2, f'⟩, ?_, rfl, rfl, rfl, rfl, rfl, rfl⟩
    rw [← Option.some.inj ((fetch_shift3 hf hb2).symm.trans hn)]
    unfold litStep
    rw [hc]
    simp only
    rw [hw]
    simp only [if_true]
    rw [hupd1]
    simp only
    rw [hb2]
  mat {c x st1 d3 d ml y off len f' a'} hf htk hA hml hc3 hcd hsd hpd hn := by
    have htk : tok1 st1.fetch = (ml, y, len) := htk
    have hn : fastRead c (st1.src + len) 3 = some f' := hn
    obtain ⟨hoff, hl1, hl2, hsz, hend, hupd, hlh⟩ : st1.ht[y]? = some ((st1.dst : Int) - ((off : Nat) : Int)) ∧ -1 ≤ st1.lastHashed
      ∧ st1.lastHashed < (st1.dst : Int) ∧ st1.ht.size = 4096 ∧ st1.dst + ml + 4 ≤ x.size
      ∧ hashUpdLit x ((st1.dst : Int) - st1.lastHashed).toNat st1.ht st1.lastHashed = some (a'.1, (st1.dst : Int))
      ∧ a'.2 = ((st1.dst + ml : Nat) : Int) - 1 := hA
    obtain ⟨f0, htd, fd, hf0', e1, e2⟩ := hashUpdMatch_upto (d := d) hl1 hl2 hsz (by omega)
    rw [hashUpdLit_upto hpd st1.ht hl1 (by rw [Int.natCast_add]; exact Int.add_le_add_left (Int.ofNat_le.mpr hml) _)] at e2
    have := e2.symm.trans hupd
    cases this
    refine ⟨⟨st1.src + len, st1.dst + ml, st1.cword >>> 1, d, a'.1, ((st1.dst + ml : Nat) : Int) - 1, f'⟩, ?_, rfl, rfl, rfl, rfl,
      by rw [← hlh]; rfl, rfl⟩
    unfold matchStep
    rw [decodeMatch_tok1 (o := (st1.dst : Int) - ((off : Nat) : Int)) hf (by show st1.ht[(tok1 st1.fetch).2.1]? = _; rw [htk]; exact hoff), htk]
    simp only
    rw [hc3]
    simp only
    rw [hcd]
    simp only [if_true]
    rw [hf0']
    simp only
    rw [e1]
    simp only
    rw [hn]

end QlzRT
