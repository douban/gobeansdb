/-
  GC beside clients: the invariant `Inv` holds after every schedule in which no monitor has fired and the repoint is the
  conditional one (`inv_reachable`), and what is read off it.
  `Ex`: the model evaluated on hand-made schedules - a control on which the hypotheses of `C05_fine` hold although a get
  fails, and for each monitor what goes wrong once it has fired (the schedules of the runs on the real store:
  Lemmas/ConcGCReal.lean; what they mean for C05: Props/C05.lean).
  Assumed: sequential consistency (a micro-step is atomic), working mutexes, no key-hash collisions, no hint /
  collision-table state, one bucket, one pass, versions unbounded, no I/O errors.
-/
import GoBeans.Lemmas.ConcGCHist
import GoBeans.Lemmas.ConcFine

namespace ConcGC
open ConcFine
open Conc (AOp Out Ev Reg regStep)

theorem inv_init : Inv init := by
  have h0 := ConcFine.inv_init
  refine ⟨⟨h0.lock, hotlay_of_chunkInv h0.layout _, ?_, ?_, ?_, ?_⟩, ?_, rfl, rfl⟩
  · refine ⟨?_, ?_, ?_, ?_, ?_, ?_, ?_, ?_⟩ <;> simp [init, procPC]
  · refine ⟨?_, ?_, ?_, ?_, ?_, ?_, ?_, ?_⟩ <;> simp [init, X, cold, Dead, openPC, curOff, rem]
  · refine ⟨?_, ?_⟩ <;> simp [init, procPC, curNotFound]
  · refine ⟨h0.data.recs, h0.data.tree, h0.data.wr, ?_, ?_⟩
    · intro u; trivial
    · intro u c hf; simp [init, flushTarget] at hf
  · exact ⟨h0.hist.outs, h0.hist.reg, h0.hist.lin, h0.hist.times, fun e he => by simp [init] at he, h0.hist.inv⟩

theorem inv_exec (cfg : GCfg) (hb : cfg.blind = false) (sched : List (Nat × Act)) (s : State) (hi : Inv s)
    (hz : noHaz (exec cfg s sched)) : Inv (exec cfg s sched) :=
  exec_inv (P := fun s => noHaz s → Inv s)
    (fun _ _ _ _ hs hst hz' => inv_step hb (hs (noHaz_back (step_hazLe hst) hz')) hz' hst) sched s (fun _ => hi) hz

theorem inv_reachable (cfg : GCfg) (hb : cfg.blind = false) (sched : List (Nat × Act))
    (hz : noHaz (exec cfg init sched)) : Inv (exec cfg init sched) :=
  inv_exec cfg hb sched init inv_init hz

def isFlush : GPC → Bool
  | .gFlush .. => true
  | _ => false

/-- the gc writer's bufio buffer holds bytes only between `gcWriter.append` and `gcWriter.wbuf.Flush()` inside one
    `AppendRecordGC` -/
def GB (s : State) : Prop := isFlush s.gc.pc = false → s.gc.gbuf = []

theorem gb_step {cfg : GCfg} {s s' : State} {t : Nat} {a : Act} (hg : GB s) (h : step cfg s t a = some s') : GB s' := by
  obtain ⟨_, s1, hs, rfl⟩ := step_elim h
  show isFlush s1.gc.pc = false → s1.gc.gbuf = []
  cases hs with
  | call | gcCancel => exact hg
  | go _ h1 => rcases cmicro_cases h1 with ⟨_, rfl⟩ | ⟨b', hzv, rfl, _⟩ <;> exact hg
  | gcStart b e _ h1 => obtain ⟨_, _, _, hz, rfl, _⟩ := gcStart_elim h1; exact fun _ => rfl
  | gcGo _ h1 =>
    -- only `gBuf` fills the buffer (and goes to `gFlush`), `gFlush` empties it
    have hs := gmicro_elim h1
    generalize hpc : s.gc.pc = pc at hs
    cases hs with
    | buf => nofun
    | flush => exact fun _ => rfl
    | begin | reopen => exact fun _ => (beginW_frame ..).gbuf.trans (hg (by rw [hpc]; rfl))
    | close | final => exact fun _ => (endW_frame s).gbuf.trans (hg (by rw [hpc]; rfl))
    | _ => exact fun _ => hg (by rw [hpc]; rfl)

/-- under EVERY schedule, in particular at the moment of the repoint -/
theorem gbuf_empty (cfg : GCfg) (sched : List (Nat × Act)) (h : isFlush (exec cfg init sched).gc.pc = false) :
    (exec cfg init sched).gc.gbuf = [] :=
  exec_inv (fun _ _ _ _ => gb_step) sched init (fun _ => rfl) h

/-- `lookup`: what `GetRecordByOffset` reads at the item's position NOW.  In a chunk of the GC range the write buffer is
    empty: the buffer test misses and the record is read from the FILE. -/
theorem tree_item_readable {s : State} (hi : Inv s) {k : Nat} {it : Item} (hit : s.base.tree k = some it) :
    ∃ r, lookup (s.base.chunks it.pos.chunk) it.pos.off = some r ∧ r.key = k ∧ r.ver = it.ver ∧ r.ver ≠ 0 ∧
      (0 < r.ver ↔ r.val ≠ 0) ∧
      (X s it.pos.chunk → bufLookup (s.base.chunks it.pos.chunk) it.pos.off = .miss ∧
                           fileLookup (s.base.chunks it.pos.chunk) it.pos.off = some r) := by
  obtain ⟨r, _, h1, h2, h3, h4, h5⟩ := hi.cinv.treeOK.readable hi.cinv.readable hit
  refine ⟨r, h1, h2, h3, h4, h5, fun hx => ?_⟩
  have hnb := (hi.sinv.chk.cold _ hx).1.nobuf
  exact ⟨bufLookup_nobuf _ _ hnb, lookup_nobuf _ it.pos.off hnb ▸ h1⟩

/-- a position a reader took from the tree: its record is still there (buffer-or-file before the buffer test, in the
    FILE after a negative buffer test) — or the chunk has been emptied by the pass and the get will FAIL -/
theorem reader_position {s : State} (hi : Inv s) (e : HEv) (he : e ∈ s.base.hist) (hd : e.done = false) :
    Pend s (s.base.thr e.tid).pc e.ev.out := hi.hist.pend e he hd

/-- **C05 for the fine-grained model**: after ANY schedule in which no monitor has fired the history of every key —
    operations in flight completed at any later time `fut`, failed gets left out — passes both checks of the property -/
theorem C05_fine_general (cfg : GCfg) (hb : cfg.blind = false) (sched : List (Nat × Act))
    (hz : noHaz (exec cfg init sched)) (k fut : Nat) (hfut : (exec cfg init sched).base.clock ≤ fut) :
    Conc.checkA (histAt (exec cfg init sched).base k fut) = true ∧
    Conc.checkB (histAt (exec cfg init sched).base k fut) = true :=
  (inv_reachable cfg hb sched hz).hist.checks k fut hfut

theorem C05_fine (cfg : GCfg) (hb : cfg.blind = false) (sched : List (Nat × Act)) (hz : noHaz (exec cfg init sched))
    (k : Nat) (hq : quiescent (exec cfg init sched).base) :
    Conc.checkA (histOf (exec cfg init sched).base k) = true ∧ Conc.checkB (histOf (exec cfg init sched).base k) = true :=
  (inv_reachable cfg hb sched hz).hist.checks_done hq k

end ConcGC

namespace ConcGC
namespace Ex
open ConcFine

def cfg : GCfg := { fine := { dataFileMax := 6 } }
-- an operation run to its end without interruption: the call, then the 7 micro-steps of a writer, the 3 of a reader, the
-- 10 of a flusher plus 2 (fetch, write) for each of the `n` records it finds in the buffer
def gos (t n : Nat) : List (Nat × Act) := List.replicate n (t, .go)
def ggo (n : Nat) : List (Nat × Act) := List.replicate n (0, .gcGo)
def wr (t k v sz : Nat) : List (Nat × Act) := [(t, .call (.write k v sz))] ++ gos t 7
def rd (t k : Nat) : List (Nat × Act) := [(t, .call (.read k))] ++ gos t 3
def fl (t c n : Nat) : List (Nat × Act) := [(t, .call (.flush (some c) true false))] ++ gos t (10 + 2 * n)

/-- file 0 = [key 1], file 1 = [key 2 (superseded), key 3], head file 2 = [key 2]; files 0 and 1 flushed -/
def setup : List (Nat × Act) := wr 1 1 11 1 ++ wr 1 2 12 4 ++ wr 1 3 13 0 ++ wr 1 2 22 0 ++ fl 3 0 1 ++ fl 3 1 2
def s0 : State := exec cfg init setup
example : s0.base.newHead = 2 ∧ (s0.base.chunks 0).file = [⟨1, 1, 11, 0, 2⟩] ∧
    (s0.base.chunks 1).file = [⟨2, 1, 12, 0, 5⟩, ⟨3, 1, 13, 5, 1⟩] ∧ (s0.base.chunks 2).wbuf = [⟨2, 2, 22, 0, 1⟩] := by
  decide +kernel
-- `pickDst`: the file before the range is not full: it is the destination
example : pickDst cfg s0.base.chunks 1 = 0 ∧ pickDst cfg s0.base.chunks 0 = 0 := by decide +kernel

/-- GC of file 1 into file 0.  GC has checked key 3 (newest); reader 2 takes key 3's position (1,5) from the tree;
    writer 4 sets key 3 := 33 (acknowledged); GC appends the copy, flushes it, repoints (conditionally: no effect),
    clears file 1; reader 2 reads its position: the file is gone; reader 5 reads key 3 -/
def schedN : List (Nat × Act) :=
  setup ++ [(0, .gcStart 1 1)] ++ ggo 7 ++ [(2, .call (.read 3)), (2, .go)] ++ wr 4 3 33 0 ++ ggo 10 ++ gos 2 2 ++ rd 5 3
def sN : State := exec cfg init schedN

theorem sN_noHaz : noHaz sN := by unfold noHaz; decide +kernel
theorem sN_quiescent : quiescent sN.base := by unfold quiescent; decide +kernel
-- at the moment of the repoint the copy is in the destination FILE, the gc writer's buffer is empty
example : let s := exec cfg init (setup ++ [(0, .gcStart 1 1)] ++ ggo 10)
    s.gc.pc = .gMove ⟨3, 1, 13, 5, 1⟩ 2 ∧ s.gc.gbuf = [] ∧ (s.base.chunks 0).wbuf = [] ∧
    (s.base.chunks 0).file = [⟨1, 1, 11, 0, 2⟩, ⟨3, 1, 13, 2, 1⟩] := by decide +kernel
-- the pass is finished, the acknowledged write survived, file 1 is gone, the copy of the OLD value is garbage in file 0
example : sN.gc.pc = .done ∧ sN.gc.moved = 0 ∧ sN.base.tree 3 = some ⟨2, ⟨2, 1⟩⟩ ∧ (sN.base.chunks 1).file = [] ∧
    (sN.base.chunks 0).file = [⟨1, 1, 11, 0, 2⟩, ⟨3, 1, 13, 2, 1⟩] := by decide +kernel
/-- **the reader whose position died**: with no monitor fired, the get of reader 2 ENDS IN AN ERROR (`Clear`,
    datachunk.go:43, removed the file between the reader's htree.get, bucket.go:419, and its read, datachunk.go:164) -/
theorem ce_stale_reader_fails : noHaz sN ∧ sN.fails = 1 := ⟨sN_noHaz, by decide +kernel⟩
example : histOf sN.base 3 = [
    { op := .write 13, inv := 17, resp := 24, out := .acc 1, lin := 23 },
    { op := .write 33, inv := 71, resp := 78, out := .acc 2, lin := 77 },
    { op := .read, inv := 91, resp := 93, out := .got 33 2, lin := 92 }] := by decide +kernel
/-- the hypotheses of `C05_fine` are satisfiable on a schedule with a GC pass, a write inside the window and a dying reader -/
example : Conc.checkA (histOf sN.base 3) = true ∧ Conc.checkB (histOf sN.base 3) = true :=
  C05_fine cfg rfl schedN sN_noHaz 3 sN_quiescent

/-- **the blind repoint loses the acknowledged write** (UpdateHtreePos before commit 1f5e306): same schedule, the
    item of key 3 keeps version 2 and points at the copy of the OLD value 13; the get returns (13, version 2) -/
theorem ce_blind_loses : let s := exec { cfg with blind := true } init schedN
    noHaz s ∧ s.base.tree 3 = some ⟨2, ⟨0, 2⟩⟩ ∧ Conc.checkA (histOf s.base 3) = false := by
  unfold noHaz; decide +kernel

/-- file 0 = [key 1 v1 (superseded, 1 block), key 2 (3 blocks at offset 1), key 1 v2]; flushed; head = file 1 -/
def setupI : List (Nat × Act) := wr 1 1 11 0 ++ wr 1 2 12 2 ++ wr 1 1 21 0 ++ wr 1 5 15 1 ++ fl 3 0 3
/-- gc(0,0): the destination is the source (gc.go:221: `gc.Dst = startChunkID`, beginGCWriting sets
    `rewriting`, data.go:200 opens WITHOUT append at offset 0).  Key 2 moves from offset 1 to offset 0: after the file
    write (datachunk.go:75) and before the repoint (gc.go:351) the item of key 2 points at offset 1 = the middle of the
    new copy -/
def schedI : List (Nat × Act) := setupI ++ [(0, .gcStart 0 0)] ++ ggo 10
def sI : State := exec cfg init schedI
theorem ce_inplace_item_unreadable :
    sI.hazInplace = true ∧ sI.hazCold = false ∧ sI.hazReuse = false ∧ sI.gc.pc = .gMove ⟨2, 1, 12, 1, 3⟩ 0 ∧
    sI.base.tree 2 = some ⟨1, ⟨0, 1⟩⟩ ∧ lookup (sI.base.chunks 0) 1 = none ∧
    (sI.base.chunks 0).file = [⟨1, 2, 21, 4, 1⟩, ⟨2, 1, 12, 0, 3⟩] := by decide +kernel
/-- a get of key 2 linearised in that window fails (an error, not a wrong value) -/
theorem ce_inplace_get_fails : (exec cfg sI (rd 2 2)).fails = 1 := by decide +kernel

/-- file 0 = [key 9, 5 blocks], file 1 = [key 7 v1, key 8 v1], file 2 = [key 7 v2, key 8 v2]; reader 2 has taken
    key 7's position (1,0) with version 1 from the tree BEFORE key 7 was rewritten, and has not read yet -/
def setupR : List (Nat × Act) :=
  wr 1 9 19 4 ++ wr 1 7 17 1 ++ wr 1 8 18 2 ++ [(2, .call (.read 7)), (2, .go)] ++ wr 1 7 27 1 ++ wr 1 8 28 2 ++
  wr 1 6 16 1 ++ fl 3 0 1 ++ fl 3 1 2 ++ fl 3 2 2
/-- gc(1,2): file 1 holds nothing current and is removed; the first record of file 2 does not fit into file 0:
    `gc.Dst++` (gc.go:330) makes the emptied file 1 the destination and key 7 v2 lands at (1,0); now reader 2 reads -/
def schedR : List (Nat × Act) := setupR ++ [(0, .gcStart 1 2)] ++ ggo 22 ++ gos 2 2
def sR : State := exec cfg init schedR
-- `1000`: some time after the end of the schedule, at which `histAt` completes the operations still in flight
theorem ce_reuse_wrong_value :
    sR.hazReuse = true ∧ sR.hazInplace = false ∧ sR.hazCold = false ∧ sR.fails = 0 ∧
    histAt sR.base 7 1000 = [
      { op := .write 17, inv := 9, resp := 16, out := .acc 1, lin := 15 },
      { op := .read, inv := 25, resp := 118, out := .got 27 1, lin := 26 },
      { op := .write 27, inv := 27, resp := 34, out := .acc 2, lin := 33 }] ∧
    Conc.checkA (histAt sR.base 7 1000) = false := by decide +kernel

/-- a flush of file 0 (the goroutine `go ds.flush(newHead-1, true)` of data.go:80, delayed) opens the file
    (w.offset = 2 blocks), GC's AppendRecordGC bumps `size` to 3 under the chunk lock (datachunk.go:64-67) and has
    not written yet, the flusher compares (data.go:132-136): Fatalf("wrong data file size") -/
theorem ce_coldflush_fatal :
    let s := exec cfg init (setup ++ [(0, .gcStart 1 1)] ++ ggo 7 ++ [(6, .call (.flush (some 0) true false))] ++
                            gos 6 4 ++ ggo 1 ++ gos 6 1)
    s.hazCold = true ∧ s.hazInplace = false ∧ s.hazReuse = false ∧ s.base.fatal = true := by decide +kernel

/-- F25: gc(1,1) while file 1's records are still in its write buffer (the post-rotation flush has not run): the
    stream reader sees an empty file, `Clear` drops the buffer and removes the file; key 3's acknowledged write is
    gone: the item points at nothing, the get fails -/
theorem ce_unflushed_lost :
    let s := exec cfg init (wr 1 1 11 1 ++ wr 1 2 12 4 ++ wr 1 3 13 0 ++ wr 1 2 22 0 ++ fl 3 0 1 ++
                            [(0, .gcStart 1 1)] ++ ggo 10 ++ rd 5 3)
    s.hazCold = true ∧ s.gc.pc = .done ∧ s.base.tree 3 = some ⟨1, ⟨1, 5⟩⟩ ∧ (s.base.chunks 1).wbuf = [] ∧
    (s.base.chunks 1).file = [] ∧ s.fails = 1 := by decide +kernel

-- a pass may be cancelled at a file boundary: the flag is looked at only at the loop head
example : let s := exec cfg s0 ([(0, .gcStart 1 1), (0, .gcCancel)] ++ ggo 4)
    s.gc.pc = .done ∧ (s.base.chunks 1).file = [⟨2, 1, 12, 0, 5⟩, ⟨3, 1, 13, 5, 1⟩] ∧ atBoundary s = true := by
  decide +kernel
-- a second start is refused (one pass), a range that reaches the head or is empty is refused
example : (gcStart cfg sN 0 0).isNone = true ∧ (gcStart cfg s0 1 2).isNone = true ∧ (gcStart cfg s0 2 1).isNone = true := by
  decide +kernel

end Ex
end ConcGC

namespace ConcGC
open ConcFine

/-- `tree_item_readable` without the monitor hypothesis -/
def tree_item_readable_statement : Prop :=
  ∀ (cfg : GCfg) (sched : List (Nat × Act)) (k : Nat) (it : Item), cfg.blind = false →
    (exec cfg init sched).base.tree k = some it →
    ∃ r, lookup ((exec cfg init sched).base.chunks it.pos.chunk) it.pos.off = some r ∧ r.key = k

/-- FALSE for the code as it is: rewriting in place (`Ex.ce_inplace_item_unreadable`) -/
theorem tree_item_readable_statement_false : ¬ tree_item_readable_statement := by
  intro h
  have hb : Ex.cfg.blind = false := rfl
  have ht := Ex.ce_inplace_item_unreadable.2.2.2.2.1
  have hl := Ex.ce_inplace_item_unreadable.2.2.2.2.2.1
  unfold Ex.sI at ht hl
  obtain ⟨r, hr, _⟩ := h Ex.cfg Ex.schedI 2 ⟨1, ⟨0, 1⟩⟩ hb ht
  dsimp only at hr
  rw [hl] at hr
  cases hr

/-- `C05_fine_general` without the monitor hypothesis (false: `C05_unrestricted_statement_false`, Props/C05.lean) -/
def C05_fine_statement : Prop :=
  ∀ (cfg : GCfg) (sched : List (Nat × Act)) (k fut : Nat), cfg.blind = false →
    (exec cfg init sched).base.clock ≤ fut →
    Conc.checkA (histAt (exec cfg init sched).base k fut) = true ∧ Conc.checkB (histAt (exec cfg init sched).base k fut) = true

/-- `C05_fine_general` with rewriting in place allowed (`hazInplace` not constrained): a get may fail, the checks pass.
    FALSE as well: `ExReal.C05_inplace_statement_false`, Lemmas/ConcGCReal.lean -/
def C05_inplace_statement : Prop :=
  ∀ (cfg : GCfg) (sched : List (Nat × Act)) (k fut : Nat), cfg.blind = false →
    (exec cfg init sched).hazCold = false → (exec cfg init sched).hazReuse = false →
    (exec cfg init sched).base.clock ≤ fut →
    Conc.checkA (histAt (exec cfg init sched).base k fut) = true ∧ Conc.checkB (histAt (exec cfg init sched).base k fut) = true

theorem C05_inplace_partial (cfg : GCfg) (sched : List (Nat × Act)) (k fut : Nat) (hb : cfg.blind = false)
    (h1 : (exec cfg init sched).hazCold = false) (h2 : (exec cfg init sched).hazReuse = false)
    (h3 : (exec cfg init sched).hazInplace = false) (hf : (exec cfg init sched).base.clock ≤ fut) :
    Conc.checkA (histAt (exec cfg init sched).base k fut) = true ∧ Conc.checkB (histAt (exec cfg init sched).base k fut) = true :=
  C05_fine_general cfg hb sched ⟨h1, h3, h2⟩ k fut hf

end ConcGC
