/-
  Lazy Merkle tree (C08): the ARRAY-level invariant of Model/HTreeImpl.lean.
  `TreeInv`: a node flagged `isHashUpdated` holds exactly the fold (`subSum`) of the leaf-node summaries below it,
  and all its children are flagged too.  `getLeafAndInvalidNodes` clears the flags of exactly the ancestors of the
  key's leaf (`GLRes`), which is enough for any change of that leaf to keep `TreeInv` (`treeInv_touch`); `updateNodes`
  keeps `TreeInv` and returns a flagged, exact node, writing only to unflagged nodes (`Ext`) from its level down
  (`Frame`) (`updateNodes_spec`).
-/
import GoBeans.Model.HTreeImpl
import GoBeans.Lemmas.Tree
namespace HTreeImplLemmas
open Tree TreeLemmas HTreeImpl

theorem getD_set {α : Type} (l : List α) (i j : Nat) (a d : α) :
    (l.set i a).getD j d = if i = j ∧ i < l.length then a else l.getD j d := by
  simp only [List.getD_eq_getElem?_getD, List.getElem?_set]
  by_cases h : i = j
  · subst h
    by_cases h2 : i < l.length
    · simp [h2]
    · simp [h2]
  · simp [h]

theorem getD_oor {α : Type} (l : List α) (i : Nat) (d : α) (h : ¬ i < l.length) : l.getD i d = d := by
  simp only [List.getD_eq_getElem?_getD]
  rw [List.getElem?_eq_none (by omega)]
  rfl

theorem getD_replicate {α : Type} (n i : Nat) (a : α) : (List.replicate n a).getD i a = a := by
  rw [List.getD_eq_getElem?_getD, List.getElem?_replicate]
  split <;> rfl

theorem set_getD_self {α : Type} (l : List α) (i : Nat) (d : α) : l.set i (l.getD i d) = l := by
  by_cases h : i < l.length
  · rw [List.getD_eq_getElem?_getD, List.getElem?_eq_getElem h]; exact List.set_getElem_self h
  · exact List.set_eq_of_length_le (by omega)

theorem innerNode_setInner (t : HTree) (level offset : Nat) (nd : Node) (l o : Nat) :
    (t.setInner level offset nd).innerNode l o
      = if l = level ∧ o = offset ∧ level < t.inner.length ∧ offset < (t.inner.getD level []).length then nd
        else t.innerNode l o := by
  unfold HTree.setInner HTree.innerNode
  simp only [getD_set]
  by_cases h1 : level = l ∧ level < t.inner.length
  · obtain ⟨rfl, h1⟩ := h1
    simp only [true_and, h1, if_true, getD_set]
    by_cases h2 : offset = o ∧ offset < (t.inner.getD level []).length
    · obtain ⟨rfl, h2⟩ := h2
      rw [if_pos ⟨rfl, h2⟩]
    · rw [if_neg h2, if_neg (by intro h; exact h2 ⟨h.1.symm, h.2⟩)]
  · rw [if_neg h1, if_neg (by intro h; exact h1 ⟨h.1.symm, h.2.2.1⟩)]

def clr (nd : Node) : Node := { nd with upd := false }

theorem innerNode_oor (t : HTree) (l o : Nat) (h : ¬ (l < t.inner.length ∧ o < (t.inner.getD l []).length)) :
    t.innerNode l o = default := by
  unfold HTree.innerNode
  by_cases hl : l < t.inner.length
  · exact getD_oor _ _ _ (fun ho => h ⟨hl, ho⟩)
  · rw [getD_oor _ _ _ hl]; rfl

theorem innerNode_clearFlag (t : HTree) (level offset l o : Nat) :
    (t.clearFlag level offset).innerNode l o = if l = level ∧ o = offset then clr (t.innerNode l o) else t.innerNode l o := by
  unfold HTree.clearFlag
  rw [innerNode_setInner]
  by_cases h : l = level ∧ o = offset
  · obtain ⟨rfl, rfl⟩ := h
    rw [if_pos (⟨rfl, rfl⟩ : l = l ∧ o = o)]
    by_cases h2 : l < t.inner.length ∧ o < (t.inner.getD l []).length
    · rw [if_pos ⟨rfl, rfl, h2⟩]; rfl
    · -- out of range nothing is written, and the node read there is the zero node, whose flag is clear
      rw [if_neg (fun h' => h2 h'.2.2), innerNode_oor t l o h2]; rfl
  · rw [if_neg h, if_neg (fun h' => h ⟨h'.1, h'.2.1⟩)]

theorem leaf_setLeaf (t : HTree) (off : Nat) (lf : Leaf) (j : Nat) :
    (t.setLeaf off lf).leaf j = if off = j ∧ off < t.leaves.length then lf else t.leaf j := by
  unfold HTree.setLeaf HTree.leaf
  exact getD_set _ _ _ _ _

theorem leaf_getElem (t : HTree) (j : Nat) (h : j < t.leaves.length) : t.leaf j = t.leaves[j] := by
  unfold HTree.leaf
  rw [List.getD_eq_getElem?_getD, List.getElem?_eq_getElem h]; rfl

theorem height_eq (t : HTree) : t.height = t.inner.length + 1 := rfl

theorem length_setInner (t : HTree) (a b : Nat) (nd : Node) : (t.setInner a b nd).inner.length = t.inner.length :=
  List.length_set

theorem length_clearFlag (t : HTree) (a b : Nat) : (t.clearFlag a b).inner.length = t.inner.length :=
  length_setInner _ _ _ _

theorem setLeaf_self (t : HTree) (off : Nat) : t.setLeaf off (t.leaf off) = t := by
  unfold HTree.setLeaf HTree.leaf
  rw [set_getD_self]

@[simp] theorem height_setInner (t : HTree) (a b : Nat) (nd : Node) : (t.setInner a b nd).height = t.height := by
  simp [HTree.setInner, HTree.height]
@[simp] theorem height_clearFlag (t : HTree) (a b : Nat) : (t.clearFlag a b).height = t.height := by
  simp [HTree.clearFlag]
@[simp] theorem height_setLeaf (t : HTree) (a : Nat) (lf : Leaf) : (t.setLeaf a lf).height = t.height := rfl
@[simp] theorem leaves_setInner (t : HTree) (a b : Nat) (nd : Node) : (t.setInner a b nd).leaves = t.leaves := rfl
@[simp] theorem leaves_clearFlag (t : HTree) (a b : Nat) : (t.clearFlag a b).leaves = t.leaves := rfl
@[simp] theorem depth_setInner (t : HTree) (a b : Nat) (nd : Node) : (t.setInner a b nd).depth = t.depth := rfl
@[simp] theorem depth_clearFlag (t : HTree) (a b : Nat) : (t.clearFlag a b).depth = t.depth := rfl
@[simp] theorem bid_setInner (t : HTree) (a b : Nat) (nd : Node) : (t.setInner a b nd).bucketID = t.bucketID := rfl
@[simp] theorem bid_clearFlag (t : HTree) (a b : Nat) : (t.clearFlag a b).bucketID = t.bucketID := rfl
@[simp] theorem innerNode_setLeaf (t : HTree) (a : Nat) (lf : Leaf) (l o : Nat) : (t.setLeaf a lf).innerNode l o = t.innerNode l o := rfl
@[simp] theorem leaf_setInner (t : HTree) (a b : Nat) (nd : Node) (j : Nat) : (t.setInner a b nd).leaf j = t.leaf j := rfl

/-- the shape `newHTree` builds; `bound` is its check against MAX_DEPTH = 8.  The proofs use only
    `depth + height - 1 ≤ 16`: the prefix of a leaf consists of hex digits of the 64-bit key hash (`topDigits_step`). -/
structure Shape (t : HTree) : Prop where
  rows : ∀ l, l < t.inner.length → (t.inner.getD l []).length = 16 ^ l
  leaves : t.leaves.length = 16 ^ t.inner.length
  bound : t.depth + t.height ≤ 8

theorem shape_setInner (t : HTree) (a b : Nat) (nd : Node) (h : Shape t) : Shape (t.setInner a b nd) := by
  refine ⟨?_, ?_, ?_⟩
  · intro l hl
    have hl' : l < t.inner.length := by simpa [HTree.setInner] using hl
    show ((t.inner.set a ((t.inner.getD a []).set b nd)).getD l []).length = 16 ^ l
    rw [getD_set]
    by_cases hc : a = l ∧ a < t.inner.length
    · rw [if_pos hc, List.length_set, hc.1]; exact h.rows l hl'
    · rw [if_neg hc]; exact h.rows l hl'
  · show t.leaves.length = 16 ^ (t.inner.set a _).length
    rw [List.length_set]; exact h.leaves
  · simpa using h.bound

theorem shape_clearFlag (t : HTree) (a b : Nat) (h : Shape t) : Shape (t.clearFlag a b) := shape_setInner _ _ _ _ h

theorem shape_setLeaf (t : HTree) (a : Nat) (lf : Leaf) (h : Shape t) : Shape (t.setLeaf a lf) := by
  refine ⟨h.rows, ?_, h.bound⟩
  show (t.leaves.set a lf).length = _
  rw [List.length_set]; exact h.leaves

theorem node_setInner (t : HTree) (level offset : Nat) (nd : Node) (l o : Nat)
    (h1 : level < t.inner.length) (h2 : offset < (t.inner.getD level []).length) :
    (t.setInner level offset nd).node l o = if l = level ∧ o = offset then nd else t.node l o := by
  unfold HTree.node
  rw [height_setInner, innerNode_setInner]
  by_cases hl : l + 1 = t.height
  · have : l ≠ level := by rw [height_eq] at hl; omega
    simp [hl, this]
  · simp only [hl, if_false]
    by_cases hc : l = level ∧ o = offset
    · rw [if_pos hc, if_pos ⟨hc.1, hc.2, h1, h2⟩]
    · rw [if_neg hc, if_neg (by intro h; exact hc ⟨h.1, h.2.1⟩)]

/-- the body of `Tree.nodeSum` -/
def combine (ch : List (Nat × Nat)) : Nat × Nat :=
  let cnt := ch.foldl (fun a x => a + x.1) 0
  let h := if cnt > Gen.ThresholdBigHash
    then ch.foldl (fun h x => (h * 97 + x.2) % M16) 0
    else ch.foldl (fun h x => (h + x.2) % M16) 0
  (cnt, h)

theorem nodeSum_succ (c : Content) (n p below : Nat) :
    nodeSum c n p (below + 1) = combine ((List.range 16).map (fun i => nodeSum c (n + 1) (p * 16 + i) below)) := rfl

/-- summary of the node `below` levels above the leaves at offset `o`, folded from the leaf summaries `lv` -/
def subSum (lv : Nat → Nat × Nat) : Nat → Nat → Nat × Nat
  | 0, o => lv o
  | below + 1, o => combine ((List.range 16).map (fun i => subSum lv below (o * 16 + i)))

/-- the summaries of the leaf nodes of `t`, by offset -/
def lv (t : HTree) : Nat → Nat × Nat := fun j => ((t.leaf j).count, (t.leaf j).hash)

theorem div_pow_succ (j b : Nat) : j / 16 ^ (b + 1) = (j / 16 ^ b) / 16 := by
  rw [Nat.pow_succ, Nat.div_div_eq_div_mul]

theorem subSum_congr (f g : Nat → Nat × Nat) : ∀ (below o : Nat), (∀ j, j / 16 ^ below = o → f j = g j) →
    subSum f below o = subSum g below o := by
  intro below
  induction below with
  | zero => intro o h; exact h o (by simp)
  | succ b ih =>
    intro o h
    unfold subSum
    congr 1
    apply List.map_congr_left
    intro i hi
    have hi' : i < 16 := List.mem_range.mp hi
    apply ih
    intro j hj
    apply h
    rw [div_pow_succ, hj]; omega

theorem foldHash_combine (cs : List (Nat × Nat)) :
    ((cs.map (·.1)).sum, foldHash (cs.map (·.1)).sum (cs.map (·.2))) = combine cs := by
  unfold combine foldHash
  rw [foldl_add_sum, Nat.zero_add, List.foldl_map]
  simp only []
  congr 1
  split
  · congr 1
    funext h x
    rw [Nat.mod_add_mod]
  · rfl

/-- `down`: `listDir` prints the 16 children of the node it updated as they are stored, without updating them
    (`ReadRes.child`) -/
structure TreeInv (t : HTree) : Prop where
  exact : ∀ l o, (t.node l o).upd = true →
    ((t.node l o).count, (t.node l o).hash) = subSum (lv t) (t.height - 1 - l) o
  down : ∀ l o i, i < 16 → (t.node l o).upd = true → l + 1 < t.height → (t.node (l + 1) (o * 16 + i)).upd = true

theorem leaf_congr {s t : HTree} (h : s.leaves = t.leaves) (j : Nat) : s.leaf j = t.leaf j := by
  unfold HTree.leaf; rw [h]

theorem lv_congr {s t : HTree} (h : s.leaves = t.leaves) : lv s = lv t := by
  funext j; simp only [lv, leaf_congr h]

theorem pathDigit_lt (kh i : Nat) : pathDigit kh i < 16 := Nat.mod_lt _ (by decide)

theorem shift_div (a d j : Nat) (hd : d < 16) : (a * 16 + d) / 16 ^ (j + 1) = a / 16 ^ j := by
  rw [Nat.pow_succ, Nat.mul_comm (16 ^ j) 16, ← Nat.div_div_eq_div_mul, mul16_add_div a d hd]

theorem child_lt {o l i : Nat} (ho : o < 16 ^ l) (hi : i < 16) : o * 16 + i < 16 ^ (l + 1) := by
  rw [Nat.pow_succ]; omega

theorem child_prefix (b l o i : Nat) : (b * 16 ^ l + o) * 16 + i = b * 16 ^ (l + 1) + (o * 16 + i) := by
  rw [Nat.add_mul, Nat.add_assoc, Nat.mul_assoc, ← Nat.pow_succ]

theorem offsetAt_div (kh depth : Nat) {l k : Nat} (h : l ≤ k) : offsetAt kh depth k / 16 ^ (k - l) = offsetAt kh depth l := by
  obtain ⟨j, rfl⟩ := Nat.exists_eq_add_of_le h
  rw [Nat.add_sub_cancel_left]
  induction j with
  | zero => rw [Nat.pow_zero, Nat.div_one]; rfl
  | succ j ih => rw [← Nat.add_assoc, offsetAt, shift_div _ _ _ (pathDigit_lt _ _), ih (Nat.le_add_right _ _)]

theorem offsetAt_lt (kh depth k : Nat) : offsetAt kh depth k < 16 ^ k := by
  induction k with
  | zero => exact Nat.one_pos
  | succ k ih => exact child_lt ih (pathDigit_lt kh (depth + k))

def SameParams (t s : HTree) : Prop := s.depth = t.depth ∧ s.bucketID = t.bucketID ∧ s.height = t.height

theorem SameParams.depth {t s : HTree} (h : SameParams t s) : s.depth = t.depth := h.1
theorem SameParams.bid {t s : HTree} (h : SameParams t s) : s.bucketID = t.bucketID := h.2.1
theorem SameParams.height {t s : HTree} (h : SameParams t s) : s.height = t.height := h.2.2

theorem SameParams.refl (t : HTree) : SameParams t t := ⟨rfl, rfl, rfl⟩
theorem SameParams.trans {a b c : HTree} (h1 : SameParams a b) (h2 : SameParams b c) : SameParams a c :=
  ⟨h2.depth.trans h1.depth, h2.bid.trans h1.bid, h2.height.trans h1.height⟩

/-- `k` rounds of the loop of `getLeafAndInvalidNodes`, ending at offset `r.2` of level `k` -/
structure InvalRes (t : HTree) (r : HTree × Nat) (k : Nat) : Prop where
  leaves : r.1.leaves = t.leaves
  depth : r.1.depth = t.depth
  bid : r.1.bucketID = t.bucketID
  len : r.1.inner.length = t.inner.length
  shape : Shape t → Shape r.1
  hit : ∀ l o, l ≤ k → o = r.2 / 16 ^ (k - l) → r.1.innerNode l o = clr (t.innerNode l o)
  miss : ∀ l o, ¬ (l ≤ k ∧ o = r.2 / 16 ^ (k - l)) → r.1.innerNode l o = t.innerNode l o

theorem invalLoop_off (kh : Nat) (t : HTree) (k : Nat) : (invalLoop kh t k).2 = offsetAt kh t.depth k := by
  induction k with
  | zero => rfl
  | succ k ih => simp only [invalLoop, offsetAt, ih]

theorem invalLoop_succ (kh : Nat) (t : HTree) (k : Nat) :
    (invalLoop kh t (k + 1)).1 = (invalLoop kh t k).1.clearFlag (k + 1) (offsetAt kh t.depth (k + 1)) := by
  rw [offsetAt, ← invalLoop_off]; rfl

theorem invalLoop_innerNode (kh : Nat) (t : HTree) (k l o : Nat) :
    (invalLoop kh t k).1.innerNode l o
      = if l ≤ k ∧ o = offsetAt kh t.depth l then clr (t.innerNode l o) else t.innerNode l o := by
  induction k with
  | zero =>
    show (t.clearFlag 0 0).innerNode l o = _
    rw [innerNode_clearFlag]
    refine if_iff ⟨fun h => ?_, fun h => ?_⟩ _ _
    · obtain ⟨rfl, rfl⟩ := h; exact ⟨Nat.le_refl _, rfl⟩
    · obtain ⟨h1, rfl⟩ := h; obtain rfl := Nat.le_zero.mp h1; exact ⟨rfl, rfl⟩
  | succ k ih =>
    rw [invalLoop_succ, innerNode_clearFlag, ih]
    by_cases h1 : l = k + 1
    · subst h1
      rw [if_neg (fun h => absurd h.1 (Nat.not_succ_le_self k) : ¬ (k + 1 ≤ k ∧ o = offsetAt kh t.depth (k + 1)))]
      exact if_iff ⟨fun h => ⟨Nat.le_refl _, h.2⟩, fun h => ⟨rfl, h.2⟩⟩ _ _
    · rw [if_neg (fun h => h1 h.1)]
      exact if_iff ⟨fun h => ⟨by omega, h.2⟩, fun h => ⟨by omega, h.2⟩⟩ _ _

theorem invalLoop_spec (kh : Nat) (t : HTree) (k : Nat) : InvalRes t (invalLoop kh t k) k := by
  have frame : (invalLoop kh t k).1.leaves = t.leaves ∧ (invalLoop kh t k).1.depth = t.depth ∧
      (invalLoop kh t k).1.bucketID = t.bucketID ∧ (invalLoop kh t k).1.inner.length = t.inner.length ∧
      (Shape t → Shape (invalLoop kh t k).1) := by
    induction k with
    | zero => exact ⟨rfl, rfl, rfl, length_clearFlag _ _ _, shape_clearFlag _ _ _⟩
    | succ k ih =>
      obtain ⟨i1, i2, i3, i4, i5⟩ := ih
      rw [invalLoop_succ]
      exact ⟨i1, i2, i3, (length_clearFlag _ _ _).trans i4, fun h => shape_clearFlag _ _ _ (i5 h)⟩
  obtain ⟨f1, f2, f3, f4, f5⟩ := frame
  have hdiv : ∀ l, l ≤ k → (invalLoop kh t k).2 / 16 ^ (k - l) = offsetAt kh t.depth l :=
    fun l hl => by rw [invalLoop_off, offsetAt_div _ _ hl]
  refine ⟨f1, f2, f3, f4, f5, ?_, ?_⟩
  · intro l o hl ho
    rw [invalLoop_innerNode, if_pos ⟨hl, by rw [ho, hdiv l hl]⟩]
  · intro l o h
    rw [invalLoop_innerNode, if_neg (fun h' => h ⟨h'.1, by rw [h'.2, hdiv l h'.1]⟩)]

/-- the nodes whose flag `getLeafAndInvalidNodes` clears: the ancestors (levels 0..height-2) of leaf `off` -/
def Cleared (h off l o : Nat) : Prop := l + 2 ≤ h ∧ o = off / 16 ^ (h - 1 - l)

theorem Cleared.parent {h off l o i : Nat} (hi : i < 16) (hc : Cleared h off (l + 1) (o * 16 + i)) : Cleared h off l o := by
  have h1 := hc.1
  refine ⟨by omega, ?_⟩
  rw [show h - 1 - l = (h - 1 - (l + 1)) + 1 by omega, div_pow_succ, ← hc.2, mul16_add_div o i hi]

theorem cleared_iff (t : HTree) (kh l o : Nat) :
    Cleared t.height (leafOffset t kh) l o ↔ l + 2 ≤ t.height ∧ o = offsetAt kh t.depth l := by
  unfold Cleared leafOffset
  refine and_congr_right (fun h => ?_)
  rw [offsetAt_div _ _ (by omega)]

/-- `t1`, `off`: what `getLeafAndInvalidNodes` returns on `t` -/
structure GLRes (t t1 : HTree) (off : Nat) : Prop where
  leaves : t1.leaves = t.leaves
  depth : t1.depth = t.depth
  bid : t1.bucketID = t.bucketID
  len : t1.inner.length = t.inner.length
  shape : Shape t → Shape t1
  hit : ∀ l o, Cleared t.height off l o → t1.innerNode l o = clr (t.innerNode l o)
  miss : ∀ l o, ¬ Cleared t.height off l o → t1.innerNode l o = t.innerNode l o

theorem GLRes.height {t t1 : HTree} {off : Nat} (g : GLRes t t1 off) : t1.height = t.height := by
  rw [height_eq, height_eq, g.len]

theorem GLRes.params {t t1 : HTree} {off : Nat} (g : GLRes t t1 off) : SameParams t t1 := ⟨g.depth, g.bid, g.height⟩

theorem getLeafAndInvalidNodes_spec (t : HTree) (kh : Nat) (hh : 2 ≤ t.height) :
    ∃ t1, getLeafAndInvalidNodes t kh = some (t1, leafOffset t kh) ∧ GLRes t t1 (leafOffset t kh) := by
  have hr := invalLoop_spec kh t (t.height - 2)
  refine ⟨(invalLoop kh t (t.height - 2)).1, ?_, hr.leaves, hr.depth, hr.bid, hr.len, hr.shape, ?_, ?_⟩
  · unfold getLeafAndInvalidNodes
    rw [if_neg (by omega), leafOffset, show t.height - 1 = (t.height - 2) + 1 by omega, offsetAt, ← invalLoop_off]
  · intro l o hc
    have hc' := (cleared_iff t kh l o).mp hc
    rw [invalLoop_innerNode, if_pos ⟨by omega, hc'.2⟩]
  · intro l o hc
    rw [invalLoop_innerNode, if_neg (fun h => hc ((cleared_iff t kh l o).mpr ⟨by omega, h.2⟩))]

theorem node_inner (t : HTree) (l o : Nat) (h : l + 1 ≠ t.height) : t.node l o = t.innerNode l o := by
  unfold HTree.node; rw [if_neg h]

theorem node_leaf (t : HTree) (l o : Nat) (h : l + 1 = t.height) :
    t.node l o = { count := (t.leaf o).count, hash := (t.leaf o).hash, upd := true } := by
  unfold HTree.node; rw [if_pos h]

theorem node_leaf_exact (t : HTree) (l o : Nat) (h : l + 1 = t.height) :
    ((t.node l o).count, (t.node l o).hash) = subSum (lv t) (t.height - 1 - l) o := by
  rw [node_leaf _ _ _ h, show t.height - 1 - l = 0 by omega]; rfl

theorem node_oor (t : HTree) (l o : Nat) (h : t.height ≤ l) : t.node l o = default := by
  rw [node_inner _ _ _ (by omega)]
  exact innerNode_oor _ _ _ (fun hl => by have := hl.1; rw [height_eq] at h; omega)

theorem upd_lt_height {t : HTree} {l o : Nat} (hf : (t.node l o).upd = true) : l < t.height :=
  Nat.lt_of_not_le (fun h => by rw [node_oor t l o h] at hf; exact absurd hf (by decide))

theorem treeInv_of_unflagged (t : HTree) (h : ∀ l o, (t.innerNode l o).upd = false) : TreeInv t := by
  have hflag : ∀ l o, (t.node l o).upd = true → l + 1 = t.height := by
    intro l o hf
    by_cases hl : l + 1 = t.height
    · exact hl
    · rw [node_inner _ _ _ hl, h] at hf; exact absurd hf (by decide)
  refine ⟨?_, ?_⟩
  · intro l o hf
    exact node_leaf_exact t l o (hflag l o hf)
  · intro l o i _ hf hl1
    have := hflag l o hf; omega

/-- invalidation is sufficient: `t2` is `t1` after ANY change of leaf `off` (set, remove, nothing) -/
theorem treeInv_touch (t t1 t2 : HTree) (off : Nat) (inv : TreeInv t) (g : GLRes t t1 off)
    (hin : t2.inner = t1.inner) (hleaf : ∀ j, j ≠ off → t2.leaf j = t1.leaf j) : TreeInv t2 := by
  have hh2 : t2.height = t.height := by rw [← g.height, height_eq, height_eq, hin]
  have hnode : ∀ l o, l + 1 ≠ t.height → t2.node l o = t1.innerNode l o := by
    intro l o hl
    rw [node_inner _ _ _ (hh2 ▸ hl)]; unfold HTree.innerNode; rw [hin]
  -- an inner node flagged in t2 is no ancestor of the leaf, and was flagged, with the same summary, in t
  have key : ∀ l o, l + 1 ≠ t.height → (t2.node l o).upd = true →
      ¬ Cleared t.height off l o ∧ t2.node l o = t.node l o ∧ l + 2 ≤ t.height := by
    intro l o hl hf
    rw [hnode l o hl] at hf ⊢
    have hnc : ¬ Cleared t.height off l o := fun hc => by rw [g.hit l o hc] at hf; exact Bool.false_ne_true hf
    rw [g.miss l o hnc, ← node_inner _ _ _ hl] at hf ⊢
    have := upd_lt_height hf
    exact ⟨hnc, rfl, by omega⟩
  refine ⟨?_, ?_⟩
  · intro l o hf
    by_cases hl : l + 1 = t.height
    · exact node_leaf_exact t2 l o (hh2 ▸ hl)
    · obtain ⟨hnc, heq, hle⟩ := key l o hl hf
      rw [heq] at hf ⊢
      rw [inv.exact l o hf, hh2]
      -- the leaves below the node are not touched
      refine subSum_congr _ _ _ _ (fun j hj => ?_)
      have hjo : j ≠ off := fun hjo => hnc ⟨hle, by rw [← hjo, hj]⟩
      simp only [lv, hleaf j hjo, leaf_congr g.leaves j]
  · intro l o i hi hf hl1
    rw [hh2] at hl1
    obtain ⟨hnc, heq, hle⟩ := key l o (by omega) hf
    rw [heq] at hf
    by_cases hl2 : l + 2 = t.height
    · rw [node_leaf _ _ _ (by rw [hh2]; omega)]
    · rw [hnode _ _ (by omega), g.miss _ _ (fun hc => hnc (hc.parent hi)), ← node_inner _ _ _ (by omega)]
      exact inv.down l o i hi hf hl1

/-- `s` differs from `t` only by inner nodes that were NOT flagged in `t` -/
structure Ext (t s : HTree) : Prop where
  leaves : s.leaves = t.leaves
  depth : s.depth = t.depth
  bid : s.bucketID = t.bucketID
  len : s.inner.length = t.inner.length
  mono : ∀ l o, (t.node l o).upd = true → s.node l o = t.node l o

theorem Ext.refl (t : HTree) : Ext t t := ⟨rfl, rfl, rfl, rfl, fun _ _ _ => rfl⟩

theorem Ext.trans {a b c : HTree} (h1 : Ext a b) (h2 : Ext b c) : Ext a c := by
  refine ⟨h2.leaves.trans h1.leaves, h2.depth.trans h1.depth, h2.bid.trans h1.bid, h2.len.trans h1.len, ?_⟩
  intro l o hf
  have e1 := h1.mono l o hf
  rw [h2.mono l o (by rw [e1]; exact hf), e1]

theorem Ext.height {a b : HTree} (h : Ext a b) : b.height = a.height := by rw [height_eq, height_eq, h.len]

theorem Ext.params {a b : HTree} (h : Ext a b) : SameParams a b := ⟨h.depth, h.bid, h.height⟩

/-- `updateNodes_spec` carries it for one purpose: the count `HStore.NumKey` reads in the root without an update is
    moved by no update that starts below the root (`ReadRes.rootCount`) -/
def Frame (k : Nat) (t s : HTree) : Prop := ∀ l o, l < k → s.node l o = t.node l o

theorem Frame.refl (k : Nat) (t : HTree) : Frame k t t := fun _ _ _ => rfl

theorem Frame.trans {k : Nat} {a b c : HTree} (h1 : Frame k a b) (h2 : Frame k b c) : Frame k a c :=
  fun l o h => (h2 l o h).trans (h1 l o h)

structure UpdRes (t : HTree) (level offset : Nat) (r : HTree × Node) : Prop where
  shape : Shape r.1
  inv : TreeInv r.1
  ext : Ext t r.1
  frame : Frame level t r.1
  ret : r.2 = r.1.node level offset
  flagged : r.2.upd = true

theorem UpdRes.value {t : HTree} {level offset : Nat} {r : HTree × Node} (h : UpdRes t level offset r) :
    (r.2.count, r.2.hash) = subSum (lv t) (t.height - 1 - level) offset := by
  have hf := h.flagged
  rw [h.ret] at hf ⊢
  rw [h.inv.exact _ _ hf, lv_congr h.ext.leaves, h.ext.height]

theorem UpdRes.of_flagged {t : HTree} {level offset : Nat} (hs : Shape t) (hi : TreeInv t)
    (hf : (t.node level offset).upd = true) : UpdRes t level offset (t, t.node level offset) :=
  ⟨hs, hi, Ext.refl _, Frame.refl _ _, rfl, hf⟩

/-- one round of the first loop of `updateNodes` -/
def updStep (fuel level offset : Nat) (acc : UpdAcc) (i : Nat) : UpdAcc :=
  { t := (updateNodes fuel acc.t (level + 1) (offset * 16 + i)).1,
    count := acc.count + (updateNodes fuel acc.t (level + 1) (offset * 16 + i)).2.count,
    hashs := acc.hashs ++ [(updateNodes fuel acc.t (level + 1) (offset * 16 + i)).2.hash] }

theorem updateNodes_succ (fuel : Nat) (t : HTree) (level offset : Nat) :
    updateNodes (fuel + 1) t level offset =
      if (t.node level offset).upd then (t, t.node level offset)
      else
        let acc := (List.range 16).foldl (updStep fuel level offset) ⟨t, 0, []⟩
        ((acc.t.setInner level offset { count := acc.count, hash := foldHash acc.count acc.hashs, upd := true }),
          { count := acc.count, hash := foldHash acc.count acc.hashs, upd := true }) := rfl

/-- the first loop of `updateNodes` after `k` rounds -/
structure LoopRes (fuel : Nat) (t : HTree) (level offset k : Nat) (acc : UpdAcc) : Prop where
  shape : Shape acc.t
  inv : TreeInv acc.t
  ext : Ext t acc.t
  frame : Frame (level + 1) t acc.t
  count : acc.count = (((List.range k).map (fun i => subSum (lv t) fuel (offset * 16 + i))).map (·.1)).sum
  hashs : acc.hashs = ((List.range k).map (fun i => subSum (lv t) fuel (offset * 16 + i))).map (·.2)
  flagged : ∀ i, i < k → (acc.t.node (level + 1) (offset * 16 + i)).upd = true

theorem updateNodes_loop (fuel : Nat)
    (IH : ∀ (t : HTree) (level offset : Nat), Shape t → TreeInv t → level + fuel + 1 = t.height → offset < 16 ^ level →
      UpdRes t level offset (updateNodes fuel t level offset))
    (t : HTree) (level offset : Nat) (hs : Shape t) (hi : TreeInv t)
    (hl : level + 1 + fuel + 1 = t.height) (hoff : offset < 16 ^ level) (k : Nat) (hk : k ≤ 16) :
    LoopRes fuel t level offset k ((List.range k).foldl (updStep fuel level offset) ⟨t, 0, []⟩) := by
  induction k with
  | zero => exact ⟨hs, hi, Ext.refl _, Frame.refl _ _, rfl, rfl, fun _ h => absurd h (Nat.not_lt_zero _)⟩
  | succ k ih =>
    have s := ih (by omega)
    rw [List.range_succ, List.foldl_append]
    generalize (List.range k).foldl (updStep fuel level offset) ⟨t, 0, []⟩ = acc at s ⊢
    have r := IH acc.t (level + 1) (offset * 16 + k) s.shape s.inv (by rw [s.ext.height]; omega) (child_lt hoff (by omega))
    have hval := r.value
    rw [lv_congr s.ext.leaves, s.ext.height, show t.height - 1 - (level + 1) = fuel by omega] at hval
    refine ⟨r.shape, r.inv, s.ext.trans r.ext, s.frame.trans r.frame, ?_, ?_, ?_⟩
    · show acc.count + _ = _
      rw [s.count, List.range_succ, List.map_append, List.map_append, List.sum_append]
      simp only [List.map_cons, List.map_nil, List.sum_cons, List.sum_nil, Nat.add_zero, ← hval]
    · show acc.hashs ++ _ = _
      rw [s.hashs, List.range_succ, List.map_append, List.map_append]
      simp only [List.map_cons, List.map_nil, ← hval]
    · intro i hi
      have hf := r.flagged
      rw [r.ret] at hf
      by_cases hik : i = k
      · rw [hik]; exact hf
      · have h7 := s.flagged i (by omega)
        rw [← r.ext.mono _ _ h7] at h7
        exact h7

/-- the last step of `updateNodes` -/
theorem treeInv_setInner (t : HTree) (level offset : Nat) (nd : Node) (inv : TreeInv t)
    (h1 : level < t.inner.length) (h2 : offset < (t.inner.getD level []).length)
    (hnd : nd.upd = true) (hval : (nd.count, nd.hash) = subSum (lv t) (t.height - 1 - level) offset)
    (hch : ∀ i, i < 16 → (t.node (level + 1) (offset * 16 + i)).upd = true) : TreeInv (t.setInner level offset nd) := by
  have hnode := fun l o => node_setInner t level offset nd l o h1 h2
  refine ⟨?_, ?_⟩
  · intro l o hfl
    rw [hnode] at hfl ⊢
    rw [height_setInner, (lv_congr rfl : lv (t.setInner level offset nd) = lv t)]
    by_cases hc : l = level ∧ o = offset
    · rw [if_pos hc, hc.1, hc.2]; exact hval
    · rw [if_neg hc] at hfl ⊢
      exact inv.exact l o hfl
  · intro l o i hi16 hfl hl1
    rw [hnode] at hfl ⊢
    rw [height_setInner] at hl1
    by_cases hc : l = level ∧ o = offset
    · rw [hc.1, hc.2, if_neg (fun h => absurd h.1 (Nat.succ_ne_self level))]
      exact hch i hi16
    · rw [if_neg hc] at hfl
      split
      · exact hnd
      · exact inv.down l o i hi16 hfl hl1

/-- on any pattern of stale flags; the node returned is flagged, hence exact (`UpdRes.value`) -/
theorem updateNodes_spec (fuel : Nat) : ∀ (t : HTree) (level offset : Nat), Shape t → TreeInv t →
    level + fuel + 1 = t.height → offset < 16 ^ level → UpdRes t level offset (updateNodes fuel t level offset) := by
  induction fuel with
  | zero =>
    intro t level offset hs hi hl hoff
    exact UpdRes.of_flagged hs hi (by rw [node_leaf _ _ _ (by omega)])
  | succ fuel IH =>
    intro t level offset hs hi hl hoff
    rw [updateNodes_succ]
    by_cases hf : (t.node level offset).upd = true
    · rw [if_pos hf]
      exact UpdRes.of_flagged hs hi hf
    · rw [if_neg hf]
      have s := updateNodes_loop fuel IH t level offset hs hi (by omega) hoff 16 (Nat.le_refl _)
      simp only []
      generalize (List.range 16).foldl (updStep fuel level offset) ⟨t, 0, []⟩ = acc at s ⊢
      have hval : (acc.count, foldHash acc.count acc.hashs) = subSum (lv acc.t) (acc.t.height - 1 - level) offset := by
        rw [s.count, s.hashs, lv_congr s.ext.leaves, s.ext.height, show t.height - 1 - level = fuel + 1 by omega]
        exact foldHash_combine _
      generalize hnd : (⟨acc.count, foldHash acc.count acc.hashs, true⟩ : Node) = nd
      have hupd : nd.upd = true := by rw [← hnd]
      have hlen : level < acc.t.inner.length := by
        have := s.ext.len; rw [height_eq] at hl; omega
      have hrow : offset < (acc.t.inner.getD level []).length := by rw [s.shape.rows level hlen]; exact hoff
      have hnode := fun l o => node_setInner acc.t level offset nd l o hlen hrow
      refine ⟨shape_setInner _ _ _ _ s.shape,
        treeInv_setInner acc.t level offset nd s.inv hlen hrow hupd (by rw [← hnd]; exact hval) s.flagged,
        ⟨s.ext.leaves, s.ext.depth, s.ext.bid, (length_setInner _ _ _ _).trans s.ext.len, ?_⟩, ?_, ?_, hupd⟩
      · intro l o hfl
        rw [hnode, if_neg (fun hc => hf (by rw [← hc.1, ← hc.2]; exact hfl))]
        exact s.ext.mono l o hfl
      · intro l o hlt
        rw [hnode, if_neg (fun hc => absurd hc.1 (Nat.ne_of_lt hlt))]
        exact s.frame l o (Nat.lt_succ_of_lt hlt)
      · rw [hnode, if_pos ⟨rfl, rfl⟩]
end HTreeImplLemmas
