/-
  A read under `RInv` (`read_cases`, over `get_specR`).  `State.get` asks the collision table, then the tree slot of the key
  hash (`memMeta_someR`, `memMeta_noneR`), and if the slot holds another key's record the hint manager (`getItem_spec`).  The
  table's entry is exact, and so is the key's own slot, the table not knowing the key.  A foreign slot: before the first
  restart the hint lookup finds the key's last record and both keys enter the table (`detect_invR`); after one it cannot
  happen, both keys being written and the key not in the table (`eq_of_unreg`).  No slot: the key has no record, or, after a
  restart, its last record is a delete marker that the rebuilt tree has dropped, the one difference `ReadOK` allows.
-/
import GoBeans.Lemmas.CollideR
namespace CollideLemmas
open Store Spec HintIndex Collide StoreLemmas HintBufferLemmas

section
variable (hash : Key → Nat)

/-- `hintMgr.getItem` against the last record of the key in the whole log (`HintAt`, one level up) -/
def HintAtLog (k : Key) : Option (Item × Nat) → Option (Pos × Rec) → Prop
  | none, none => True
  | some x, some y => (⟨x.2, x.1.off⟩ : Pos) = y.1 ∧ x.1.ver = y.2.ver ∧ x.1.key = k ∧ x.1.khash = hash k
  | _, _ => False

theorem hintAtLog_none {k : Key} {g : Option (Item × Nat)} (h : HintAtLog hash k g none) : g = none := by
  cases g with
  | none => rfl
  | some _ => exact h.elim

theorem hintAtLog_some {k : Key} {g : Option (Item × Nat)} {p : Pos} {r : Rec} (h : HintAtLog hash k g (some (p, r))) :
    ∃ it c, g = some (it, c) ∧ (⟨c, it.off⟩ : Pos) = p ∧ it.ver = r.ver ∧ it.key = k ∧ it.khash = hash k := by
  cases g with
  | none => exact h.elim
  | some x => exact ⟨x.1, x.2, rfl, h⟩

theorem getItemGo_spec {st : State} (hi : HintInv hash st) (hid : Nat) (k : Key) (m : Nat) :
    HintAtLog hash k (getItemGo st.hs hid (hash k) k m) (lastDown st.b k m) := by
  induction m with
  | zero => exact True.intro
  | succ i ih =>
    rw [lastDown_succ]
    unfold getItemGo
    rw [hi.hmerged, ite_self]
    have hx := hi.hex i k
    cases hl : lastIn k (st.b.chunks i).recs with
    | none => rw [hl] at hx; rw [hintAt_none hash hx]; exact ih
    | some p =>
      rw [hl] at hx
      obtain ⟨it, hg, ho, hx⟩ := hintAt_some hash hx
      rw [hg]
      exact ⟨by rw [ho], hx⟩

theorem getItem_spec {st : State} (hp : PosInv st.b) (hi : HintInv hash st)
    (hmax : ∀ c, (st.b.chunks c).recs ≠ [] → c ≤ st.hs.maxChunk) (hid : Nat) (k : Key) :
    HintAtLog hash k (st.hs.getItem hid (hash k) k) (lastOf k st.b.log) := by
  -- files beyond `maxChunkID` hold no record, nor do files beyond the head: both searches stop at the same record
  have e1 : lastDown st.b k (max st.hs.maxChunk st.b.head + 1) = lastDown st.b k (st.hs.maxChunk + 1) :=
    lastDown_extend _ _ _ _ (by omega) fun c hc => Decidable.byContradiction fun hne => by have := hmax c hne; omega
  have e2 : lastDown st.b k (max st.hs.maxChunk st.b.head + 1) = lastDown st.b k (st.b.head + 1) :=
    lastDown_extend _ _ _ _ (by omega) fun c hc => (hp.fresh c (by omega)).1
  rw [lastOf_log, ← e2, e1]
  exact getItemGo_spec hash hi hid k _

theorem getItem_none_of_unwritten {st : State} (hp : PosInv st.b) (hi : HintInv hash st) (hid : Nat) (k : Key)
    (hl : lastOf k st.b.log = none) : st.hs.getItem hid (hash k) k = none := by
  have hn : ∀ c, lastIn k (st.b.chunks c).recs = none := fun c => lastIn_none.mpr fun p hp' hk => by
    have := lastOf_isSome_of_mem (mem_log_of_mem_recs hp (show (p.1, p.2) ∈ _ from hp'))
    rw [hk, hl] at this; cases this
  have := getItemGo_spec hash hi hid k (st.hs.maxChunk + 1)
  rw [lastDown_none hn] at this
  exact hintAtLog_none hash this

theorem eq_of_unreg {cfg : Collide.Cfg} {st : State} {x : TrkR} {n : Nat} (inv : RInv hash cfg st x n) (hr : x.restarted = true)
    {k o : Key} (hw : k ∈ x.t.written) (hnr : k ∉ x.t.reg) (how : o ∈ x.t.written) (hh : hash o = hash k) : o = k :=
  Classical.byContradiction (fun e => hnr (inv.alld hr k o hw how hh e))

theorem afterGet_own {cfg : Collide.Cfg} {st : State} {x : TrkR} {n : Nat} (inv : RInv hash cfg st x n) {k : Key}
    (hw : k ∈ x.t.written) (hnr : k ∉ x.t.reg) (hown : x.restarted = true ∨ AMap.get x.t.owner (hash k) = some k) :
    x.t.afterGet hash k = x.t := by
  unfold Trk.afterGet
  rw [if_pos ⟨hw, hnr⟩]
  cases ho : AMap.get x.t.owner (hash k) with
  | none => rfl
  | some o =>
    simp only
    have hok : o = k := by
      rcases hown with hr | he
      · obtain ⟨how, hho⟩ := inv.ownw _ _ ho
        exact eq_of_unreg hash inv hr hw hnr how hho
      · rw [ho] at he; cases he; rfl
    rw [if_pos hok]

theorem detect_invR {cfg : Collide.Cfg} {st : State} {x : TrkR} {n : Nat} (inv : RInv hash cfg st x n) (hr : x.restarted = false)
    (k o : Key) (i1 i2 : Item)
    (h1 : i1.key = o ∧ i1.khash = hash o ∧ ∃ r, lastOf o st.b.log = some (⟨i1.chunk, i1.off⟩, r) ∧ i1.ver = r.ver)
    (h2 : i2.key = k ∧ i2.khash = hash k ∧ ∃ r, lastOf k st.b.log = some (⟨i2.chunk, i2.off⟩, r) ∧ i2.ver = r.ver) :
    RInv hash cfg { st with ct := (st.ct.compareAndSet i1 false).compareAndSet i2 false }
      { x with t := { x.t with reg := k :: o :: x.t.reg } } n := by
  obtain ⟨rfl, e1, r1⟩ := h1
  obtain ⟨rfl, e2, r2⟩ := h2
  have s := ((inv.toTabInv.cas hash i1 false e1 r1).cas hash i2 false e2 r2)
  exact { inv with
          tab := s.tab, tabc := s.tabc, tabne := s.tabne
          slot := fun h ti hti => by
            obtain ⟨r, a⟩ := inv.slot h ti hti
            exact ⟨r, { a with last := fun _ => a.last (Or.inl hr) }⟩
          own := fun k' hk' _ => inv.own k' hk' (Or.inl hr)
          alld := fun hr' => by rw [hr] at hr'; cases hr' }

theorem memMeta_noneR {cfg : Collide.Cfg} {st : State} {x : TrkR} {n : Nat} (inv : RInv hash cfg st x n) {k : Key}
    (h : st.memMeta hash k = none) :
    k ∉ x.t.reg ∧ (lastOf k st.b.log = none ∨ (x.restarted = true ∧ ∃ p r, lastOf k st.b.log = some (p, r) ∧ r.ver < 0)) := by
  rw [memMeta_eq] at h
  cases htg : tget st.ct (hash k) k with
  | some it => rw [htg] at h; cases h
  | none =>
    rw [htg] at h
    simp only at h
    have hnr := not_reg_of_tget_none hash inv.toDataInv htg
    refine ⟨hnr, ?_⟩
    cases hl : lastOf k st.b.log with
    | none => exact Or.inl rfl
    | some y =>
      obtain ⟨p, r⟩ := y
      -- a written key without a slot: neither case of `RInv.own` holds
      have hnown : ¬ (x.restarted = false ∨ (k ∉ x.t.reg ∧ ∃ p r, lastOf k st.b.log = some (p, r) ∧ r.ver > 0)) := by
        intro hc
        obtain ⟨ti, hti⟩ := inv.own k (written_of_last hash inv.toDataInv hl) hc
        rw [h] at hti; cases hti
      obtain ⟨_, _, hs⟩ := spec_of_last hash inv.toDataInv hl
      refine Or.inr ⟨?_, p, r, rfl, ?_⟩
      · cases hrs : x.restarted with
        | true => rfl
        | false => exact absurd (Or.inl hrs) hnown
      · have : ¬ r.ver > 0 := fun hpos => hnown (Or.inr ⟨hnr, p, r, hl, hpos⟩)
        have := hs.ne
        omega

theorem memMeta_someR {cfg : Collide.Cfg} {st : State} {x : TrkR} {n : Nat} (inv : RInv hash cfg st x n) {k : Key} {mm : TItem}
    (h : st.memMeta hash k = some mm) :
    ∃ r, (mm.pos, r) ∈ st.b.log ∧ mm.ver = r.ver
      ∧ ((k ∈ x.t.reg ∧ lastOf k st.b.log = some (mm.pos, r)) ∨ (k ∉ x.t.reg ∧ SlotOK hash st.b.log x (hash k) mm r)) := by
  rw [memMeta_eq] at h
  cases htg : tget st.ct (hash k) k with
  | some it =>
    rw [htg] at h
    cases h
    obtain ⟨hreg, r, hl, hv⟩ := inv.last htg
    exact ⟨r, (StoreLemmas.lastOf_mem hl).1, hv, Or.inl ⟨hreg, hl⟩⟩
  | none =>
    rw [htg] at h
    obtain ⟨r, s⟩ := inv.slot _ _ h
    exact ⟨r, s.mem, s.ver, Or.inr ⟨not_reg_of_tget_none hash inv.toDataInv htg, s⟩⟩

def readOf (x : Option (Pos × Rec)) : GetRes :=
  match x with
  | none => .miss
  | some x => .found x.2 x.2.ver x.1

/-- a read returns the key's last record, or a plain miss where that record is a delete marker -/
def ReadOK (res : GetRes) (l : Option (Pos × Rec)) : Prop :=
  res = readOf l ∨ (res = .miss ∧ ∃ p r, l = some (p, r) ∧ r.ver < 0)

theorem get_specR {cfg : Collide.Cfg} {st : State} {x : TrkR} {n : Nat} (inv : RInv hash cfg st x n) (k : Key) :
    RInv hash cfg (st.get hash k).1 { x with t := x.t.afterGet hash k } n
    ∧ ReadOK (st.get hash k).2 (lastOf k st.b.log) := by
  unfold State.get
  cases hm : st.memMeta hash k with
  | none =>
    simp only
    obtain ⟨hnr, hl | ⟨hrs, p, r, hl, hdead⟩⟩ := memMeta_noneR hash inv hm
    · rw [afterGet_unwritten hash x.t k (unwritten_of_lastOf_none hash inv.toDataInv hl), hl]
      exact ⟨inv, Or.inl rfl⟩
    · rw [afterGet_own hash inv (written_of_last hash inv.toDataInv hl) hnr (Or.inl hrs)]
      exact ⟨inv, Or.inr ⟨rfl, p, r, hl, hdead⟩⟩
  | some mm =>
    obtain ⟨ro, hmem, hv, ⟨hreg, hl⟩ | ⟨hnr, s⟩⟩ := memMeta_someR hash inv hm
    · have hrk : ro.key = k := (StoreLemmas.lastOf_mem hl).2
      simp only [inv.lay.read_log hmem, hrk, if_true]
      rw [afterGet_reg hash x.t k hreg, hl]
      exact ⟨inv, Or.inl (by simp [readOf, hv])⟩
    · simp only [inv.lay.read_log hmem]
      by_cases hok : ro.key = k
      · -- the key is not in the table: its own slot is exact
        simp only [hok, if_true]
        have hlo := s.last (Or.inr (hok ▸ hnr))
        rw [hok] at hlo
        have hw := written_of_last hash inv.toDataInv hlo
        have hag : x.t.afterGet hash k = x.t := by
          cases hrs : x.restarted with
          | false => exact afterGet_own hash inv hw hnr (Or.inr (hok ▸ s.owner hrs))
          | true => exact afterGet_own hash inv hw hnr (Or.inl hrs)
        rw [hag, hlo]
        exact ⟨inv, Or.inl (by simp [readOf, hv])⟩
      · have hsame : ¬ hash ro.key ≠ hash k := by rw [s.hash]; simp
        simp only [hok, if_false, hsame]
        cases hl : lastOf k st.b.log with
        | none =>
          rw [getItem_none_of_unwritten hash inv.lay.posInv inv.toHintInv st.ct.hidChunk k hl]
          simp only
          rw [afterGet_unwritten hash x.t k (unwritten_of_lastOf_none hash inv.toDataInv hl)]
          exact ⟨inv, Or.inl rfl⟩
        | some y =>
          obtain ⟨p, rk⟩ := y
          have hw := written_of_last hash inv.toDataInv hl
          rcases Bool.eq_false_or_eq_true x.restarted with hrs | hrs
          · exact absurd (eq_of_unreg hash inv hrs hw hnr (written_of_mem_log hash inv.toDataInv s.mem) s.hash) hok
          · have hgi := getItem_spec hash inv.lay.posInv inv.toHintInv (inv.hmax hrs) st.ct.hidChunk k
            rw [hl] at hgi
            obtain ⟨hit, chunkID, hg, hpos, g3, g4, g5⟩ := hintAtLog_some hash hgi
            have hag : x.t.afterGet hash k = { x.t with reg := k :: ro.key :: x.t.reg } := by
              unfold Trk.afterGet
              rw [if_pos ⟨hw, hnr⟩, s.owner hrs]
              simp [hok]
            simp only [hg, hpos, inv.lay.read_log (StoreLemmas.lastOf_mem hl).1]
            rw [hag]
            refine ⟨?_, Or.inl (by simp [readOf])⟩
            apply detect_invR hash inv hrs k ro.key
            · refine ⟨rfl, by rw [s.hash], ro, ?_, rfl⟩
              simp only
              exact s.last (Or.inl hrs)
            · refine ⟨g4, g5, rk, ?_, g3⟩
              simp only
              rw [hpos]; exact hl

theorem read_cases {cfg : Collide.Cfg} {st : State} {x : TrkR} {n : Nat} (inv : RInv hash cfg st x n) (k : Key) :
    RInv hash cfg (st.get hash k).1 { x with t := x.t.afterGet hash k } n
    ∧ ((((st.get hash k).2 = .miss ∨ ∃ p r, (st.get hash k).2 = .found r r.ver p ∧ r.ver < 0) ∧ DeadIn x.t.m k)
       ∨ (∃ p r e, (st.get hash k).2 = .found r r.ver p ∧ lastOf k st.b.log = some (p, r) ∧ AMap.get x.t.m k = some e
            ∧ r.ver > 0 ∧ e.ver > 0 ∧ RecSpec r e)) := by
  obtain ⟨g1, g3⟩ := get_specR hash inv k
  refine ⟨g1, ?_⟩
  cases hl : lastOf k st.b.log with
  | none =>
    rw [hl] at g3
    rcases g3 with g3 | ⟨_, _, _, hl', _⟩
    · exact Or.inl ⟨Or.inl g3, dead_of_last hash inv.toDataInv (Or.inl hl)⟩
    · cases hl'
  | some y =>
    obtain ⟨p, r⟩ := y
    obtain ⟨e, he, s⟩ := spec_of_last hash inv.toDataInv hl
    rw [hl] at g3
    rcases g3 with g3 | ⟨g3, _, _, hl', hd⟩
    · by_cases hv : r.ver > 0
      · exact Or.inr ⟨p, r, e, g3, rfl, he, hv, s.live.mp hv, s⟩
      · have hneg : r.ver < 0 := by have := s.ne; omega
        exact Or.inl ⟨Or.inr ⟨p, r, g3, hneg⟩, dead_of_last hash inv.toDataInv (Or.inr ⟨p, r, hl, hneg⟩)⟩
    · cases hl'
      exact Or.inl ⟨Or.inl g3, dead_of_last hash inv.toDataInv (Or.inr ⟨_, _, hl, hd⟩)⟩

end
end CollideLemmas
