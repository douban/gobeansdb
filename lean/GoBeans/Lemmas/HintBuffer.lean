/-
  `HintBuffer.Set` (store/hint.go:124-164) with its two lookup maps (`index`: keyhash → slot, `collisions`:
  keyhash → key → slot) computes "find the slot by (keyhash, key); replace in place, or append if there is room"
  (`slotSet`) — for every sequence of `Set` calls, colliding hashes included (`set_items`, `set_inv`).
  The invariant is stated on the three components (`Inv3`) and not on `Buf`: `Set` extends `collisions` (`colls1`)
  before it is known whether the item is accepted, and `colls1_inv` speaks of that state in between.
-/
import GoBeans.Model.HintIndex
namespace HintBufferLemmas
open HintIndex Spec

theorem sameKey_iff (a b : Item) : sameKey a b = true ↔ a.khash = b.khash ∧ a.key = b.key := by
  simp [sameKey]

theorem sameKey_false (a b : Item) : sameKey a b = false ↔ ¬ (a.khash = b.khash ∧ a.key = b.key) := by
  rw [← sameKey_iff]; simp

theorem sameKey_comm (a b : Item) : sameKey a b = sameKey b a := by
  apply Bool.eq_iff_iff.mpr
  rw [sameKey_iff, sameKey_iff]
  constructor <;> (intro h; exact ⟨h.1.symm, h.2.symm⟩)

theorem sameKey_trans {a b c : Item} (h1 : sameKey a b = true) (h2 : sameKey b c = true) : sameKey a c = true := by
  rw [sameKey_iff] at *
  exact ⟨h1.1.trans h2.1, h1.2.trans h2.2⟩

def NodupKey (items : List Item) : Prop := items.Pairwise (fun a b => sameKey a b = false)

theorem nodup_unique {items : List Item} (h : NodupKey items) {i j : Nat} {x y : Item}
    (hi : items[i]? = some x) (hj : items[j]? = some y) (hs : sameKey x y = true) : i = j := by
  unfold NodupKey at h
  rw [List.pairwise_iff_getElem] at h
  obtain ⟨hil, hix⟩ := List.getElem?_eq_some_iff.mp hi
  obtain ⟨hjl, hjy⟩ := List.getElem?_eq_some_iff.mp hj
  rcases Nat.lt_trichotomy i j with hlt | heq | hgt
  · have := h i j hil hjl hlt
    rw [hix, hjy, hs] at this; cases this
  · exact heq
  · have := h j i hjl hil hgt
    rw [hix, hjy, sameKey_comm, hs] at this; cases this

theorem nodup_of_idx {items : List Item}
    (h : ∀ (i j : Nat) (x y : Item), items[i]? = some x → items[j]? = some y → sameKey x y = true → i = j) : NodupKey items := by
  unfold NodupKey
  rw [List.pairwise_iff_getElem]
  intro i j hi hj hlt
  cases hs : sameKey items[i] items[j] with
  | false => rfl
  | true =>
    have := h i j _ _ (List.getElem?_eq_getElem hi) (List.getElem?_eq_getElem hj) hs
    omega

theorem findIdx_of_nodup {items : List Item} (h : NodupKey items) {i : Nat} {y it : Item}
    (hi : items[i]? = some y) (hs : sameKey it y = true) : items.findIdx? (sameKey it) = some i := by
  obtain ⟨hil, hiy⟩ := List.getElem?_eq_some_iff.mp hi
  rw [List.findIdx?_eq_some_iff_getElem]
  refine ⟨hil, by rw [hiy]; exact hs, ?_⟩
  intro j hji hsj
  have hjl : j < items.length := by omega
  have : sameKey items[j] y = true := sameKey_trans (by rw [sameKey_comm]; simpa using hsj) hs
  have := nodup_unique h (List.getElem?_eq_getElem hjl) hi this
  omega

structure Inv3 (items : List Item) (index : List (Nat × Nat)) (colls : List (Nat × List (Key × Nat))) : Prop where
  nodup : NodupKey items
  idxSound : ∀ kh i, AMap.get index kh = some i → ∃ x, items[i]? = some x ∧ x.khash = kh
  idxCompl : ∀ x ∈ items, (AMap.get index x.khash).isSome = true
  /-- a hash without a collision entry occurs with one key only -/
  colNone : ∀ kh, AMap.get colls kh = none → ∀ x ∈ items, ∀ y ∈ items, x.khash = kh → y.khash = kh → x.key = y.key
  colSound : ∀ kh keys key i, AMap.get colls kh = some keys → AMap.get keys key = some i →
    ∃ x, items[i]? = some x ∧ x.khash = kh ∧ x.key = key
  /-- a hash with a collision entry has ALL its keys in it -/
  colCompl : ∀ kh keys i x, AMap.get colls kh = some keys → items[i]? = some x → x.khash = kh →
    AMap.get keys x.key = some i
  colIdx : ∀ kh keys, AMap.get colls kh = some keys → (AMap.get index kh).isSome = true

def BufInv (b : Buf) : Prop := Inv3 b.items b.index b.collisions

theorem bufInv_empty : BufInv {} := by
  refine ⟨by simp [NodupKey], ?_, ?_, ?_, ?_, ?_, ?_⟩ <;> simp [AMap.get]

theorem findIdx_none {items : List Item} {it : Item} (h : ∀ y ∈ items, ¬ (it.khash = y.khash ∧ it.key = y.key)) :
    items.findIdx? (sameKey it) = none :=
  List.findIdx?_eq_none_iff.mpr fun y hy => (sameKey_false it y).mpr (h y hy)

theorem slot_eq (b : Buf) (hb : BufInv b) (it : Item) : b.slot it = b.items.findIdx? (sameKey it) := by
  unfold Buf.slot Buf.isColl Buf.key0 Buf.idx0
  -- each case of `Buf.slot` is closed by one clause of `Inv3`: hash not in `index` (`idxCompl`); its slot holds the key
  -- (`nodup`); another key, and `collisions` has no entry (`colNone`), one without the key (`colCompl`), with it (`colSound`)
  cases hr : AMap.get b.index it.khash with
  | none =>
    simp only [Option.isSome_none, Bool.false_and, Bool.false_eq_true, if_false]
    refine (findIdx_none fun x hx hs => ?_).symm
    have := hb.idxCompl x hx
    rw [← hs.1, hr] at this
    cases this
  | some idx =>
    obtain ⟨x, hx, hxk⟩ := hb.idxSound _ _ hr
    have hxm : x ∈ b.items := List.mem_of_getElem? hx
    have hgd : b.items.getD idx default = x := by
      rw [List.getD_eq_getElem?_getD, hx]; rfl
    simp only [Option.getD_some, hgd, Option.isSome_some, Bool.true_and]
    by_cases hk : it.key = x.key
    · simp only [hk, ne_eq, not_true_eq_false, decide_false, Bool.false_eq_true, if_false]
      exact (findIdx_of_nodup hb.nodup hx ((sameKey_iff it x).mpr ⟨hxk.symm, hk⟩)).symm
    · simp only [ne_eq, hk, not_false_eq_true, decide_true, if_true]
      cases hc : AMap.get b.collisions it.khash with
      | none =>
        refine (findIdx_none fun y hy hs => hk ?_).symm
        rw [hs.2, hb.colNone _ hc y hy x hxm hs.1.symm hxk]
      | some keys =>
        simp only
        cases hkk : AMap.get keys it.key with
        | none =>
          refine (findIdx_none fun y hy hs => ?_).symm
          obtain ⟨j, hj⟩ := List.getElem?_of_mem hy
          have := hb.colCompl _ _ j y hc hj hs.1.symm
          rw [← hs.2, hkk] at this
          cases this
        | some i =>
          obtain ⟨y, hy, hyk, hykey⟩ := hb.colSound _ _ _ _ hc hkk
          exact (findIdx_of_nodup hb.nodup hy ((sameKey_iff it y).mpr ⟨hyk.symm, hykey.symm⟩)).symm

theorem set_items (cap : Nat) (b : Buf) (hb : BufInv b) (it : Item) (sz : Nat) :
    (b.set cap it sz).1.items = (slotSet cap b.items it).getD b.items ∧
    (b.set cap it sz).2 = (slotSet cap b.items it).isSome := by
  unfold Buf.set slotSet
  rw [slot_eq b hb it]
  cases b.items.findIdx? (sameKey it) with
  | none =>
    by_cases hc : b.items.length ≥ cap
    · simp [hc]
    · simp [hc, Buf.place]
  | some i => simp [Buf.place]

theorem set_maxoffset (cap : Nat) (b : Buf) (it : Item) (sz : Nat) :
    (b.set cap it sz).1.maxoffset =
      if (b.set cap it sz).2 then (if it.off + sz > b.maxoffset then it.off + sz else b.maxoffset)
      else (if it.off > b.maxoffset then it.off else b.maxoffset) := by
  unfold Buf.set
  cases b.slot it with
  | none =>
    by_cases hc : b.items.length ≥ cap
    · simp [hc]
    · simp [hc, Buf.place]
  | some i => simp [Buf.place]

theorem set_refused (cap : Nat) (b : Buf) (it : Item) (sz : Nat) (h : (b.set cap it sz).2 = false) :
    cap ≤ b.items.length ∧ (b.set cap it sz).1.items = b.items := by
  unfold Buf.set at h ⊢
  cases hs : b.slot it with
  | none =>
    rw [hs] at h
    by_cases hc : b.items.length ≥ cap
    · refine ⟨hc, ?_⟩
      simp only [if_pos hc]
    · simp [hc] at h
  | some i => rw [hs] at h; simp at h

theorem refused_nonempty (cap : Nat) (hcap : 1 ≤ cap) (b : Buf) (it : Item) (sz : Nat)
    (ha : (b.set cap it sz).2 = false) : (b.set cap it sz).1.items ≠ [] := by
  obtain ⟨hc, e⟩ := set_refused cap b it sz ha
  rw [e]
  intro he
  rw [he] at hc
  exact absurd hc (by show ¬ cap ≤ 0; omega)

/-- `items'` is `items` with `it` at `idx`, the slot of its key if it had one (replaced in place, or appended) -/
structure Upd (items items' : List Item) (idx : Nat) (it : Item) : Prop where
  self : items'[idx]? = some it
  other : ∀ j, j ≠ idx → items'[j]? = items[j]?
  diff : ∀ j z, j ≠ idx → items[j]? = some z → sameKey it z = false
  same : ∀ z, items[idx]? = some z → sameKey it z = true

theorem upd_replace {items : List Item} (h : NodupKey items) {i : Nat} {it : Item}
    (hf : items.findIdx? (sameKey it) = some i) : Upd items (items.set i it) i it := by
  rw [List.findIdx?_eq_some_iff_getElem] at hf
  obtain ⟨hil, hs, _⟩ := hf
  refine ⟨List.getElem?_set_self hil, fun j hj => List.getElem?_set_ne (Ne.symm hj), ?_, ?_⟩
  · intro j z hj hz
    cases hsz : sameKey it z with
    | false => rfl
    | true =>
      have : sameKey items[i] z = true := sameKey_trans (by rw [sameKey_comm]; exact hs) hsz
      have := nodup_unique h (List.getElem?_eq_getElem hil) hz this
      omega
  · intro z hz
    rw [List.getElem?_eq_getElem hil] at hz
    cases hz; exact hs

theorem upd_append {items : List Item} {it : Item}
    (hf : items.findIdx? (sameKey it) = none) : Upd items (items ++ [it]) items.length it := by
  rw [List.findIdx?_eq_none_iff] at hf
  refine ⟨by simp, ?_, ?_, ?_⟩
  · intro j hj
    by_cases hlt : j < items.length
    · exact List.getElem?_append_left hlt
    · have h1 : items[j]? = none := by rw [List.getElem?_eq_none_iff]; omega
      have h2 : (items ++ [it])[j]? = none := by
        rw [List.getElem?_eq_none_iff]; simp; omega
      rw [h1, h2]
  · intro j z _ hz
    have := hf z (List.mem_of_getElem? hz)
    simpa using this
  · intro z hz
    have : items[items.length]? = none := by rw [List.getElem?_eq_none_iff]; omega
    rw [this] at hz; cases hz

theorem upd_get {items items' : List Item} {idx : Nat} {it : Item} (u : Upd items items' idx it) {i : Nat} {x : Item}
    (h : items'[i]? = some x) : (i = idx ∧ x = it) ∨ (i ≠ idx ∧ items[i]? = some x ∧ sameKey it x = false) := by
  by_cases hi : i = idx
  · subst hi; rw [u.self] at h; cases h; exact Or.inl ⟨rfl, rfl⟩
  · rw [u.other i hi] at h; exact Or.inr ⟨hi, h, u.diff i x hi h⟩

theorem upd_mem {items items' : List Item} {idx : Nat} {it : Item} (u : Upd items items' idx it) {z : Item}
    (hz : z ∈ items') : z = it ∨ (z ∈ items ∧ sameKey it z = false) := by
  obtain ⟨j, hj⟩ := List.getElem?_of_mem hz
  exact (upd_get u hj).imp (·.2) fun ⟨_, h, hd⟩ => ⟨List.mem_of_getElem? h, hd⟩

theorem upd_nodup {items items' : List Item} {idx : Nat} {it : Item} (u : Upd items items' idx it)
    (h : NodupKey items) : NodupKey items' := by
  apply nodup_of_idx
  intro i j x y hi hj hs
  rcases upd_get u hi with ⟨rfl, rfl⟩ | ⟨_, hi', hix⟩ <;> rcases upd_get u hj with ⟨rfl, rfl⟩ | ⟨_, hj', hjy⟩
  · rfl
  · rw [hs] at hjy; cases hjy
  · rw [sameKey_comm, hs] at hix; cases hix
  · exact nodup_unique h hi' hj' hs

theorem amap_get_set {κ V : Type} [DecidableEq κ] (m : List (κ × V)) (k k' : κ) (v : V) :
    AMap.get (AMap.set m k v) k' = if k = k' then some v else AMap.get m k' := by
  split
  · next h => rw [← h, AMap.get_set_self]
  · next h => exact AMap.get_set_ne _ _ _ _ h

theorem colls1_inv (b : Buf) (hb : BufInv b) (it : Item) : Inv3 b.items b.index (b.colls1 it) := by
  unfold Buf.colls1
  by_cases hc : (b.isColl it && (AMap.get b.collisions it.khash).isNone) = true
  · simp only [hc, if_true]
    simp only [Bool.and_eq_true, Option.isNone_iff_eq_none] at hc
    obtain ⟨hcoll, hnone⟩ := hc
    unfold Buf.isColl at hcoll
    simp only [Bool.and_eq_true, decide_eq_true_eq] at hcoll
    obtain ⟨hsome, hne⟩ := hcoll
    obtain ⟨idx, hr⟩ := Option.isSome_iff_exists.mp hsome
    obtain ⟨x, hx, hxk⟩ := hb.idxSound _ _ hr
    have hxm : x ∈ b.items := List.mem_of_getElem? hx
    have hidx0 : b.idx0 it = idx := by unfold Buf.idx0; rw [hr]; rfl
    have hkey0 : b.key0 it = x.key := by
      unfold Buf.key0; rw [hidx0, List.getD_eq_getElem?_getD, hx]; rfl
    rw [hidx0, hkey0]
    refine ⟨hb.nodup, hb.idxSound, hb.idxCompl, ?_, ?_, ?_, ?_⟩
    · intro kh hn
      rw [amap_get_set] at hn
      split at hn
      · cases hn
      · exact hb.colNone kh hn
    · intro kh keys key i hg hgk
      rw [amap_get_set] at hg
      split at hg
      · next hk =>
        cases hg
        simp only [AMap.get] at hgk
        split at hgk
        · next hkk => cases hgk; exact ⟨x, hx, hxk.trans hk, hkk⟩
        · cases hgk
      · exact hb.colSound kh keys key i hg hgk
    · intro kh keys i y hg hy hyk
      rw [amap_get_set] at hg
      split at hg
      · next hk =>
        cases hg
        have hkeq : y.key = x.key :=
          hb.colNone _ hnone y (List.mem_of_getElem? hy) x hxm (hyk.trans hk.symm) hxk
        obtain rfl : i = idx :=
          nodup_unique hb.nodup hy hx ((sameKey_iff y x).mpr ⟨hyk.trans (hk.symm.trans hxk.symm), hkeq⟩)
        simp [AMap.get, hkeq]
      · exact hb.colCompl kh keys i y hg hy hyk
    · intro kh keys hg
      rw [amap_get_set] at hg
      split at hg
      · next hk => exact hk ▸ hsome
      · exact hb.colIdx kh keys hg
  · simp only [hc]
    exact hb

/-- `hc`: the collision map is left alone (the hash's slot held the same key, or the hash is new), or, on the collision
    path, the key's entry in the hash's collision map is set to the slot -/
theorem place_inv3 {items items' : List Item} {index : List (Nat × Nat)} {colls colls' : List (Nat × List (Key × Nat))}
    {idx : Nat} {it : Item} (h : Inv3 items index colls) (u : Upd items items' idx it)
    (hc : (colls' = colls ∧ (items[idx]? = none → AMap.get index it.khash = none)) ∨
      ∃ keys1, AMap.get colls it.khash = some keys1 ∧ colls' = AMap.set colls it.khash (AMap.set keys1 it.key idx)) :
    Inv3 items' (AMap.set index it.khash idx) colls' := by
  have hget : ∀ kh, it.khash ≠ kh → AMap.get colls' kh = AMap.get colls kh := by
    intro kh hk
    rcases hc with ⟨rfl, _⟩ | ⟨_, _, rfl⟩
    · rfl
    · exact AMap.get_set_ne _ _ _ _ hk
  have hslot : ∀ (kh i : Nat) (x : Item), it.khash ≠ kh → x.khash = kh → (items'[i]? = some x ↔ items[i]? = some x) := by
    intro kh i x hk hx
    by_cases hi : i = idx
    · subst hi
      rw [u.self]
      constructor
      · intro e; cases e; exact absurd hx hk
      · intro e; exact absurd (((sameKey_iff it x).mp (u.same x e)).1.trans hx) hk
    · rw [u.other i hi]
  refine ⟨upd_nodup u h.nodup, ?_, ?_, ?_, ?_, ?_, ?_⟩
  · intro kh i hg
    rw [amap_get_set] at hg
    split at hg
    · next hk => cases hg; exact ⟨it, u.self, hk⟩
    · next hk =>
      obtain ⟨x, hx, hxk⟩ := h.idxSound kh i hg
      exact ⟨x, (hslot kh i x hk hxk).mpr hx, hxk⟩
  · intro z hz
    rw [amap_get_set]
    split
    · rfl
    · next hk =>
      rcases upd_mem u hz with rfl | ⟨hzo, _⟩
      · exact absurd rfl hk
      · exact h.idxCompl z hzo
  · intro kh hn x hx y hy hxk hyk
    by_cases hk : it.khash = kh
    · subst hk
      rcases hc with ⟨rfl, hnew⟩ | ⟨_, _, rfl⟩
      · have hall : ∀ z ∈ items', z.khash = it.khash → z.key = it.key := by
          intro z hz hzk
          rcases upd_mem u hz with rfl | ⟨hzo, _⟩
          · rfl
          · cases hi : items[idx]? with
            | none =>
              have := h.idxCompl z hzo
              rw [hzk, hnew hi] at this; cases this
            | some y =>
              have hs := (sameKey_iff it y).mp (u.same y hi)
              rw [h.colNone _ hn z hzo y (List.mem_of_getElem? hi) hzk hs.1.symm, hs.2]
        exact (hall x hx hxk).trans (hall y hy hyk).symm
      · rw [AMap.get_set_self] at hn; cases hn
    · rw [hget kh hk] at hn
      obtain ⟨i, hi⟩ := List.getElem?_of_mem hx
      obtain ⟨j, hj⟩ := List.getElem?_of_mem hy
      exact h.colNone kh hn x (List.mem_of_getElem? ((hslot kh i x hk hxk).mp hi)) y
        (List.mem_of_getElem? ((hslot kh j y hk hyk).mp hj)) hxk hyk
  · intro kh keys key i hg hgk
    by_cases hk : it.khash = kh
    · subst hk
      have hold : ∀ keys0, AMap.get colls it.khash = some keys0 → AMap.get keys0 key = some i →
          ∃ x, items'[i]? = some x ∧ x.khash = it.khash ∧ x.key = key := by
        intro keys0 h0 h1
        obtain ⟨x, hx, hxk, hxkey⟩ := h.colSound _ keys0 key i h0 h1
        by_cases hi : i = idx
        · subst hi
          exact ⟨it, u.self, rfl, ((sameKey_iff it x).mp (u.same x hx)).2.trans hxkey⟩
        · exact ⟨x, by rw [u.other i hi]; exact hx, hxk, hxkey⟩
      rcases hc with ⟨rfl, _⟩ | ⟨keys1, hk1, rfl⟩
      · exact hold keys hg hgk
      · rw [AMap.get_set_self] at hg
        cases hg
        rw [amap_get_set] at hgk
        split at hgk
        · next hkk => cases hgk; exact ⟨it, u.self, rfl, hkk⟩
        · exact hold keys1 hk1 hgk
    · rw [hget kh hk] at hg
      obtain ⟨x, hx, hxk, hxkey⟩ := h.colSound kh keys key i hg hgk
      exact ⟨x, (hslot kh i x hk hxk).mpr hx, hxk, hxkey⟩
  · intro kh keys i x hg hx hxk
    by_cases hk : it.khash = kh
    · subst hk
      rcases hc with ⟨rfl, hnew⟩ | ⟨keys1, hk1, rfl⟩
      · rcases upd_get u hx with ⟨rfl, rfl⟩ | ⟨_, hx', _⟩
        · cases hio : items[i]? with
          | none =>
            have := h.colIdx _ keys hg
            rw [hnew hio] at this; cases this
          | some y =>
            have hs := (sameKey_iff x y).mp (u.same y hio)
            rw [hs.2]; exact h.colCompl _ keys i y hg hio hs.1.symm
        · exact h.colCompl _ keys i x hg hx' hxk
      · rw [AMap.get_set_self] at hg
        cases hg
        rcases upd_get u hx with ⟨rfl, rfl⟩ | ⟨_, hx', hd⟩
        · exact AMap.get_set_self _ _ _
        · have hkk : it.key ≠ x.key := fun e => by
            rw [(sameKey_iff it x).mpr ⟨hxk.symm, e⟩] at hd; cases hd
          rw [AMap.get_set_ne _ _ _ _ hkk]
          exact h.colCompl _ keys1 i x hk1 hx' hxk
    · rw [hget kh hk] at hg
      exact h.colCompl kh keys i x hg ((hslot kh i x hk hxk).mp hx) hxk
  · intro kh keys hg
    rw [amap_get_set]
    split
    · rfl
    · next hk => exact h.colIdx kh keys (hget kh hk ▸ hg)

theorem colls1_some (b : Buf) (it : Item) (hc : b.isColl it = true) :
    ∃ keys1, AMap.get (b.colls1 it) it.khash = some keys1 := by
  unfold Buf.colls1
  cases hg : AMap.get b.collisions it.khash with
  | none => simp [hc]
  | some keys => simp [hc, hg]

theorem place_inv (b : Buf) (hb : BufInv b) (it : Item) (sz idx : Nat) (items' : List Item)
    (u : Upd b.items items' idx it) (hnew : b.items[idx]? = none → b.slot it = none) :
    BufInv (b.place it sz idx items') := by
  unfold BufInv Buf.place
  apply place_inv3 (colls1_inv b hb it) u
  by_cases hc : b.isColl it = true
  · obtain ⟨keys1, hk1⟩ := colls1_some b it hc
    exact Or.inr ⟨keys1, hk1, by simp only [hc, if_true, hk1, Option.getD_some]⟩
  · refine Or.inl ⟨by simp only [hc]; rfl, fun hi => ?_⟩
    have := hnew hi
    unfold Buf.slot at this
    simpa [hc] using this

theorem set_inv (cap : Nat) (b : Buf) (hb : BufInv b) (it : Item) (sz : Nat) : BufInv (b.set cap it sz).1 := by
  have hs := slot_eq b hb it
  unfold Buf.set
  cases hf : b.items.findIdx? (sameKey it) with
  | none =>
    rw [hf] at hs
    rw [hs]
    by_cases hc : b.items.length ≥ cap
    · simp only [hc, if_true]
      exact colls1_inv b hb it
    · simp only [hc, if_false]
      exact place_inv b hb it sz _ _ (upd_append hf) (fun _ => hs)
  | some i =>
    rw [hf] at hs
    rw [hs]
    simp only
    apply place_inv b hb it sz _ _ (upd_replace hb.nodup hf)
    intro hi
    rw [List.findIdx?_eq_some_iff_getElem] at hf
    obtain ⟨hil, _⟩ := hf
    rw [List.getElem?_eq_none_iff] at hi
    omega

end HintBufferLemmas
