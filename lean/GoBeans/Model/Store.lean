/-
  L1 — one bucket as a record-level state machine (hand-written model of store/bucket.go,
  data.go, datachunk.go, htree.go as far as single-client behaviour goes).

  * a chunk (data file) is the list of its records with their offsets; a prefix of it is on
    disk (`flushed`), the rest is in the write buffer;
  * the tree maps a key HASH to (position, version, value hash) — one slot per hash, as in the code;
  * `hash` is a parameter: the real key hash for C01, an arbitrary function for C13;
  * compression is abstracted to its only store-level effect, the on-disk size of the record
    (`size`, an input), and the logical body/flag a read returns (C10 carries the codec);
  * version arithmetic and value hash are the REGENERATED kernels (`Gen.checkAndUpdateVerison`,
    `Gen.Getvhash`).
  Core-only (linked into the driver).
-/
import GoBeans.Gen.Kernels
import GoBeans.Spec.KV

namespace Store
open Spec (Key Reply)

structure Rec where
  key  : Key
  ver  : Int
  flag : Nat
  ts   : Option Nat
  body : Bytes
  size : Nat            -- padded on-disk size (multiple of 256)
  wts  : Nat := 0       -- timestamp actually stored in the record (= ts for set; server clock for delete/incr);
                        -- only GC's age test on the first record of a file looks at it
deriving DecidableEq, Repr, Inhabited

structure Pos where
  chunk : Nat
  off   : Nat
deriving DecidableEq, Repr, Inhabited

structure TItem where
  pos   : Pos
  ver   : Int
  vhash : Nat
deriving DecidableEq, Repr, Inhabited

structure Chunk where
  recs    : List (Nat × Rec) := []    -- (offset, record), offset order
  flushed : Nat := 0                   -- how many of them are on disk
  size    : Nat := 0                   -- writing head
  created : Bool := false              -- the file exists although it may hold no record (rotation away from an empty head)
deriving Repr, Inhabited

structure Cfg where
  dataFileMax : Nat := 4194304000
  checkVHash  : Bool := false
  bodyMax     : Nat := 52428800         -- MCConf.BodyMax (GC destination test)
  noGCDays    : Int := 0
deriving Repr, Inhabited

structure Bucket where
  chunks : Nat → Chunk := fun _ => {}    -- data files by id (total function: absent file = empty chunk)
  head   : Nat := 0                       -- the file receiving appends; files above it are empty
  tree   : List (Nat × TItem) := []
  nextGC : Nat := 0                       -- nextgc.txt: where an unqualified GC request starts
deriving Inhabited

def vhashOf (body : Bytes) : Nat := (Gen.Getvhash body).toNat

/-- `checkAndUpdateVerison` on the model's `Int` versions (through the regenerated Int32 code) -/
def nextVer (oldv rev : Int) : Int × Bool :=
  let (v, ok) := Gen.checkAndUpdateVerison (Int32.ofInt oldv) (Int32.ofInt rev)
  (v.toInt, ok)

def Bucket.chunk (b : Bucket) (i : Nat) : Chunk := b.chunks i

def Bucket.setChunk (b : Bucket) (i : Nat) (c : Chunk) : Bucket :=
  { b with chunks := fun j => if j = i then c else b.chunks j }

/-- the data files in id order, up to and including the head -/
def Bucket.chunkList (b : Bucket) : List Chunk := (List.range (b.head + 1)).map b.chunks

def Chunk.find (c : Chunk) (off : Nat) : Option Rec :=
  (c.recs.find? (fun p => p.1 = off)).map (·.2)

/-- `dataStore.GetRecordByPos`: buffer or file, the record that starts at that offset -/
def Bucket.readAt (b : Bucket) (p : Pos) : Option Rec := (b.chunk p.chunk).find p.off

/-- where the next record of on-disk size `sz` goes: (file, offset, rotated?) -/
def Bucket.slot (cfg : Cfg) (b : Bucket) (sz : Nat) : Nat × Nat × Bool :=
  if (b.chunks b.head).size + sz > cfg.dataFileMax then (b.head + 1, 0, true) else (b.head, (b.chunks b.head).size, false)

/-- rotation away from the head file: it is flushed by the post-rotation flush (which has completed
    before the next command in single-client runs) and exists from then on, even if empty -/
def Bucket.sealHead (b : Bucket) : Bucket :=
  b.setChunk b.head { b.chunks b.head with flushed := (b.chunks b.head).recs.length, created := true }

def Bucket.pushRec (b : Bucket) (ck off : Nat) (r : Rec) : Bucket :=
  { b.setChunk ck { b.chunks ck with recs := (b.chunks ck).recs ++ [(off, r)], size := off + r.size } with head := ck }

/-- `dataStore.AppendRecord`: rotate when the record does not fit -/
def Bucket.append (cfg : Cfg) (b : Bucket) (r : Rec) : Bucket × Pos :=
  let (ck, off, rot) := b.slot cfg r.size
  ((if rot then b.sealHead else b).pushRec ck off r, { chunk := ck, off := off })

inductive GetResult
  | miss
  | found (r : Rec) (it : TItem)          -- record at the tree position carries the wanted key
  | broken                                 -- tree points at nothing readable
  | otherKey (r : Rec) (it : TItem)       -- equal hash, different key (collision path, C13)
deriving Repr

/-- `Bucket.get(ki, memOnly=false)` for a non-colliding key -/
def Bucket.lookup (hash : Key → Nat) (b : Bucket) (k : Key) : GetResult :=
  match AMap.get b.tree (hash k) with
  | none => .miss
  | some it =>
    match b.readAt it.pos with
    | none => .broken
    | some r => if r.key = k then .found r it else .otherKey r it

/-- `Bucket.set`: append → tree set (→ hint set, not observable here) -/
def Bucket.put (hash : Key → Nat) (cfg : Cfg) (b : Bucket) (r : Rec) : Bucket × Pos :=
  let (b, pos) := b.append cfg r
  ({ b with tree := AMap.set b.tree (hash r.key) { pos := pos, ver := r.ver, vhash := if r.ver > 0 then vhashOf r.body else 0 } }, pos)

inductive Op
  | set (k : Key) (body : Bytes) (flag : Nat) (rev : Int) (ts : Nat) (size : Nat)
  | delete (k : Key) (size : Nat) (wts : Nat)
  | incr (k : Key) (delta : Int) (size : Nat) (wts : Nat)
  | get (k : Key)
  | info (k : Key)
  | flush
  | reopen (keepTree : Bool)
deriving Repr

/-- all records of the bucket in (file, offset) order, with their positions -/
def Bucket.log (b : Bucket) : List (Pos × Rec) :=
  (List.range (b.head + 1)).flatMap (fun i => (b.chunks i).recs.map (fun p => (({ chunk := i, off := p.1 } : Pos), p.2)))

/-- one step of rebuilding the tree from the data (through hints): a live record sets its key's slot,
    a tombstone removes it -/
def replayStep (hash : Key → Nat) (t : List (Nat × TItem)) (p : Pos × Rec) : List (Nat × TItem) :=
  if p.2.ver > 0 then AMap.set t (hash p.2.key) { pos := p.1, ver := p.2.ver, vhash := vhashOf p.2.body }
  else AMap.erase t (hash p.2.key)

/-- replay of all records in (file, offset) order: later record of a key wins, `ver < 0` removes -/
def replayTree (hash : Key → Nat) (log : List (Pos × Rec)) : List (Nat × TItem) :=
  log.foldl (replayStep hash) []

def lastNonEmpty (chunks : List Chunk) : Option Nat :=
  let rec go (i : Nat) (cs : List Chunk) (best : Option Nat) : Option Nat :=
    match cs with
    | [] => best
    | c :: rest => go (i + 1) rest (if c.size > 0 ∨ c.created then some i else best)
  go 0 chunks none

inductive CasResult
  | done (pos : Option Pos)      -- accepted (written at pos) or silently not written
  | notFound
deriving Repr

/-- `Bucket.checkAndSet` (set: rev ≥ 0 with a body; delete: rev = -1, empty body) -/
def checkAndSet (hash : Key → Nat) (cfg : Cfg) (b : Bucket) (k : Key) (body : Bytes) (flag : Nat) (rev : Int)
    (ts : Option Nat) (size : Nat) (wts : Nat) : Bucket × CasResult :=
  -- the value hash is only computed for Ver >= 0 (a delete request carries 0)
  let vh := if rev ≥ 0 then vhashOf body else 0
  let write := fun (v : Int) =>
    let p := b.put hash cfg { key := k, ver := v, flag := flag, ts := ts, body := body, size := size, wts := wts }
    (p.1, CasResult.done (some p.2))
  match AMap.get b.tree (hash k) with
  | none =>
    if (nextVer 0 rev).2 = false then (b, .done none)
    else if (nextVer 0 rev).1 < 0 then (b, .notFound)              -- Ver < 0 && payload == nil
    else write (nextVer 0 rev).1
  | some it =>
    if (it.ver > 0 ∧ vh = it.vhash) ∧ cfg.checkVHash = true then
      -- "not really set if vhash is the same"; an explicit revision replaces the tree version only
      (if rev ≠ 0 then { b with tree := AMap.set b.tree (hash k) { it with ver := rev, vhash := vh } } else b, .done none)
    else if (nextVer it.ver rev).2 = false then (b, .done none)
    else if (nextVer it.ver rev).1 < 0 ∧ it.ver < 0 then (b, .notFound)   -- Ver < 0 && oldv < 0
    else write (nextVer it.ver rev).1

def step (hash : Key → Nat) (cfg : Cfg) (b : Bucket) : Op → Bucket × Reply × Option Pos
  | .set k body flag rev ts size =>
    match checkAndSet hash cfg b k body flag rev (some ts) size ts with
    | (b', .done pos) => (b', .stored, pos)
    | (b', .notFound) => (b', .error, none)
  | .delete k size wts =>
    match checkAndSet hash cfg b k [] 0 (-1) none size wts with
    | (b', .done pos) => (b', .deleted, pos)
    | (b', .notFound) => (b', .notFound, none)
  | .incr k delta size wts =>
    let write := fun (ver : Int) (v : Int) =>
      let (b', pos) := b.put hash cfg { key := k, ver := ver, flag := Spec.FLAG_INCR, ts := none, body := Spec.itoa v, size := size, wts := wts }
      (b', Reply.num v, some pos)
    match b.lookup hash k with
    | .miss => write 1 delta
    | .broken => (b, .num 0, none)
    | .otherKey _ _ => (b, .error, none)
    | .found r it =>
      if it.ver < 0 then write 1 delta
      else if r.flag ≠ Spec.FLAG_INCR then (b, .num 0, none)
      else if r.body.length > 22 then (b, .num 0, none)
      else match Spec.parseInt r.body with
        | none => (b, .num 0, none)
        | some old => write (it.ver + 1) (Spec.wrap64 (old + delta))
  | .get k =>
    match b.lookup hash k with
    | .miss => (b, .miss, none)
    | .broken => (b, .error, none)
    | .otherKey _ _ => (b, .error, none)
    | .found r it => if it.ver > 0 then (b, .value r.flag r.body, some it.pos) else (b, .miss, some it.pos)
  | .info k =>
    match b.lookup hash k with
    | .miss => (b, .miss, none)
    | .broken => (b, .error, none)
    | .otherKey _ _ => (b, .error, none)
    | .found r it => (b, .info it.ver (if it.ver > 0 then vhashOf r.body else 0) r.flag r.body.length r.ts, some it.pos)
  | .flush =>
    let c := b.chunk b.head
    (b.setChunk b.head { c with flushed := c.recs.length }, .stored, none)
  | .reopen keepTree =>
    -- close: flush every data file, dump hints and tree; open: a new process appends to a new file
    let chunks := fun i => { b.chunks i with flushed := (b.chunks i).recs.length }
    let cl := (List.range (b.head + 1)).map chunks
    let head := match lastNonEmpty cl with | some i => i + 1 | none => 0
    let tree := if keepTree then b.tree else replayTree hash b.log
    ({ chunks := chunks, head := head, tree := tree, nextGC := b.nextGC }, .stored, none)

end Store

namespace Store
open Spec (Key Reply)

/-- the client command an operation stands for (flush / reopen are not client commands) -/
def cmdOf : Op → Option Spec.Cmd
  | .set k body flag rev ts _ => some (.set k body flag rev ts)
  | .delete k _ _ => some (.delete k)
  | .incr k d _ _ => some (.incr k d)
  | .get k => some (.get k)
  | .info k => some (.info k)
  | .flush => none
  | .reopen _ => none

/-- run a history; collect the replies to client commands -/
def run (hash : Key → Nat) (cfg : Cfg) : Bucket → List Op → Bucket × List Reply
  | b, [] => (b, [])
  | b, op :: ops =>
    let (b', r, _) := step hash cfg b op
    let (b'', rs) := run hash cfg b' ops
    (b'', match cmdOf op with | some _ => r :: rs | none => rs)

end Store
