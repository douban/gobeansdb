/-
  Executable definitions of the LOG VIEW used by the C02/C03/C18 theorems and, on every run, by the driver
  (as oracles / model-internal ties): last record of a key, live record, relocation, GC's keep decision,
  the abstract pass.  Core-only; proofs about them live in GoBeans/Lemmas/Log.lean and GCLog.lean.
-/
import GoBeans.Model.Store

namespace StoreLemmas
open Store Spec

/-- the last record of key `k` in a log -/
def lastOf (k : Key) (l : List (Pos × Rec)) : Option (Pos × Rec) := (l.filter (fun p => p.2.key = k)).getLast?

/-- what a key reads: the live part of its last record (content only; relocation changes positions) -/
def liveRec (k : Key) (l : List (Pos × Rec)) : Option Rec :=
  (lastOf k l).bind (fun x => if x.2.ver > 0 then some x.2 else none)

/-- relocation keeps the record, changes the position -/
def relocate (f : Pos → Pos) (l : List (Pos × Rec)) : List (Pos × Rec) := l.map (fun x => (f x.1, x.2))

/-- GC's per-record decision on a quiescent bucket with non-colliding keys:
    a key the tree knows → keep exactly the record the tree points at (= the last record of the key);
    a key the tree does not know → keep only tombstones, and only if the range does not start at file 0 -/
def gcKeep (hasEntry : Key → Bool) (beginPos : Bool) (full : List (Pos × Rec)) (x : Pos × Rec) : Bool :=
  if hasEntry x.2.key then lastOf x.2.key full == some x else (beginPos && decide (x.2.ver < 0))

/-- the abstract pass on a bucket state: range = files begin..stop -/
def gcAbstract (hash : Key → Nat) (b : Bucket) (begin stop : Nat) : List Rec :=
  let full := b.log
  let hasEntry := fun k => (AMap.get b.tree (hash k)).isSome
  let inRange := fun (x : Pos × Rec) => decide (begin ≤ x.1.chunk) && decide (x.1.chunk ≤ stop)
  (full.filter (fun x => !inRange x || gcKeep hasEntry (decide (begin > 0)) full x)).map (·.2)
end StoreLemmas
