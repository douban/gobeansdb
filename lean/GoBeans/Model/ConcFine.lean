/-
  Fine-grained interleaving model of ONE bucket under concurrent clients and flushers (C04).

  `Model/Conc.lean` states the property on an ATOMIC per-key register.  This file models what the code really
  does between two lock operations: every thread is a small program of atomic MICRO-STEPS, one per critical
  section of the Go code, and a scheduler picks any enabled thread's next micro-step.

  Go code modelled (line numbers of /repo/store at the verified revision):
    bucket.go    checkAndSet 349-401, set 403-412, get 414-460, checkAndUpdateVerison 332-347
    data.go      dataStore.AppendRecord 65-98, dataStore.flush 100-144, GetRecordByPos 162-164, GetStreamWriter 200-233
    datachunk.go dataChunk.AppendRecord 46-55, getDiskFileSize 82-87, dataChunk.flush 89-122,
                 GetRecordByOffsetInBuffer 124-150, GetRecordByOffset 152-171
    htree.go     set/setReq 288-302, get/getReq 338-355   (one tree lock per call)

  Locks:  bkt.writeLock (held over the whole checkAndSet), ds.Mutex (`dsLock`: held over the whole
  dataStore.AppendRecord, and twice briefly by dataStore.flush), ds.flushLock (held over one whole flush),
  dataChunk.Mutex and HTree.Mutex (`[dc]`, `[tree]`: only ever held for the duration of one micro-step, so they
  do not appear as state: a micro-step marked [dc]/[tree] IS that critical section).

  Micro-steps (one constructor of `PC` = the next micro-step the thread will take):
    writer (set / delete) = checkAndSet:
        wLock      bkt.writeLock.Lock()
        wGet       bkt.get(ki, memOnly=true) = htree.get [tree]; checkAndUpdateVerison; NOT_FOUND test
                   (a rejected delete is linearised HERE)
        wSlot      ds.Lock(); read ds.newHead and chunks[newHead].writingHead (NOT under [dc]); rotation test:
                   newHead++ (and `go ds.flush(newHead-1, true)`: any thread may start a flush at any time)
        wAppend    dataChunk.AppendRecord [dc]: wbuf = append(wbuf, wrec); writingHead += size; size = writingHead
        wDsUnlock  ds.wbufSize += size; ds.Unlock()
        wTreeSet   htree.set [tree]                      <- LINEARISATION POINT of an accepted write
        wUnlock    deferred bkt.writeLock.Unlock()       <- response
    reader (get) = Bucket.get(ki, memOnly=false):
        rGet       htree.get [tree]                      <- LINEARISATION POINT of a read
        rBuf       GetRecordByOffsetInBuffer [dc]: buffer test, sort.Search, COPY under the lock
        rFile      readRecordAtPath (no lock) — only if the buffer test said "not buffered"
        rRet       return for a key the tree does not hold
    flusher = dataStore.flush(chunk, force):
        fPre       unlocked `if ds.wbufSize == 0 { return }`
        fLock      ds.flushLock.Lock()
        fDs1       [ds] wbufSize == 0 / not-due tests; chunk<0 => chunk = newHead; lastFlushTime
        fOpen      GetStreamWriter: w.offset = current length of the file
        fCheck     w.offset != getDiskFileSize()  => Fatalf   (reads dc.wbuf / dc.size WITHOUT [dc])
        fCount     [dc] n = len(wbuf)
        fFetch     [dc] wrec = wbuf[i]           (or, when i = n: w.wbuf.Flush() and go on to the detach)
        fWrite     w.append(wrec)  — the file write, OUTSIDE every lock except flushLock
        fDetach    [dc] wbuf = wbuf[n:]          (only AFTER all n records are in the file)
        fDs2       [ds] wbufSize -= nflushed
        fUnlock    w.Close(); deferred flushLock.Unlock()

  Units: offsets and sizes are counted in blocks of PADDING = 256 bytes; a record occupies `sz + 1` blocks.
  Values are identified by a number (0 = no live value / the empty body of a delete marker), as in Model/Conc.lean.
  The recorded history (`hist`): an entry is created at the linearisation micro-step (where the harness takes the
  version) and completed — response time and the value ACTUALLY returned — by the thread's last micro-step.
  Core-only, executable.
-/
import GoBeans.Model.Conc

namespace ConcFine
open Conc (AOp Out Ev Reg)

structure Cfg where
  dataFileMax : Nat := 16        -- Conf.DataFileMax (blocks)
  flushBig : Nat := 4096         -- the literal 1<<20 of dataStore.flush (bytes) = 4096 blocks
deriving Repr

structure Pos where              -- store.Position
  chunk : Nat
  off : Nat
deriving DecidableEq, Repr

structure Item where             -- HTreeItem: Ver, Pos (value hash not modelled)
  ver : Int
  pos : Pos
deriving DecidableEq, Repr

/-- a WriteRecord: key, Payload.Ver, the value (by id), `pos.Offset` and `Payload.RecSize`.
    In `Chunk.file` the field `off` is where the record ACTUALLY starts in the file. -/
structure Rec where
  key : Nat
  ver : Int
  val : Nat
  off : Nat
  size : Nat
deriving DecidableEq, Repr

/-- one dataChunk and its data file -/
structure Chunk where
  file : List Rec := []          -- the records in <chunk>.data in file order
  fsize : Nat := 0               -- length of the file (os.Stat / Seek(0, SeekEnd))
  wbuf : List Rec := []          -- dataChunk.wbuf
  writingHead : Nat := 0
  size : Nat := 0
deriving Repr

/-- `Bucket.checkAndUpdateVerison` (bucket.go:332-347) on unbounded integers (no int32 wrap-around) -/
def checkAndUpdateVersion (oldv ver : Int) : Int × Bool :=
  if ver = 0 then (if oldv ≥ 0 then oldv + 1 else -oldv + 1, true)
  else if ver < 0 then (-(oldv.natAbs : Int) - 1, true)
  else if ver.natAbs ≤ oldv.natAbs then (1, false)
  else (ver, true)

/-- the loop of Go's `sort.Search` (fuel = n is ample: the interval halves) -/
def searchAux (f : Nat → Bool) : Nat → Nat → Nat → Nat
  | 0, i, _ => i
  | fuel + 1, i, j =>
    if i < j then
      let h := (i + j) / 2
      if !f h then searchAux f fuel (h + 1) j else searchAux f fuel i h
    else i

/-- `sort.Search(n, f)` -/
def sortSearch (n : Nat) (f : Nat → Bool) : Nat := searchAux f n 0 n

inductive BufRes
  | miss                 -- (nil, nil): not in the buffer, go to the file
  | found (r : Rec)      -- a copy of the buffered record
  | err                  -- "rec should in buffer, but not" / index beyond the buffer
deriving DecidableEq, Repr

def offAt (l : List Rec) (i : Nat) : Nat := match l[i]? with | some r => r.off | none => 0

/-- `dataChunk.GetRecordByOffsetInBuffer` (datachunk.go:124-150), one critical section of the chunk lock -/
def bufLookup (ch : Chunk) (off : Nat) : BufRes :=
  match ch.wbuf with
  | [] => .miss                                                         -- n == 0
  | r0 :: _ =>
    if off < r0.off ∨ off ≥ ch.writingHead then .miss
    else
      let n := ch.wbuf.length
      let idx := sortSearch n (fun i => decide (offAt ch.wbuf i ≥ off))
      if idx ≥ n then .err
      else match ch.wbuf[idx]? with
        | some r => if r.off = off then .found r else .err
        | none => .err

/-- `readRecordAtPath(path, offset)`: the record that starts at that offset of the file (none: EOF / garbage) -/
def fileLookup (ch : Chunk) (off : Nat) : Option Rec := ch.file.find? (fun r => decide (r.off = off))

/-- `dataChunk.GetRecordByOffset` run in ONE go (buffer, else file); the reader thread does it in two micro-steps -/
def lookup (ch : Chunk) (off : Nat) : Option Rec :=
  match bufLookup ch off with
  | .found r => some r
  | .err => none
  | .miss => fileLookup ch off

/-- `dataChunk.getDiskFileSize` (datachunk.go:82-87) -/
def diskFileSize (ch : Chunk) : Nat :=
  match ch.wbuf with
  | r0 :: _ => r0.off
  | [] => ch.size

/-- the arguments of one `checkAndSet`: key, value id (0 for a delete), payload blocks, delete? (Ver = -1 : 0) -/
structure WReq where
  key : Nat
  val : Nat
  sz : Nat
  del : Bool
deriving DecidableEq, Repr

def WReq.aop (q : WReq) : AOp := if q.del then .delete else .write q.val
def WReq.rev (q : WReq) : Int := if q.del then -1 else 0
def WReq.toRec (q : WReq) (ver : Int) (off : Nat) : Rec := { key := q.key, ver := ver, val := q.val, off := off, size := q.sz + 1 }

/-- program counter + locals of a thread -/
inductive PC
  | idle
  | wLock (q : WReq)
  | wGet (q : WReq)
  | wSlot (q : WReq) (ver : Int)
  | wAppend (q : WReq) (ver : Int) (pos : Pos)
  | wDsUnlock (q : WReq) (ver : Int) (pos : Pos)
  | wTreeSet (q : WReq) (ver : Int) (pos : Pos)
  | wUnlock (key : Nat) (out : Out)
  | rGet (key : Nat)
  | rBuf (key : Nat) (it : Item)
  | rFile (key : Nat) (it : Item)
  | rRet (key : Nat)
  | fPre (chunk : Option Nat) (force late : Bool)
  | fLock (chunk : Option Nat) (force late : Bool)
  | fDs1 (chunk : Option Nat) (force late : Bool)
  | fOpen (c : Nat)
  | fCheck (c woff : Nat)
  | fCount (c woff : Nat)
  | fFetch (c woff n i fl : Nat)
  | fWrite (c woff n i fl : Nat) (r : Rec)
  | fDetach (c n fl : Nat)
  | fDs2 (fl : Nat)
  | fUnlock
deriving Repr

structure Thread where
  pc : PC := .idle
  inv : Nat := 0                 -- time of the invocation of the running operation
deriving Repr

/-- one entry of the recorded history -/
structure HEv where
  tid : Nat
  key : Nat
  done : Bool                    -- false: linearised, not yet returned (`ev.resp` not yet meaningful)
  ev : Ev
deriving DecidableEq, Repr

structure State where
  tree : Nat → Option Item := fun _ => none      -- bkt.htree: key ↦ item
  chunks : Nat → Chunk := fun _ => {}            -- ds.chunks
  newHead : Nat := 0                             -- ds.newHead
  wbufSize : Nat := 0                            -- ds.wbufSize
  writeLock : Option Nat := none                 -- owner of bkt.writeLock
  dsLock : Option Nat := none                    -- owner of ds.Mutex
  flushLock : Option Nat := none                 -- owner of ds.flushLock
  thr : Nat → Thread := fun _ => {}
  clock : Nat := 1                               -- number of enabled scheduler decisions taken + 1
  hist : List HEv := []
  fatal : Bool := false                          -- logger.Fatalf (os.Exit) or a Go panic in the flusher
  readErr : Bool := false                        -- some get returned an error ("bad htree item …", read failure)

def State.goto (s : State) (t : Nat) (pc : PC) : State :=
  { s with thr := fun u => if u = t then { s.thr u with pc := pc } else s.thr u }

def State.setChunk (s : State) (c : Nat) (ch : Chunk) : State :=
  { s with chunks := fun d => if d = c then ch else s.chunks d }

/-- a new history entry of thread `t`, at its linearisation micro-step -/
def State.log (s : State) (t key : Nat) (op : AOp) (out : Out) : State :=
  { s with hist := s.hist ++ [{ tid := t, key := key, done := false,
                                ev := { op := op, inv := (s.thr t).inv, resp := 0, out := out, lin := s.clock } }] }

def complete (t now : Nat) (out : Out) (e : HEv) : HEv :=
  if e.tid = t ∧ e.done = false then { e with done := true, ev := { e.ev with resp := now, out := out } } else e

/-- the response of thread `t`: its open entry gets the response time and the value actually returned -/
def State.respond (s : State) (t : Nat) (out : Out) : State :=
  { s with hist := s.hist.map (complete t s.clock out) }

/-- the register the bucket implements for key `k`: |version| of the tree item and the value of the record the
    item points at, as `GetRecordByOffset` would deliver it now -/
def absReg (s : State) (k : Nat) : Reg :=
  match s.tree k with
  | none => {}
  | some it => { ver := it.ver.natAbs,
                 val := match lookup (s.chunks it.pos.chunk) it.pos.off with | some r => r.val | none => 0 }

/-- `oldv` of checkAndSet: the version of the tree item, 0 for a key the tree does not hold (bucket.go:367-374) -/
def oldVer (s : State) (k : Nat) : Int :=
  match s.tree k with
  | some it => it.ver
  | none => 0

/-- end of `Bucket.get`: key comparison (bucket.go:451).  What the get returns: the value of the record read, with
    the version of the tree item (`payload.Ver = meta.Ver`); the collision / "bad htree item" / read-failure paths
    end in an error (recorded in `readErr`, the history entry gets the dummy `got 0 0`). -/
def readOut (k : Nat) (it : Item) : Option Rec → Out
  | some r => if r.key = k then .got r.val it.ver.natAbs else .got 0 0
  | none => .got 0 0

def readBad (k : Nat) : Option Rec → Bool
  | some r => decide (r.key ≠ k)
  | none => true

def State.readDone (s : State) (t k : Nat) (it : Item) (r : Option Rec) : State :=
  ({ s with readErr := s.readErr || readBad k r }.respond t (readOut k it r)).goto t .idle

/-- the next micro-step of thread `t` (none: not enabled — idle, or the lock it needs is held) -/
def micro (cfg : Cfg) (s : State) (t : Nat) : Option State :=
  match (s.thr t).pc with
  | .idle => none
  -- checkAndSet ------------------------------------------------------------------------------------------------
  | .wLock q =>                                                  -- bucket.go:358
    if s.writeLock = none then some ({ s with writeLock := some t }.goto t (.wGet q)) else none
  | .wGet q =>                                                   -- bucket.go:367-396 (CheckVHash = false)
    let nv := (checkAndUpdateVersion (oldVer s q.key) q.rev).1   -- htree.get [tree]; valid = true for Ver ∈ {0, -1}
    if nv < 0 ∧ (s.tree q.key = none ∨ oldVer s q.key < 0) then  -- NOT_FOUND: payload == nil || oldv < 0
      some ((s.log t q.key q.aop .rej).goto t (.wUnlock q.key .rej))
    else some (s.goto t (.wSlot q nv))
  | .wSlot q ver =>                                              -- data.go:72-84
    if s.dsLock = none then
      let size := q.sz + 1
      let cur := (s.chunks s.newHead).writingHead
      if cur + size > cfg.dataFileMax then
        some ({ s with dsLock := some t, newHead := s.newHead + 1 }.goto t (.wAppend q ver ⟨s.newHead + 1, 0⟩))
      else some ({ s with dsLock := some t }.goto t (.wAppend q ver ⟨s.newHead, cur⟩))
    else none
  | .wAppend q ver pos =>                                        -- data.go:85 → datachunk.go:46-55 [dc]
    let ch := s.chunks s.newHead
    let wh := ch.writingHead + (q.sz + 1)
    some ((s.setChunk s.newHead { ch with wbuf := ch.wbuf ++ [q.toRec ver pos.off], writingHead := wh, size := wh }).goto t
            (.wDsUnlock q ver pos))
  | .wDsUnlock q ver pos =>                                      -- data.go:86-96
    some ({ s with wbufSize := s.wbufSize + (q.sz + 1), dsLock := none }.goto t (.wTreeSet q ver pos))
  | .wTreeSet q ver pos =>                                       -- bucket.go:409 htree.set [tree]; 399 cas.done
    some (({ s with tree := fun k => if k = q.key then some ⟨ver, pos⟩ else s.tree k }.log t q.key q.aop
            (.acc ver.natAbs)).goto t (.wUnlock q.key (.acc ver.natAbs)))
  | .wUnlock _ out =>                                            -- bucket.go:361
    some (({ s with writeLock := none }.respond t out).goto t .idle)
  -- Bucket.get ---------------------------------------------------------------------------------------------------
  | .rGet k =>                                                   -- bucket.go:419 htree.get [tree]
    match s.tree k with
    | none => some ((s.log t k .read (.got 0 0)).goto t (.rRet k))
    | some it => some ((s.log t k .read (.got (absReg s k).val (absReg s k).ver)).goto t (.rBuf k it))
  | .rRet _ => some ((s.respond t (.got 0 0)).goto t .idle)      -- bucket.go:420-422
  | .rBuf k it =>                                                -- datachunk.go:153 [dc]
    match bufLookup (s.chunks it.pos.chunk) it.pos.off with
    | .found r => some (s.readDone t k it (some r))
    | .err => some (s.readDone t k it none)
    | .miss => some (s.goto t (.rFile k it))
  | .rFile k it =>                                               -- datachunk.go:164
    some (s.readDone t k it (fileLookup (s.chunks it.pos.chunk) it.pos.off))
  -- dataStore.flush ----------------------------------------------------------------------------------------------
  | .fPre c force late =>                                        -- data.go:103
    if s.wbufSize = 0 then some (s.goto t .idle) else some (s.goto t (.fLock c force late))
  | .fLock c force late =>                                       -- data.go:106
    if s.flushLock = none then some ({ s with flushLock := some t }.goto t (.fDs1 c force late)) else none
  | .fDs1 c force late =>                                        -- data.go:108-123 [ds]
    if s.dsLock = none then
      if s.wbufSize = 0 then some (s.goto t .fUnlock)
      else if !force ∧ late ∧ s.wbufSize < cfg.flushBig then some (s.goto t .fUnlock)
      else some (s.goto t (.fOpen (match c with | some c => c | none => s.newHead)))
    else none
  | .fOpen c => some (s.goto t (.fCheck c (s.chunks c).fsize))   -- data.go:126 / 200-233
  | .fCheck c woff =>                                            -- data.go:132-136
    if woff ≠ diskFileSize (s.chunks c) then some { s with fatal := true } else some (s.goto t (.fCount c woff))
  | .fCount c woff => some (s.goto t (.fFetch c woff (s.chunks c).wbuf.length 0 0))   -- datachunk.go:90-92 [dc]
  | .fFetch c woff n i fl =>                                     -- datachunk.go:93-96 [dc]; 108-112 when i = n
    if i < n then
      match (s.chunks c).wbuf[i]? with
      | some r => some (s.goto t (.fWrite c woff n i fl r))
      | none => some { s with fatal := true }                    -- index out of range
    else some (s.goto t (.fDetach c n fl))
  | .fWrite c woff n i fl r =>                                   -- datachunk.go:97-102: at the writer's offset
    let ch := s.chunks c
    some ((s.setChunk c { ch with file := ch.file ++ [{ r with off := woff }], fsize := woff + r.size }).goto t
            (.fFetch c (woff + r.size) n (i + 1) (fl + r.size)))
  | .fDetach c n fl =>                                           -- datachunk.go:114-117 [dc]
    let ch := s.chunks c
    some ((s.setChunk c { ch with wbuf := ch.wbuf.drop n }).goto t (.fDs2 fl))
  | .fDs2 fl =>                                                  -- data.go:138-140 [ds]
    if s.dsLock = none then some ({ s with wbufSize := s.wbufSize - fl }.goto t .fUnlock) else none
  | .fUnlock => some ({ s with flushLock := none }.goto t .idle) -- data.go:107,141

/-- what a thread can be asked to do -/
inductive Op
  | write (key val sz : Nat)                        -- set: val ≠ 0 identifies the bytes; the record takes sz+1 blocks
  | delete (key sz : Nat)
  | read (key : Nat)
  | flush (chunk : Option Nat) (force late : Bool)  -- none: `flush(-1, …)`; late: time.Since(lastFlushTime) < interval
deriving Repr

/-- invocation = first step of an operation (only an idle thread can be invoked; `write` needs val ≠ 0) -/
def invoke (s : State) (t : Nat) (op : Op) : Option State :=
  match (s.thr t).pc with
  | .idle =>
    let start := fun (pc : PC) => some { s with thr := fun u => if u = t then { pc := pc, inv := s.clock } else s.thr u }
    match op with
    | .write k v sz => if v = 0 then none else start (.wLock ⟨k, v, sz, false⟩)
    | .delete k sz => start (.wLock ⟨k, 0, sz, true⟩)
    | .read k => start (.rGet k)
    | .flush c force late => start (.fPre c force late)
  | _ => none

inductive Act
  | call (op : Op)
  | go
deriving Repr

def State.tick (s : State) : State := { s with clock := s.clock + 1 }

/-- one scheduler decision: thread `t` is invoked with `op`, or takes its next micro-step -/
def step (cfg : Cfg) (s : State) (t : Nat) (a : Act) : Option State :=
  if s.fatal then none
  else match a with
    | .call op => (invoke s t op).map State.tick
    | .go => (micro cfg s t).map State.tick

/-- an arbitrary schedule; a decision that is not enabled leaves the state as it is -/
def exec (cfg : Cfg) (s : State) : List (Nat × Act) → State
  | [] => s
  | (t, a) :: rest => exec cfg (match step cfg s t a with | some s' => s' | none => s) rest

def init : State := {}

/-- the completed operations on key `k`, in the order of their linearisation points -/
def histOf (s : State) (k : Nat) : List Ev := ((s.hist.filter (fun e => e.key = k)).filter (·.done)).map (·.ev)

/-- all operations on key `k` that have passed their linearisation point; those that have not returned yet are
    given the response time `fut` and the value they are going to return -/
def histAt (s : State) (k fut : Nat) : List Ev :=
  (s.hist.filter (fun e => e.key = k)).map (fun e => if e.done then e.ev else { e.ev with resp := fut })

def quiescent (s : State) : Prop := ∀ e ∈ s.hist, e.done = true

/-! ### observation (for the differential test against the real bucket)

  What the harness can read off the real store when every goroutine is parked at a micro-step boundary:
  per data file: length of the file on disk, len(wbuf), getDiskFileSize(), writingHead, size;
  ds.newHead, ds.wbufSize; per key of interest the tree item (version, chunk, offset);
  per thread the label of the hook point it is parked at (`pcLabel`). -/

structure ChunkObs where
  fileLen : Nat
  bufLen : Nat
  diskSize : Nat
  writingHead : Nat
  size : Nat
deriving DecidableEq, Repr

structure Obs where
  head : Nat
  wbufSize : Nat
  chunks : List ChunkObs                    -- chunks 0 .. head
  items : List (Nat × Option (Int × Nat × Nat))   -- key ↦ (ver, chunk, offset)
  fatal : Bool
  readErr : Bool
deriving DecidableEq, Repr

def Chunk.obs (ch : Chunk) : ChunkObs :=
  { fileLen := ch.fsize, bufLen := ch.wbuf.length, diskSize := diskFileSize ch, writingHead := ch.writingHead, size := ch.size }

def observe (s : State) (keys : List Nat) : Obs :=
  { head := s.newHead, wbufSize := s.wbufSize,
    chunks := (List.range (s.newHead + 1)).map (fun c => (s.chunks c).obs),
    items := keys.map (fun k => (k, (s.tree k).map (fun it => (it.ver, it.pos.chunk, it.pos.off)))),
    fatal := s.fatal, readErr := s.readErr }

/-- name of the hook point a thread is parked at -/
def pcLabel : PC → String
  | .idle => "idle" | .wLock _ => "w.lock" | .wGet _ => "w.get" | .wSlot .. => "w.slot" | .wAppend .. => "w.append"
  | .wDsUnlock .. => "w.dsunlock" | .wTreeSet .. => "w.treeset" | .wUnlock .. => "w.unlock"
  | .rGet _ => "r.get" | .rBuf .. => "r.buf" | .rFile .. => "r.file" | .rRet _ => "r.ret"
  | .fPre .. => "f.pre" | .fLock .. => "f.lock" | .fDs1 .. => "f.ds1" | .fOpen _ => "f.open" | .fCheck .. => "f.check"
  | .fCount .. => "f.count" | .fFetch .. => "f.fetch" | .fWrite .. => "f.write" | .fDetach .. => "f.detach"
  | .fDs2 _ => "f.ds2" | .fUnlock => "f.unlock"

/-- the observations after every scheduler decision (and whether the decision was enabled) -/
def trace (cfg : Cfg) (keys : List Nat) (s : State) : List (Nat × Act) → List (Bool × String × Obs)
  | [] => []
  | (t, a) :: rest =>
    match step cfg s t a with
    | some s' => (true, pcLabel (s'.thr t).pc, observe s' keys) :: trace cfg keys s' rest
    | none => (false, pcLabel (s.thr t).pc, observe s keys) :: trace cfg keys s rest

end ConcFine
