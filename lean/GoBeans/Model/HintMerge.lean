/-
  HintMerge (C14) — step-by-step model of the k-way merge of hint files in store/hintmerge.go
  (`merge`, `mergeHeap`, `mergeWriter.write`, `mergeWriter.flush`) and of the part of
  store/collision.go (`CollisionTable.compareAndSet`) the merge talks to.

  `Hint.merge` (Model/Hint.lean) is the FUNCTIONAL description (sort everything, keep the last of each run,
  filter the groups); this file is the OPERATIONAL one: a priority queue of readers, one `write` per pop,
  `flush` when the key hash changes and once more at the end.  Lemmas/HintMerge.lean proves that the two
  agree on every input the real code is meant for, and what the output is.

  The priority queue is a parameter (`HeapImpl`): the theorems hold for every implementation that returns a
  minimum of the code's `Less`; two implementations are given, the plain list one (`listHeap`: pop = first
  minimal element) and the exact array algorithms of Go's container/heap (`goHeap`: Init / Pop / Push with
  up / down), which is what the real code runs.  They can differ only when two sources hold the same
  (khash, key) at the same position (same chunk id and offset) — see notes/REPORT-hintmerge.md.

  Core-only, executable.
-/
import GoBeans.Model.Hint

namespace HintMerge
open Hint

/-- hintmerge.go:108 / :145  `curr.Pos.ChunkID = r.chunkID` : every item read from a source gets the chunk id
    of the reader (whatever the file said). -/
def tag (c : Nat) (it : Item) : Item := { it with chunk := c }

/-- `mergeReader` (hintmerge.go:10-13): `r` = the chunk id of the reader and the items not yet read from its
    file, `curr` = the item read last (already tagged). -/
structure Reader where
  chunk : Nat
  curr : Item
  rest : List Item
deriving DecidableEq, Repr

/-- `mergeHeap.Less` (hintmerge.go:70-82): key hash, then key (Go string comparison = byte-wise
    lexicographic = `<` on `List UInt8`), then `Pos.CmpKey()` = `int64(ChunkID)<<32 + int64(Offset)`
    (item.go:199; `Hint.posKey`; no overflow for chunk ids < 2^31, the real ones are < 256). -/
def less (a b : Reader) : Bool := Hint.itemLt a.curr b.curr

/-- hintmerge.go:141-147  `mr.curr, err = mr.r.next()`; `nil` at the end of the file (hintfile.go:90),
    otherwise the chunk id is set and the reader goes back on the heap. -/
def Reader.next (r : Reader) : Option Reader :=
  match r.rest with
  | [] => none
  | x :: xs => some { r with curr := tag r.chunk x, rest := xs }

/-- hintmerge.go (merge, the opening loop): open every source and read its first item; a source WITHOUT items offers
    nothing and does not enter the queue (since /repo "fix: a hint file without items made the merge panic"; before it
    `hp[i].curr.Pos.ChunkID = …` dereferenced nil).  The result type is kept: `none` = a Go panic, which no longer occurs. -/
def openAll : List (Nat × List Item) → Option (List Reader)
  | [] => some []
  | (_, []) :: ss => openAll ss
  | (c, x :: xs) :: ss =>
    match openAll ss with
    | none => none
    | some rs => some ({ chunk := c, curr := tag c x, rest := xs } :: rs)

/-! ### mergeWriter -/

/-- `mergeWriter` (hintmerge.go:15-20).  `bufRev` is `buf[0:num]` as a stack, newest first (the code only
    ever looks at `buf[num-1]`); `out` = the `writeItem` calls so far, `coll` = the `compareAndSet` calls so
    far, both in call order. -/
structure Writer where
  bufRev : List Item := []
  out : List Item := []
  coll : List Item := []
deriving DecidableEq, Repr

/-- `mergeWriter.flush` (hintmerge.go:54-65): a buffer of more than one item (= different keys with one hash)
    goes to the collision table, then the buffer is written.  `num` is NOT reset here (the caller does). -/
def flush (w : Writer) : Writer :=
  { w with coll := if w.bufRev.length > 1 then w.coll ++ w.bufRev.reverse else w.coll,
           out := w.out ++ w.bufRev.reverse }

/-- `mergeWriter.write` (hintmerge.go:30-52) -/
def write (w : Writer) (it : Item) : Writer :=
  match w.bufRev with
  | [] => { w with bufRev := [it] }                                   -- num == 0: the first
  | last :: tl =>
    if last.khash ≠ it.khash then { flush w with bufRev := [it] }     -- flush(); num = 1; buf[0] = it
    else if last.key ≠ it.key then { w with bufRev := it :: last :: tl }   -- num += 1; buf[num-1] = it
    else { w with bufRev := it :: tl }                                -- same key: buf[num-1] = it (overwrite)

/-! ### the priority queue -/

/-- what `merge` needs from container/heap, over the slice `mergeHeap` -/
structure HeapImpl where
  init : List Reader → List Reader
  pop : List Reader → Option (Reader × List Reader)
  push : List Reader → Reader → List Reader

/-- "pop the minimum by the code's Less" on a plain list: the first element that no later element is
    `less` than -/
def popMin : List Reader → Option (Reader × List Reader)
  | [] => none
  | r :: rs =>
    match popMin rs with
    | none => some (r, [])
    | some (m, rest) => if less m r then some (m, r :: rest) else some (r, rs)

def listHeap : HeapImpl := { init := id, pop := popMin, push := fun h r => h ++ [r] }

/-! the array algorithms of Go's container/heap (go1.23 src/container/heap/heap.go) over `mergeHeap` -/

/-- `h.Less(i, j)` -/
def lessAt (h : List Reader) (i j : Nat) : Bool :=
  match h[i]?, h[j]? with
  | some a, some b => less a b
  | _, _ => false

/-- `h.Swap(i, j)` -/
def swap (h : List Reader) (i j : Nat) : List Reader :=
  match h[i]?, h[j]? with
  | some a, some b => (h.set i b).set j a
  | _, _ => h

/-- `heap.down(h, i, n)`; the loop runs at most log n times, `fuel` = n is plenty -/
def down (n : Nat) : Nat → List Reader → Nat → List Reader
  | 0, h, _ => h
  | fuel + 1, h, i =>
    let j1 := 2 * i + 1
    if j1 ≥ n then h else
    let j := if j1 + 1 < n ∧ lessAt h (j1 + 1) j1 then j1 + 1 else j1
    if !lessAt h j i then h else down n fuel (swap h i j) j

/-- `heap.up(h, j)`; `(j-1)/2` is 0 for j = 0 in Go (truncation) and in `Nat` -/
def up : Nat → List Reader → Nat → List Reader
  | 0, h, _ => h
  | fuel + 1, h, j =>
    let i := (j - 1) / 2
    if i = j ∨ !lessAt h j i then h else up fuel (swap h i j) i

/-- `heap.Init`: `for i := n/2 - 1; i >= 0; i-- { down(h, i, n) }` -/
def heapInit (h : List Reader) : List Reader :=
  let n := h.length
  (List.range (n / 2)).reverse.foldl (fun a i => down n n a i) h

/-- `heap.Pop`: `n := Len()-1; Swap(0, n); down(0, n); return h.Pop()` (`mergeHeap.Pop` cuts the last) -/
def heapPop (h : List Reader) : Option (Reader × List Reader) :=
  match h with
  | [] => none
  | _ :: _ =>
    let n := h.length - 1
    let h1 := down n n (swap h 0 n) 0
    match h1[n]? with
    | some x => some (x, h1.take n)
    | none => none

/-- `heap.Push`: `mergeHeap.Push` appends, then `up(Len()-1)` -/
def heapPush (h : List Reader) (r : Reader) : List Reader :=
  up (h.length + 1) (h ++ [r]) h.length

def goHeap : HeapImpl := { init := heapInit, pop := heapPop, push := heapPush }

/-! ### the merge loop -/

/-- hintmerge.go:131-149, `fuel` iterations of
    `for len(h) > 0 { mr := heap.Pop(&h); mw.write(mr.curr); mr.curr = mr.r.next(); if mr.curr != nil { heap.Push(&h, mr) } }`;
    returns the heap and the writer it stopped with -/
def loop (I : HeapImpl) : Nat → List Reader → Writer → List Reader × Writer
  | 0, h, w => (h, w)
  | fuel + 1, h, w =>
    match I.pop h with
    | none => (h, w)
    | some (mr, h') =>
      let w' := write w mr.curr
      match mr.next with
      | none => loop I fuel h' w'
      | some mr' => loop I fuel (I.push h' mr') w'

def totalItems (srcs : List (Nat × List Item)) : Nat := (srcs.map (fun s => s.2.length)).sum

/-- `merge` up to and including the `mw.flush()` after the loop (hintmerge.go:96-154), the loop cut after
    `steps` iterations; `none` = a Go panic in the opening loop (`openAll`: there is none) -/
def run (I : HeapImpl) (steps : Nat) (srcs : List (Nat × List Item)) : Option (List Reader × Writer) :=
  match openAll srcs with
  | none => none
  | some hp =>
    let r := loop I steps (I.init hp) {}
    some (r.1, flush r.2)

inductive Outcome where
  /-- a Go panic in the opening loop (`openAll`: there is none) -/
  | panic
  /-- the loop ran to the end: `out` = the items handed to `writeItem` in order (they reach the merged file
      only if `mw.w != nil`, i.e. `!Conf.NoMerged && !forGC` and the file could be created),
      `coll` = the items handed to `ct.compareAndSet(_, "merge")` in order -/
  | ok (out coll : List Item)
  /-- the loop was left early (`aborted by gc` at the loop head, or a read error after a pop): `mw.flush()`
      still runs, so the collision reports of the prefix stay; the destination file is removed -/
  | aborted (coll : List Item)
deriving DecidableEq, Repr

/-- the merge with the loop left after `steps` iterations if the heap is not empty by then -/
def kwayAbort (I : HeapImpl) (steps : Nat) (srcs : List (Nat × List Item)) : Outcome :=
  match run I steps srcs with
  | none => .panic
  | some ([], w) => .ok w.out w.coll
  | some (_ :: _, w) => .aborted w.coll

/-- the undisturbed merge: every iteration pops one item, so `totalItems` iterations empty the heap -/
def kway (I : HeapImpl) (srcs : List (Nat × List Item)) : Outcome :=
  kwayAbort I (totalItems srcs) srcs

/-! ### the inputs the code is meant for -/

/-- the order of a hint file: (khash, key) -/
def keyLt (a b : Item) : Bool :=
  if a.khash ≠ b.khash then a.khash < b.khash else a.key < b.key

/-- strictly increasing by (khash, key): sorted, and no (khash, key) twice -/
def srcSorted : List Item → Bool
  | [] => true
  | [_] => true
  | a :: b :: t => keyLt a b && srcSorted (b :: t)

/-- every source has an item and is strictly sorted by (khash, key) -/
def srcsOK (srcs : List (Nat × List Item)) : Bool :=
  srcs.all (fun s => !s.2.isEmpty && srcSorted s.2)

/-- all the items of all the sources, tagged with the chunk id of their source (the same list `Hint.merge`
    sorts) -/
def allItems (srcs : List (Nat × List Item)) : List Item :=
  srcs.flatMap (fun s => s.2.map (tag s.1))

/-- two items the code's `Less` cannot order: same hash, key and position -/
def posTie (a b : Item) : Bool :=
  a.khash = b.khash && a.key = b.key && posKey a = posKey b

/-- no two entries of the list tie -/
def noTies : List Item → Bool
  | [] => true
  | a :: t => t.all (fun b => !posTie a b) && noTies t

/-- a sufficient, source-level condition for `noTies (allItems srcs)`: different chunk ids, offsets are uint32 -/
def distinctChunks (srcs : List (Nat × List Item)) : Bool :=
  decide (srcs.map (·.1)).Nodup && srcs.all (fun s => s.2.all (fun it => it.off < 2^32))

/-! ### the collision table -/

/-- `CollisionTable.compareAndSet(it, "merge")` (collision.go:36-52) on a table kept as a list: an entry for
    (khash, key) is replaced iff the new position is ≥ the old one, a new (khash, key) is added -/
def ctSet : List Item → Item → List Item
  | [], it => [it]
  | o :: t, it =>
    if o.khash = it.khash ∧ o.key = it.key then (if posKey it ≥ posKey o then it :: t else o :: t)
    else o :: ctSet t it

def ctGet (t : List Item) (kh : Nat) (key : Bytes) : Option Item :=
  t.find? (fun o => o.khash = kh ∧ o.key = key)

end HintMerge
