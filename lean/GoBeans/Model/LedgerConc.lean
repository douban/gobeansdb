/-
  Several connections, the request limiter and the flusher, interleaved at the granularity of the single ledger
  operation (C12 on 1..8 CONCURRENT connections; the model puts no bound on their number).

  Model/Proto.lean serves one command of one connection as ONE step and threads the ledger through it.  Here a
  command is the LIST OF ATOMIC LEDGER MICRO-OPERATIONS the code performs, in the order the code performs them:
    memcache/token.go      ReqLimiter.Get  (`t := <-rl.Chan`, blocks while the channel is empty) / ReqLimiter.Put
    cmem/cmem.go           ResourceLimiter.AddSize / AddCount / SubSize / SubCount — one `atomic.AddInt64` each;
                           AddSizeAndCount = AddSize then AddCount, SubSizeAndCount = SubSize then SubCount;
                           CArray.Alloc (AllocRL.AddSizeAndCount above BodyInC), CArray.Free
    memcache/protocol.go   Request.Read (token, body allocation, SetData), Request.Process, Response.CleanBuffer
    memcache/server.go     ServerConn.ServeOnce (order: Read, Process, reply, deferred CleanBuffer, deferred RL.Put)
    gobeansdb/store.go     StorageClient.Set / Get / GetMulti / Incr (hand-over or release of the body, read buffers)
    store/hstore.go        HStore.Set / Incr (bucket not ready)
    store/bucket.go        Bucket.checkAndSet / get / incr
    store/data.go          dataStore.AppendRecord (record enters the write buffer: FlushData += , SetData -=)
    store/datachunk.go     dataChunk.GetRecordByOffset (GetData), dataChunk.flush (the flusher: FlushData -=, Free)
    store/datafile.go      readRecordAt (read buffer allocation, GetData)
    store/item.go          Record.TryCompress, Payload.Decompress (buffer replaced, size difference added)

  Global state = the shared ledger + the buffers the write buffer owns + one program counter per connection
  (`done`/`todo` of the command in flight, the commands still to come, and — ghost — the commands completed) + the
  flusher threads.  A schedule is a list
  of `Action`s; `step` performs one micro-operation of the chosen thread if it is enabled (a token take is enabled
  only while a token is free), `run` folds a schedule (a disabled choice is skipped: every list is a schedule).

  The op lists are derived per command kind and per outcome (`Outcome`, `microOps`); `outcomeOf` maps a served
  command of Model/Proto.lean to its outcome and Lemmas/LedgerConcProto.lean proves that folding `microOps` over the
  ledger gives exactly the ledger and the write-buffer ownership `Proto.serveOnce` produces.

  Paths that do NOT give back what they took are modelled as they are (`Outcome.clean = false`):
    * `recv_timeout` after a store command / incr was parsed, as the code was before /repo dbaaaea (req.Clear dropped
      the item; server.go:125-135 now gives back what was counted: the path is that of `StoreEnd.cut` / `IncrEnd.early`),
    * a short read of the key/value bytes in readRecordAt (datafile.go:140-154: `kv` is never freed),
    * a failed Decompress after `GetData.AddSize(diff)` (datachunk.go:160-161, 168-169),
    * a panic inside the read of a get (`SizeDecompressed` on a too short body carrying the compression flag):
      the deferred recover sees `resp == nil`, nothing is cleaned (`Outcome.getPanic`).
  Not modelled: panics elsewhere inside Process (same mechanism: whatever is held stays held), the OOM refusal
  (it happens before the token is taken: `Outcome.plain`), locks (bucket write lock, dataStore lock, chunk lock: no
  ledger operation blocks while holding one; the token is taken before any of them).
  Core-only, executable.
-/
import GoBeans.Model.Proto

namespace LedgerConc
open Proto (Ledger Buf Cfg)

/-! ### the ledger as a vector -/

/-- all nine components zero (a ledger DIFFERENCE; the ledger of an idle server is `Proto.zero`-like: tokens = maxReq) -/
def nil : Ledger := { tokens := 0 }

def plus (a b : Ledger) : Ledger :=
  { getC := a.getC + b.getC, getS := a.getS + b.getS, setC := a.setC + b.setC, setS := a.setS + b.setS,
    flushC := a.flushC + b.flushC, flushS := a.flushS + b.flushS, allocC := a.allocC + b.allocC,
    allocS := a.allocS + b.allocS, tokens := a.tokens + b.tokens }

def neg (a : Ledger) : Ledger :=
  { getC := -a.getC, getS := -a.getS, setC := -a.setC, setS := -a.setS, flushC := -a.flushC, flushS := -a.flushS,
    allocC := -a.allocC, allocS := -a.allocS, tokens := -a.tokens }

instance : Add Ledger := ⟨plus⟩
instance : Neg Ledger := ⟨neg⟩
instance : Sub Ledger := ⟨fun a b => plus a (neg b)⟩

def vsum : List Ledger → Ledger
  | [] => nil
  | x :: xs => x + vsum xs

/-- the ledger of a server with nothing in flight and nothing buffered (`InitTokens`, `DBRL.ResetAll`) -/
def zero (cfg : Cfg) : Ledger := { tokens := cfg.maxReq }

/-! ### micro-operations -/

/-- the eight published counters (`cmem.DBRL`: GetData, SetData, FlushData, AllocRL; Count and Size of each) -/
inductive Ctr
  | getC | getS | setC | setS | flushC | flushS | allocC | allocS
deriving DecidableEq, Repr, Inhabited

inductive LedgerOp
  | tokGet                     -- token.go:45  `t := <-rl.Chan`      (blocks while no token is free)
  | tokPut                     -- token.go:76  `rl.Chan <- t`
  | add (c : Ctr) (d : Int)    -- cmem.go:48,55,59,66  one atomic.AddInt64 on one counter
  | push (b : Buf)             -- data.go:85 / datachunk.go:48  the record (Ver > 0) enters the write buffer: it owns `b` now
  | io                         -- no ledger effect: network read of a body, reply write, file read / write
deriving DecidableEq, Repr, Inhabited

def Ctr.vec (c : Ctr) (d : Int) : Ledger :=
  match c with
  | .getC => { nil with getC := d }
  | .getS => { nil with getS := d }
  | .setC => { nil with setC := d }
  | .setS => { nil with setS := d }
  | .flushC => { nil with flushC := d }
  | .flushS => { nil with flushS := d }
  | .allocC => { nil with allocC := d }
  | .allocS => { nil with allocS := d }

/-- what one micro-operation adds to the ledger -/
def delta : LedgerOp → Ledger
  | .tokGet => { nil with tokens := -1 }
  | .tokPut => { nil with tokens := 1 }
  | .add c d => c.vec d
  | .push _ => nil
  | .io => nil

def applyOp (l : Ledger) (op : LedgerOp) : Ledger := l + delta op

def applyOps (ops : List LedgerOp) (l : Ledger) : Ledger := ops.foldl applyOp l

/-- the total effect of a list of micro-operations -/
def eff (ops : List LedgerOp) : Ledger := vsum (ops.map delta)

def pushOf : LedgerOp → List Buf
  | .push b => [b]
  | _ => []

/-- the buffers handed to the write buffer -/
def pushes (ops : List LedgerOp) : List Buf := ops.flatMap pushOf

/-- `<-rl.Chan` needs a free token; everything else is a non-blocking atomic add (or I/O the environment completes) -/
def enabled (l : Ledger) : LedgerOp → Bool
  | .tokGet => decide (0 < l.tokens)
  | _ => true

/-- what ownership of a buffer by the write buffer contributes: FlushData count/size and, for a C buffer, AllocRL -/
def ownVec (b : Buf) : Ledger :=
  { nil with flushC := 1, flushS := b.cap, allocC := if b.inC then 1 else 0, allocS := if b.inC then b.cap else 0 }

def ownSum (bs : List Buf) : Ledger := vsum (bs.map ownVec)

/-! ### building blocks (cmem) -/

/-- `ResourceLimiter.AddSizeAndCount(n)`: AddSize then AddCount (cmem.go:37-40) -/
def addSC (s c : Ctr) (n : Int) : List LedgerOp := [.add s n, .add c 1]
/-- `ResourceLimiter.SubSizeAndCount(n)`: SubSize then SubCount (cmem.go:42-45) -/
def subSC (s c : Ctr) (n : Int) : List LedgerOp := [.add s (-n), .add c (-1)]

/-- `CArray.Alloc` (cmem.go:75-94): counted in AllocRL only when malloc'ed -/
def allocOps (b : Buf) : List LedgerOp := if b.inC then addSC .allocS .allocC b.cap else []
/-- `CArray.Free` (cmem.go:96-104) -/
def freeOps (b : Buf) : List LedgerOp := if b.inC then subSC .allocS .allocC b.cap else []

/-! ### reading a record (`dataChunk.GetRecordByOffset`) -/

/-- the buffer a record is read into — `Copy` of the buffered record (datachunk.go:142-143; a Go-heap copy has
    Cap 0) or `kv.Alloc(ksz+vsz)` in readRecordAt (datafile.go:140-145) — and, for a compressed record, the
    buffer `Payload.Decompress` replaces it with (item.go:170-176) -/
structure RdBuf where
  raw : Buf
  dec : Option Buf := none
deriving DecidableEq, Repr, Inhabited

/-- the buffer the caller ends up with -/
def RdBuf.fin (r : RdBuf) : Buf := r.dec.getD r.raw

/-- Alloc; GetData.AddSizeAndCount(Cap); (file read); GetData.AddSize(DiffSizeAfterDecompressed()) — executed also when the
    difference is 0 —; Decompress: CDecompressSafe allocates, the old buffer is freed (datachunk.go:160-161, 168-169) -/
def readOps (r : RdBuf) : List LedgerOp :=
  allocOps r.raw ++ addSC .getS .getC r.raw.cap ++ [.io, .add .getS ((r.fin.cap : Int) - r.raw.cap)]
    ++ (match r.dec with
        | some d => allocOps d ++ freeOps r.raw
        | none => [])

/-- `GetData.SubSizeAndCount(Cap)`; `CArray.Free()` (protocol.go:451-453, store.go:120-121, 145-146, 190-191,
    bucket.go:462-463, 542-543, 551-552) -/
def releaseOps (b : Buf) : List LedgerOp := subSC .getS .getC b.cap ++ freeOps b

/-- what `Bucket.get(ki, false)` + the storage client do for one key -/
inductive KeyRead
  | miss                              -- nothing read: key not in the tree, bucket not ready, '@' listing, "@collision_", invalid key
  | transient (r : RdBuf)             -- read and released inside the call: tombstone (store.go:189-192), '?' meta
                                      -- (store.go:120-121), "@@" dump (store.go:145-146), other key with another hash or an
                                      -- unresolved collision (bucket.go:461-464), crc mismatch (datafile.go:162-167)
  | hit (r : RdBuf)                   -- returned to the caller, who holds it (store.go:194-197)
  | collision (r1 r2 : RdBuf)         -- same hash, other key: r1 read, r2 read through the hint and returned, r1 released by
                                      -- the deferred function when `get` returns (bucket.go:461-464, 500-506)
  | readErrLeak (b : Buf)             -- DEFECT datafile.go:140-154: short read of the key/value bytes: GetData is uncounted but
                                      -- `kv` was never stored into the payload the deferred Free (datafile.go:118) frees
  | decompFailLeak (raw : Buf) (diff : Int)
                                      -- DEFECT datachunk.go:160-161,168-169: AddSize(diff) then Decompress fails (error ignored):
                                      -- the buffer stays `raw`, is returned as a hit, and only raw.cap is uncounted later
deriving DecidableEq, Repr, Inhabited

def keyOps : KeyRead → List LedgerOp
  | .miss => []
  | .transient r => readOps r ++ releaseOps r.fin
  | .hit r => readOps r
  | .collision r1 r2 => readOps r1 ++ readOps r2 ++ releaseOps r1.fin
  | .readErrLeak b => allocOps b ++ addSC .getS .getC b.cap ++ [.io] ++ subSC .getS .getC b.cap
  | .decompFailLeak raw diff => allocOps raw ++ addSC .getS .getC raw.cap ++ [.io, .add .getS diff]

/-- the buffers the caller holds after the call -/
def keyHeld : KeyRead → List Buf
  | .hit r => [r.fin]
  | .collision _ r2 => [r2.fin]
  | .decompFailLeak raw _ => [raw]
  | _ => []

def KeyRead.clean : KeyRead → Bool
  | .readErrLeak _ => false
  | .decompFailLeak _ _ => false
  | _ => true

/-! ### compression on the write path (`Record.TryCompress`, item.go:120-164) -/

/-- one call of TryCompress: the trial buffers allocated and freed again (`CCompress(try)` when the ratio is poor or
    the body is longer than the sample, item.go:143-154) and the compressed buffer that replaces the body, if any -/
structure Attempt where
  tries : List Buf := []
  comp : Option Buf := none
deriving DecidableEq, Repr, Inhabited

def Attempt.out (cur : Buf) (a : Attempt) : Buf := a.comp.getD cur

/-- TryCompress followed by `SetData.AddSize(newCap - oldCap)` (bucket.go:354-356, data.go:67-69; the add is executed
    also when nothing changed) -/
def compressOps (cur : Buf) (a : Attempt) : List LedgerOp :=
  a.tries.flatMap (fun t => allocOps t ++ freeOps t)
    ++ (match a.comp with
        | some c => allocOps c ++ freeOps cur
        | none => [])
    ++ [.add .setS (((a.out cur).cap : Int) - cur.cap)]

/-! ### outcomes of a served command -/

/-- how a store command (set add replace cas append prepend) ends once its header line was accepted -/
inductive StoreEnd
  | allocFail                         -- protocol.go:226-229 malloc failed: token held, nothing counted, CLIENT_ERROR
  | cut                               -- protocol.go:233-251 body or terminator missing / wrong: uncount, free, error (or close)
  | recvTimeoutLeak                   -- DEFECT before /repo dbaaaea (now the ops of `cut`): body complete but overdue: RECV_TIMEOUT is answered,
                                      -- Process never runs, `req.Clear()` (protocol.go:83-88) dropped the item: SetData and the C buffer stayed
  | append                            -- protocol.go:538-547 append / prepend: not supported, buffer released by Process
  | dropped                           -- store.go:43-56 invalid key / negative revision; hstore.go:386-389 bucket not ready
  | refused (a : Attempt)             -- bucket.go:349-366 compressed, then not written (same value hash, stale revision, NOT_FOUND)
  | written (a1 a2 : Attempt)         -- bucket.go:349-398 + data.go:65-91: TryCompress in checkAndSet and again in AppendRecord,
                                      -- record appended to the chunk's write buffer, FlushData += then SetData -=
deriving DecidableEq, Repr, Inhabited

inductive IncrEnd
  | early                             -- decr (protocol.go:586), non-numeric delta (:568), invalid key (store.go:225), bucket
                                      -- not ready (hstore.go:412)
  | failed (old : KeyRead)            -- bucket.go:514-547: old value read, not a counter (or read error): released, uncounted
  | written (old : KeyRead) (a : Attempt)   -- bucket.go:549-563 + data.go:65-91: old value released, new record (Go-heap body, Cap 0) appended
  | recvTimeoutLeak                   -- DEFECT before /repo dbaaaea (now the ops of `early`): SetData.Count stayed incremented
deriving DecidableEq, Repr, Inhabited

inductive Outcome
  | plain                             -- no ledger operation: delete, stats, version, verbosity, flush_all, quit, unknown command, and
                                      -- every refusal of Request.Read before RL.Get (stream ended in the line, bad line, arity, numbers,
                                      -- length, noreply word, ErrOOM)
  | get (keys : List KeyRead) (rel : List Buf)
                                      -- get / gets: token; per key (first occurrences, in order) the read; reply; CleanBuffer releases
                                      -- the items in MAP order `rel`; token back.  Key-length error / recv_timeout: `get [] []`.
  | getPanic (keys : List KeyRead) (raw : Buf)
                                      -- DEFECT datachunk.go:160 / 168 → item.go:84 → quicklz.go:39-58: a record carrying the
                                      -- compression flag whose body is shorter than the quicklz header makes SizeDecompressed index
                                      -- past the body AFTER the read buffer `raw` was allocated and counted; the panic is recovered by
                                      -- ServeOnce (server.go:70-83) with `resp == nil`: no reply, no CleanBuffer — `raw` and every
                                      -- buffer the earlier keys of the same get returned stay counted; only the token goes back
  | store (body : Buf) (e : StoreEnd)
  | incr (e : IncrEnd)
deriving DecidableEq, Repr, Inhabited

/-- Request.Read of a store command up to the body: RL.Get; item.Alloc(length); SetData.AddSizeAndCount(Cap);
    io.ReadFull(body) — the token is held while the body travels (protocol.go:224-233) -/
def storeHead (body : Buf) : List LedgerOp := [.tokGet] ++ allocOps body ++ addSC .setS .setC body.cap ++ [.io]

/-- reply written (server.go:170-175), then the deferred `RL.Put` (server.go:80-82) -/
def tail : List LedgerOp := [.io, .tokPut]

/-- Request.Read of incr / decr: `SetData.AddCount(1)` BEFORE `RL.Get` (protocol.go:270-271): a connection waiting
    for a token already holds the count -/
def incrHead : List LedgerOp := [.add .setC 1, .tokGet]

/-- AppendRecord from the append to the hand-over (data.go:85-91): the record is in the chunk's buffer, then
    FlushData.AddSizeAndCount, then SetData.SubSizeAndCount -/
def handOver (b : Buf) : List LedgerOp := [.push b] ++ addSC .flushS .flushC b.cap ++ subSC .setS .setC b.cap

/-- the ledger micro-operations of one served command, in program order -/
def microOps : Outcome → List LedgerOp
  | .plain => []
  | .get keys rel => [.tokGet] ++ keys.flatMap keyOps ++ [.io] ++ rel.flatMap releaseOps ++ [.tokPut]
  | .getPanic keys raw => [.tokGet] ++ keys.flatMap keyOps ++ allocOps raw ++ addSC .getS .getC raw.cap ++ [.tokPut]
  | .store body e =>
    match e with
    | .allocFail => [.tokGet] ++ tail
    | .cut => storeHead body ++ subSC .setS .setC body.cap ++ freeOps body ++ tail
    | .recvTimeoutLeak => storeHead body ++ tail
    | .append => storeHead body ++ subSC .setS .setC body.cap ++ freeOps body ++ tail
    | .dropped => storeHead body ++ subSC .setS .setC body.cap ++ freeOps body ++ tail
    | .refused a =>
      storeHead body ++ compressOps body a ++ subSC .setS .setC (a.out body).cap ++ freeOps (a.out body) ++ tail
    | .written a1 a2 =>
      storeHead body ++ compressOps body a1 ++ compressOps (a1.out body) a2 ++ handOver (a2.out (a1.out body)) ++ tail
  | .incr e =>
    match e with
    | .early => incrHead ++ [.add .setC (-1)] ++ tail
    | .failed old => incrHead ++ keyOps old ++ (keyHeld old).flatMap releaseOps ++ [.add .setC (-1)] ++ tail
    | .written old a =>
      incrHead ++ keyOps old ++ (keyHeld old).flatMap releaseOps
        ++ compressOps { cap := 0, inC := false } a ++ handOver (a.out { cap := 0, inC := false }) ++ tail
    | .recvTimeoutLeak => incrHead ++ tail

/-- the outcomes on which the code gives back everything it took (all but the four leaking paths of the header) -/
def Outcome.clean : Outcome → Bool
  | .plain => true
  | .get keys _ => keys.all KeyRead.clean
  | .getPanic _ _ => false
  | .store _ e => (match e with | .recvTimeoutLeak => false | _ => true)
  | .incr e =>
    match e with
    | .recvTimeoutLeak => false
    | .failed old => old.clean
    | .written old _ => old.clean
    | .early => true

/-! ### token discipline of an op list -/

/-- starting with (`h` = true) or without a token: never a second take, never a put without a take, nothing held at
    the end -/
def tokWF : Bool → List LedgerOp → Bool
  | h, [] => !h
  | h, .tokGet :: r => !h && tokWF true r
  | h, .tokPut :: r => h && tokWF false r
  | h, _ :: r => tokWF h r

/-- does the thread hold a token after these operations (starting with `h`) -/
def holdingFrom : Bool → List LedgerOp → Bool
  | h, [] => h
  | _, .tokGet :: r => holdingFrom true r
  | _, .tokPut :: r => holdingFrom false r
  | h, _ :: r => holdingFrom h r

def holding (done : List LedgerOp) : Bool := holdingFrom false done

/-! ### threads, global state, scheduler -/

/-- a connection: the command in flight (`done` performed, `todo` still to do), the commands still to come, and
    (ghost) the commands it has completed; a connection that has closed (also: closed in the middle of a body,
    `StoreEnd.cut`) has none left -/
structure Conn where
  past  : List (List LedgerOp) := []
  done  : List LedgerOp := []
  todo  : List LedgerOp := []
  later : List (List LedgerOp) := []
deriving DecidableEq, Repr, Inhabited

/-- `dataChunk.flush` (datachunk.go:89-122) on a snapshot of `n = len(wbuf)` records: per record (Ver > 0)
    FlushData.SubSizeAndCount(Cap); the file write; the records are detached; then each buffer is freed -/
def flushOps (batch : List Buf) : List LedgerOp :=
  batch.flatMap (fun b => subSC .flushS .flushC b.cap) ++ [.io] ++ batch.flatMap freeOps

/-- a flusher thread (`HStore.Flusher`, the goroutine a rotation starts (data.go:80), `flushPending` on close) -/
structure Flusher where
  batch : List Buf := []
  done  : List LedgerOp := []
  todo  : List LedgerOp := []
deriving DecidableEq, Repr, Inhabited

structure State where
  led      : Ledger
  pend     : List Buf := []           -- buffers owned by the write buffers (records with Ver > 0 not yet taken by a flusher)
  conns    : List Conn := []
  flushers : List Flusher := []
deriving DecidableEq, Repr, Inhabited

inductive Action
  | conn (i : Nat)                    -- connection i: next micro-operation, or begin its next command
  | flush (j : Nat)                   -- flusher j: next micro-operation of the batch in hand
  | snap (j : Nat) (mask : List Bool) -- flusher j (idle) takes the records of one chunk: those of `pend` marked true
deriving DecidableEq, Repr, Inhabited

/-- the marked elements and the others (positions beyond the mask are not taken) -/
def splitMask : List Bool → List Buf → List Buf × List Buf
  | _, [] => ([], [])
  | [], bs => ([], bs)
  | m :: ms, b :: bs =>
    let (t, r) := splitMask ms bs
    if m then (b :: t, r) else (t, b :: r)

def step (s : State) : Action → Option State
  | .conn i =>
    match s.conns[i]? with
    | none => none
    | some c =>
      match c.todo with
      | op :: rest =>
        if enabled s.led op then
          some { s with led := applyOp s.led op, pend := s.pend ++ pushOf op,
                        conns := s.conns.set i { c with done := c.done ++ [op], todo := rest } }
        else none
      | [] =>
        match c.later with
        | cmd :: cs =>
          some { s with conns := s.conns.set i { past := c.past ++ [c.done], done := [], todo := cmd, later := cs } }
        | [] => none
  | .flush j =>
    match s.flushers[j]? with
    | none => none
    | some f =>
      match f.todo with
      | op :: rest =>
        if enabled s.led op then
          some { s with led := applyOp s.led op,
                        flushers := s.flushers.set j { f with done := f.done ++ [op], todo := rest } }
        else none
      | [] => none
  | .snap j mask =>
    match s.flushers[j]? with
    | none => none
    | some f =>
      if f.todo = [] then
        let tr := splitMask mask s.pend
        some { s with pend := tr.2, flushers := s.flushers.set j { batch := tr.1, done := [], todo := flushOps tr.1 } }
      else none

/-- any list of choices is a schedule: a choice that is not enabled (blocked on a token, finished, no such thread) is skipped -/
def run (s : State) : List Action → State
  | [] => s
  | a :: as => run ((step s a).getD s) as

/-- the server at start with these connections (each a list of commands, each command its op list) and `nf` flushers -/
def init (cfg : Cfg) (progs : List (List (List LedgerOp))) (nf : Nat) : State :=
  { led := zero cfg, pend := [], conns := progs.map (fun p => { later := p }),
    flushers := List.replicate nf {} }

/-! ### what each thread holds (the terms of the invariant; executable so that a recorded trace can be checked) -/

/-- the residue of an op list: its effect minus the ownership it handed to the write buffer (zero for a complete
    command that gives back everything it took) -/
def resid (ops : List LedgerOp) : Ledger := eff ops - ownSum (pushes ops)

/-- a connection holds the partial effect of its command in flight minus what it has already handed to the write buffer -/
def Conn.held (c : Conn) : Ledger := resid c.done

/-- what the commands a connection has completed left behind (zero unless one of the leaking paths was taken) -/
def Conn.leaked (c : Conn) : Ledger := vsum (c.past.map resid)

/-- a flusher holds the buffers of its batch plus the partial effect of releasing them -/
def Flusher.held (f : Flusher) : Ledger := ownSum f.batch + eff f.done

/-- invariant (i) as a computable check -/
def invOK (cfg : Cfg) (s : State) : Bool :=
  s.led == zero cfg + vsum (s.conns.map (fun c => c.held + c.leaked)) + vsum (s.flushers.map Flusher.held) + ownSum s.pend
  && decide (0 ≤ s.led.tokens) && decide (s.led.tokens ≤ cfg.maxReq)
  && decide (s.led.tokens = (cfg.maxReq : Int) - (s.conns.countP (fun c => holding c.done)))

/-- the invariant checked after every choice of a schedule (one pass) -/
def invAlong (cfg : Cfg) : State → List Action → Bool
  | s, [] => invOK cfg s
  | s, a :: as => invOK cfg s && invAlong cfg ((step s a).getD s) as

/-- every connection is between commands (or closed), no flusher is at work, the write buffers are empty -/
def quiescent (s : State) : Bool :=
  s.conns.all (fun c => c.todo.isEmpty) && s.flushers.all (fun f => f.todo.isEmpty) && s.pend.isEmpty

/-- every connection has served all its commands (or closed), no flusher is at work, the write buffers are empty -/
def finished (s : State) : Bool :=
  s.conns.all (fun c => c.todo.isEmpty && c.later.isEmpty) && s.flushers.all (fun f => f.todo.isEmpty) && s.pend.isEmpty

/-- connection i is waiting in `<-rl.Chan` -/
def blocked (s : State) (i : Nat) : Bool :=
  match s.conns[i]? with
  | some c => c.todo.head? == some .tokGet && !decide (0 < s.led.tokens)
  | none => false

/-! ### the outcome of a command served by Model/Proto.lean -/

/-- the length a store command line announces (the 4th argument), as `Proto.readStore` parses it -/
def announcedLen (inp : Bytes) : Nat :=
  match Proto.readLine inp with
  | none => 0
  | some line =>
    match Proto.fields (line.take (line.length - 2)) with
    | _ :: args => ((Proto.atoi (args.getD 3 [])).getD 0).toNat
    | [] => 0

/-- `CArray.Alloc(n)` as a buffer -/
def bufOf (cfg : Cfg) (n : Nat) : Buf := { cap := n, inC := decide (¬ n ≤ cfg.bodyInC) }

/-- which outcome `Proto.serveOnce cfg st inp` is (Model/Proto.lean has no compression, no collisions, no read
    errors, no timeouts: those outcomes are not in its range) -/
def outcomeOf (cfg : Cfg) (st : Proto.St) (inp : Bytes) : Outcome :=
  let ro := Proto.readReq cfg st.led inp
  match ro.res with
  | .ok =>
    let pr := Proto.process cfg { st with led := ro.led } ro.req ro.item ro.kind
    let grown := decide (pr.1.pend.length > st.pend.length)
    match ro.kind with
    | .get => .get (pr.2.2.1.map (fun b => .hit { raw := b })) pr.2.2.1
    | .store =>
      let body := ro.item.getD { cap := 0, inC := false }
      if grown then .store body (.written {} {}) else .store body .dropped
    | .append => .store (ro.item.getD { cap := 0, inC := false }) .append
    | .incr => if grown then .incr (.written .miss {}) else .incr .early
    | .decr => .incr .early
    | _ => .plain
  | _ => if ro.working then .store (bufOf cfg (announcedLen inp)) .cut else .plain

/-- the outcomes of the commands `Proto.serve cfg fuel st inp` serves on one connection, in order -/
def outcomes (cfg : Cfg) : Nat → Proto.St → Bytes → List Outcome
  | 0, _, _ => []
  | fuel + 1, st, inp =>
    let s := Proto.serveOnce cfg st inp
    if s.closing then [outcomeOf cfg st inp]
    else outcomeOf cfg st inp :: outcomes cfg fuel s.st (inp.drop s.n)

/-- a connection as the scheduler sees it: one op list per command -/
def program (os : List Outcome) : List (List LedgerOp) := os.map microOps

end LedgerConc
