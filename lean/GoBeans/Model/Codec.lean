/-
  Record codec (C09) — hand-written model of store/datafile.go
  (`WriteRecord.append`, `readRecordAt`, `DataStreamReader.Next/nextValid`),
  built from the regenerated kernels `Gen.encodeHeader`, `Gen.decodeHeader`, `Gen.getCRC`,
  `Gen.Sizes`, `Gen.IsValidKeySize`, `Gen.IsValidValueSize`.  Core-only (linked into the driver).
-/
import GoBeans.Gen.Kernels

namespace Codec

structure Rec where
  key  : Bytes
  body : Bytes          -- as stored (possibly compressed)
  flag : UInt32
  ver  : Int32
  ts   : UInt32
deriving DecidableEq, Repr, Inhabited

structure Cfg where
  maxKeyLen : Int64 := 250
  bodyMax   : Int64 := 52428800
deriving Repr, Inhabited

def Rec.ksz (r : Rec) : UInt32 := (Int64.ofNat r.key.length).toInt32.toUInt32   -- uint32(len(rec.Key))
def Rec.vsz (r : Rec) : UInt32 := (Int64.ofNat r.body.length).toInt32.toUInt32

/-- (recSize, padded size) — `Record.Sizes` -/
def Rec.sizes (r : Rec) : UInt32 × UInt32 := Gen.Sizes (Int64.ofNat r.key.length) (Int64.ofNat r.body.length)

def Rec.padded (r : Rec) : Nat := r.sizes.2.toNat

def zeroHeader : Bytes := List.replicate Gen.recHeaderSize 0

def header (r : Rec) : Bytes :=
  Gen.encodeHeader zeroHeader r.ts r.flag r.ver r.ksz r.vsz r.key r.body

/-- `WriteRecord.append(wbuf, dopadding = true)`: header, key, body, zero padding -/
def encode (r : Rec) : Bytes :=
  let (size, sizeall) := r.sizes
  header r ++ r.key ++ r.body ++ List.replicate (sizeall - size).toNat 0

def encodeAll (rs : List Rec) : Bytes := rs.foldr (fun r acc => encode r ++ acc) []

inductive RErr | shortHead | badKeySize | badValueSize | shortBody | badCRC
deriving DecidableEq, Repr

/-- `readRecordAt(path, f, offset)`; on success also the padded size -/
def decodeAt (cfg : Cfg) (f : Bytes) (off : Nat) : Except RErr (Rec × Nat) :=
  let h := (f.drop off).take 24
  if h.length < 24 then .error .shortHead else
  let (crc, ts, flag, ver, ksz, vsz) := Gen.decodeHeader h
  if !Gen.IsValidKeySize cfg.maxKeyLen ksz then .error .badKeySize else
  if !Gen.IsValidValueSize cfg.bodyMax vsz then .error .badValueSize else
  let kv := (f.drop (off + 24)).take (ksz.toNat + vsz.toNat)
  if kv.length < ksz.toNat + vsz.toNat then .error .shortBody else
  let key := kv.take ksz.toNat
  let body := kv.drop ksz.toNat
  if crc != Gen.getCRC h key body then .error .badCRC else
  let r : Rec := { key := key, body := body, flag := flag, ver := ver, ts := ts }
  .ok (r, r.padded)

inductive ScanEnd | eof | error
deriving DecidableEq, Repr

/-- `nextValid`: from `off` (the caller passes the 256-aligned offset at or below its own), try `readRecordAt` every
    256 bytes -/
def nextValid (cfg : Cfg) (f : Bytes) : Nat → Nat → Option (Nat × Rec × Nat)
  | 0, _ => none
  | fuel + 1, off =>
    if off < f.length then
      match decodeAt cfg f off with
      | .ok (r, sz) => some (off, r, sz)
      | .error _ => nextValid cfg f fuel (off + 256)
    else none

/-- one `DataStreamReader.Next()` at stream offset `off`:
    `none` = clean end (nil record, nil error), `some (.error ())` = error return,
    `some (.ok (offset, rec, nextOffset))`.
    `Next` parses the record at the stream position with the same sequence of checks as
    `readRecordAt` (sizes, key+body read, CRC), so the model shares `decodeAt`; what differs is
    what happens on failure: bad sizes / bad CRC → `nextValid`; a short read of key or body →
    `nextValidOrErr` (resynchronise, report the read error only if no valid record follows). -/
def next (cfg : Cfg) (f : Bytes) (off : Nat) : Option (Except Unit (Nat × Rec × Nat)) :=
  let rest := f.drop off
  if rest.length = 0 then none else                       -- io.EOF on the header: clean end
  if rest.length < 24 then some (.error ()) else         -- ErrUnexpectedEOF on the header
  let resync := fun (_ : Unit) =>
    match nextValid cfg f (f.length / 256 + 2) (off / 256 * 256) with
    | some (o, r, sz) => some (.ok (o, r, o + sz))
    | none => none
  match decodeAt cfg f off with
  | .ok (r, sz) => some (.ok (off, r, off + sz))
  | .error .shortBody =>
      (match resync () with
       | some x => some x
       | none => some (.error ()))
  | .error _ => resync ()

/-- the loop every caller runs: `for { rec, off, _, err := r.Next(); if err → stop; if rec == nil → stop }` -/
def scanFrom (cfg : Cfg) (f : Bytes) : Nat → Nat → List (Nat × Rec) × ScanEnd
  | 0, _ => ([], .eof)
  | fuel + 1, off =>
    match next cfg f off with
    | none => ([], .eof)
    | some (.error _) => ([], .error)
    | some (.ok (o, r, nxt)) =>
      let (rs, e) := scanFrom cfg f fuel nxt
      ((o, r) :: rs, e)

def scan (cfg : Cfg) (f : Bytes) (start : Nat) : List (Nat × Rec) × ScanEnd :=
  scanFrom cfg f (f.length / 256 + 2) start

end Codec
