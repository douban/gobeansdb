/-
  Fine-grained interleaving model of GARBAGE COLLECTION BESIDE CLIENTS (C05).

  Extends Model/ConcFine.lean (one bucket; writers, readers, flushers as programs of atomic micro-steps, one per
  critical section of the Go code) by ONE GC thread running one pass `GCMgr.gc(bkt, begin, end)`.
  The client threads run `ConcFine.micro` unchanged on the embedded `base` state; the GC thread has its own
  program counter `GPC`.  A scheduler interleaves them arbitrarily (`step`, `exec`).

  Go code modelled (/repo/store at the verified revision):
    gc.go        GCMgr.gc 188-376: choice of the destination 221-237, per-file loop 251-374, per-record:
                 newest-check 286-315 (tree.get [tree] + position compare; collision / hint branches NOT modelled),
                 room test + destination rotation 326-339, AppendRecordGC 340, UpdateHtreePos 351 -> htree.movePos
                 (htree.go 307-327, one [tree] section, conditional on the old position; `blind` = the repoint
                 before /repo commit 1f5e306), after a file: Clear 361 / dropStaleTail 362, deferred endGCWriting 247
    datachunk.go beginGCWriting 189-203, AppendRecordGC 57-80 ([dc] only around offset/writingHead/size; the
                 gc writer's bufio append and Flush are OUTSIDE every lock), Clear 34-44 (no lock), endGCWriting
                 205-221, dropStaleTail 227-243, GetRecordByOffset 152-171 (a GC destination has an empty dc.wbuf:
                 the buffer test misses and the reader goes to the FILE)
    data.go      GetStreamWriter 200-233 (append: offset = end of file; rewrite: offset 0, file NOT truncated),
                 GetStreamReader 195-198

  Locks: GC takes NO bucket-level lock (no writeLock, no ds.Mutex, no flushLock).  It holds dataChunk.Mutex only
  inside AppendRecordGC lines 58-68 and HTree.Mutex inside htree.get / htree.movePos.  Everything else the GC
  thread does (beginGCWriting, the file write, Clear, Remove, Truncate) is unlocked: each such access to shared
  state is a micro-step of its own.

  GC micro-steps (`GPC`):
    gBegin     beginGCWriting(dst, begin)  (dst chosen by `pickDst` at the start of the pass)
    gFile      loop head: CancelFlag test, `src > end` test, skip of an empty chunk
    gOpen      GetStreamReader(src): the records of the file (a snapshot)
    gNext      r.Next(); at EOF: Clear (src != dst) or dropStaleTail (src == dst)
    gCheck     htree.get [tree] + `oldPos == treePos`  <- NEWEST-CHECK; then the room test (reads only GC's own data)
    gEndW      endGCWriting of a full destination; gc.Dst++
    gBeginW    beginGCWriting(dst, src) of the next destination (dst == src: REWRITE IN PLACE)
    gHead      AppendRecordGC [dc]: offset = writingHead; writingHead += size; size = max
    gBuf       gcWriter.append: the bytes go into the gc writer's OWN bufio buffer
    gFlush     gcWriter.wbuf.Flush(): the bytes reach the file at the writer's position
    gMove      htree.movePos [tree]                           <- REPOINT
    gClearMem  Clear: wbuf = nil, size = 0, writingHead = 0 (no lock)
    gRemove    Clear: utils.Remove(path)
    gTail      dropStaleTail: os.Truncate(path, writingHead); size = writingHead
    gFileDone  NextGCChunk bookkeeping; gc.Src++
    gFinal     deferred endGCWriting
  Core-only, executable.
-/
import GoBeans.Model.ConcFine

namespace ConcGC
open ConcFine
open Conc (AOp Out Ev Reg)

structure GCfg where
  fine : Cfg := {}
  bodyMax : Nat := 0              -- config.MCConf.BodyMax (blocks), gc.go:226
  blind : Bool := false           -- true: the repoint as it was before commit 1f5e306 (position not compared)
deriving Repr

inductive GPC
  | idle
  | gBegin
  | gFile
  | gOpen
  | gNext
  | gCheck (r : Rec)
  | gEndW (r : Rec) (found : Bool)
  | gBeginW (r : Rec) (found : Bool)
  | gHead (r : Rec) (found : Bool)
  | gBuf (r : Rec) (found : Bool) (off : Nat)
  | gFlush (r : Rec) (found : Bool) (off : Nat)
  | gMove (r : Rec) (off : Nat)
  | gClearMem
  | gRemove
  | gTail
  | gFileDone
  | gFinal
  | done
deriving DecidableEq, Repr

/-- the GC thread: program counter, `GCState` (gc.go:16-35) and the locals of `GCMgr.gc` -/
structure GC where
  pc : GPC := .idle
  started : Bool := false         -- a pass has been started (the model runs ONE pass)
  gbegin : Nat := 0               -- gc.Begin
  gend : Nat := 0                 -- gc.End
  src : Nat := 0                  -- gc.Src
  dst : Nat := 0                  -- gc.Dst
  todo : List Rec := []           -- what the DataStreamReader of the source file has not yielded yet
  wopen : Bool := false           -- dstchunk.gcWriter != nil
  wpos : Nat := 0                 -- file position of the gc writer's descriptor
  gbuf : List Rec := []           -- the gc writer's bufio buffer (bytes appended, not yet flushed)
  rewr : Bool := false            -- dstchunk.rewriting
  cancel : Bool := false          -- gc.CancelFlag
  moved : Nat := 0                -- number of successful repoints (statistics only)
deriving Repr

structure State where
  base : ConcFine.State := {}
  gc : GC := {}
  fails : Nat := 0                -- number of gets that ended in an error (file gone, garbage, another key's record)
  hazCold : Bool := false         -- monitor: a flush touches a file at or below the GC range / GC started on unflushed files
  hazInplace : Bool := false      -- monitor: a destination is rewritten in place (dst == src)
  hazReuse : Bool := false        -- monitor: a destination is a file the pass has emptied before (begin <= dst < src)

/-- gc.go:221-237: the destination of the pass -/
def pickDstAux (cfg : GCfg) (chunks : Nat → Chunk) (start : Nat) : Nat → Nat
  | 0 => start
  | i + 1 =>                                              -- Go's loop variable is `i`
    let sz := (chunks i).size
    if sz > 0 then
      if sz + cfg.bodyMax < cfg.fine.dataFileMax then i     -- int64(sz) < DataFileMax - BodyMax
      else if i + 1 < start then i + 1 else start           -- `if i < startChunkID-1 { gc.Dst = i + 1 }`
    else pickDstAux cfg chunks start i

def pickDst (cfg : GCfg) (chunks : Nat → Chunk) (start : Nat) : Nat := pickDstAux cfg chunks start start

def overlaps (x : Rec) (p sz : Nat) : Bool := decide (p < x.off + x.size ∧ x.off < p + sz)

/-- a write of record `r` at file position `p`: whatever it overlaps is no longer a decodable record -/
def writeAt (ch : Chunk) (p : Nat) (r : Rec) : Chunk :=
  { ch with file := ch.file.filter (fun x => !overlaps x p r.size) ++ [{ r with off := p }],
            fsize := max ch.fsize (p + r.size) }

/-- os.Truncate(path, n) -/
def truncateTo (ch : Chunk) (n : Nat) : Chunk :=
  { ch with file := ch.file.filter (fun x => decide (x.off + x.size ≤ n)), fsize := min ch.fsize n }

def State.gcGoto (s : State) (pc : GPC) : State := { s with gc := { s.gc with pc := pc } }

def State.setChunk (s : State) (c : Nat) (ch : Chunk) : State := { s with base := s.base.setChunk c ch }

/-- `dataChunk.beginGCWriting(srcChunk)` on chunk `gc.dst` (datachunk.go:189-203) + GetStreamWriter (data.go:200) -/
def beginW (s : State) (srcChunk : Nat) (pc : GPC) : State :=
  let ch := s.base.chunks s.gc.dst
  if s.gc.dst = srcChunk then
    { (s.setChunk s.gc.dst { ch with writingHead := 0 }) with
        gc := { s.gc with pc := pc, rewr := true, wopen := true, wpos := 0 }, hazInplace := true }
  else
    { (s.setChunk s.gc.dst { ch with writingHead := ch.size }) with
        gc := { s.gc with pc := pc, wopen := true, wpos := if s.gc.rewr then 0 else ch.fsize },
        hazReuse := s.hazReuse || decide (s.gc.gbegin ≤ s.gc.dst) }

/-- `dataChunk.endGCWriting` on chunk `gc.dst` (datachunk.go:205-221) -/
def endW (s : State) : State :=
  let ch := s.base.chunks s.gc.dst
  let s1 := if s.gc.rewr ∧ ch.size = 0 then s.setChunk s.gc.dst { ch with file := [], fsize := 0 } else s
  { s1 with gc := { s1.gc with wopen := false, rewr := false } }

/-- gc.go:326: is there room for the record in the current destination? -/
def afterCheck (cfg : GCfg) (s : State) (r : Rec) (found : Bool) : State :=
  if r.size + (s.base.chunks s.gc.dst).writingHead > cfg.fine.dataFileMax then s.gcGoto (.gEndW r found)
  else s.gcGoto (.gHead r found)

/-- the next micro-step of the GC thread (none: idle / finished) -/
def gmicro (cfg : GCfg) (s : State) : Option State :=
  let g := s.gc
  match g.pc with
  | .idle => none
  | .done => none
  | .gBegin => some (beginW s g.gbegin .gFile)                       -- gc.go:239-240
  | .gFile =>                                                        -- gc.go:251-259
    if g.cancel then some (s.gcGoto .gFinal)
    else if g.src > g.gend then some (s.gcGoto .gFinal)
    else if (s.base.chunks g.src).size = 0 then some { s with gc := { g with src := g.src + 1 } }
    else some (s.gcGoto .gOpen)
  | .gOpen => some { s with gc := { g with pc := .gNext, todo := (s.base.chunks g.src).file } }   -- gc.go:265
  | .gNext =>                                                        -- gc.go:273-281, 360-362
    match g.todo with
    | [] => if g.src ≠ g.dst then some (s.gcGoto .gClearMem) else some (s.gcGoto .gTail)
    | r :: rest => some { s with gc := { g with pc := .gCheck r, todo := rest } }
  | .gCheck r =>                                                     -- gc.go:286-315 [tree], 321-326
    match s.base.tree r.key with
    | some it =>
      if it.pos = ⟨g.src, r.off⟩ then some (afterCheck cfg s r true) else some (s.gcGoto .gNext)
    | none =>
      if g.gbegin > 0 ∧ r.ver < 0 then some (afterCheck cfg s r false) else some (s.gcGoto .gNext)
  | .gEndW r found =>                                                -- gc.go:327-331
    let s1 := endW s
    some { s1 with gc := { s1.gc with pc := .gBeginW r found, dst := g.dst + 1 } }
  | .gBeginW r found => some (beginW s g.src (.gHead r found))       -- gc.go:333-334
  | .gHead r found =>                                                -- datachunk.go:58-68 [dc]
    let ch := s.base.chunks g.dst
    let wh := ch.writingHead + r.size
    some ((s.setChunk g.dst { ch with writingHead := wh, size := if wh ≥ ch.size then wh else ch.size }).gcGoto
            (.gBuf r found ch.writingHead))
  | .gBuf r found off =>                                             -- datachunk.go:70 (bufio, no lock)
    some { s with gc := { g with pc := .gFlush r found off, gbuf := g.gbuf ++ [{ r with off := off }] } }
  | .gFlush r found off =>                                           -- datachunk.go:75: the file write
    let ch := s.base.chunks g.dst
    some { (s.setChunk g.dst (writeAt ch g.wpos r)) with
            gc := { g with pc := if found then .gMove r off else .gNext, gbuf := [], wpos := g.wpos + r.size } }
  | .gMove r off =>                                                  -- gc.go:351 -> htree.go:307-327 [tree]
    match s.base.tree r.key with
    | some it =>
      if cfg.blind ∨ it.pos = ⟨g.src, r.off⟩ then
        some { s with base := { s.base with tree := fun k => if k = r.key then some ⟨it.ver, ⟨g.dst, off⟩⟩ else s.base.tree k },
                      gc := { g with pc := .gNext, moved := g.moved + 1 } }
      else some (s.gcGoto .gNext)
    | none => some (s.gcGoto .gNext)
  | .gClearMem =>                                                    -- datachunk.go:35-40 (no lock)
    let ch := s.base.chunks g.src
    some ((s.setChunk g.src { ch with wbuf := [], size := 0, writingHead := 0 }).gcGoto .gRemove)
  | .gRemove =>                                                      -- datachunk.go:43
    let ch := s.base.chunks g.src
    some ((s.setChunk g.src { ch with file := [], fsize := 0 }).gcGoto .gFileDone)
  | .gTail =>                                                        -- datachunk.go:227-243
    let ch := s.base.chunks g.dst
    if !g.rewr ∨ ch.writingHead ≥ ch.size then some (s.gcGoto .gFileDone)
    else some ((s.setChunk g.dst { truncateTo ch ch.writingHead with size := ch.writingHead }).gcGoto .gFileDone)
  | .gFileDone => some { s with gc := { g with pc := .gFile, src := g.src + 1 } }   -- gc.go:367-374, 251
  | .gFinal => some ((endW s).gcGoto .done)                          -- gc.go:246-249

/-! ### the client threads beside GC -/

/-- chunk `c` lies at or below the end of the range of the running (or finished) pass -/
def cold (s : State) (c : Nat) : Bool := s.gc.started && decide (c ≤ s.gc.gend)

/-- the chunk a flusher thread is working on -/
def flushTarget : PC → Option Nat
  | .fOpen c | .fCheck c _ | .fCount c _ | .fFetch c _ _ _ _ | .fWrite c _ _ _ _ _ | .fDetach c _ _ => some c
  | _ => none

/-- a get that ends in an error (bucket.go:443-479: read failure, "bad htree item"): the operation is NOT an event
    of the recorded history (errors are not values); it is counted in `fails` -/
def readFail (s : State) (t : Nat) : State :=
  { s with base := { s.base with hist := s.base.hist.filter (fun e => !(decide (e.tid = t) && !e.done)),
                                 thr := fun u => if u = t then { s.base.thr t with pc := .idle } else s.base.thr u },
           fails := s.fails + 1 }

def liftBase (s : State) (b : Option ConcFine.State) : Option State := b.map (fun b => { s with base := b })

/-- the next micro-step of client thread `t`: `ConcFine.micro` on the embedded state; a failing read is taken out
    of the history; a flusher that picks a file at or below the GC range fires the monitor -/
def cmicro (cfg : GCfg) (s : State) (t : Nat) : Option State :=
  match (s.base.thr t).pc with
  | .rBuf k it =>
    match bufLookup (s.base.chunks it.pos.chunk) it.pos.off with
    | .found r => if r.key = k then liftBase s (micro cfg.fine s.base t) else some (readFail s t)
    | .err => some (readFail s t)
    | .miss => liftBase s (micro cfg.fine s.base t)
  | .rFile k it =>
    match fileLookup (s.base.chunks it.pos.chunk) it.pos.off with
    | some r => if r.key = k then liftBase s (micro cfg.fine s.base t) else some (readFail s t)
    | none => some (readFail s t)
  | .fDs1 .. =>
    match micro cfg.fine s.base t with
    | some b =>
      let hz := match flushTarget (b.thr t).pc with | some c => cold s c | none => false
      some { s with base := b, hazCold := s.hazCold || hz }
    | none => none
  | _ => liftBase s (micro cfg.fine s.base t)

/-- start of the pass `gc(bkt, begin, end)`: accepted ranges satisfy begin ≤ end < newHead (gcCheckRange, gc.go:175).
    The monitor fires if a file at or below the range still has buffered records or is being flushed right now. -/
def gcStart (cfg : GCfg) (s : State) (b e : Nat) : Option State :=
  if s.gc.started ∨ ¬ (b ≤ e ∧ e < s.base.newHead) then none
  else
    let d := pickDst cfg s.base.chunks b
    let hz1 := (List.range (e + 1)).any (fun c => !(s.base.chunks c).wbuf.isEmpty)
    let hz2 := match s.base.flushLock with
      | some u => (match flushTarget (s.base.thr u).pc with | some c => decide (c ≤ e) | none => false)
      | none => false
    some { s with gc := { pc := .gBegin, started := true, gbegin := b, gend := e, src := b, dst := d },
                  hazCold := s.hazCold || hz1 || hz2 }

inductive Act
  | call (op : Op)                -- a client thread is invoked
  | go                            -- a client thread takes its next micro-step
  | gcStart (b e : Nat)           -- the GC pass is started (thread number ignored)
  | gcGo                          -- the GC thread takes its next micro-step
  | gcCancel                      -- gc.CancelFlag = true
deriving Repr

def State.tick (s : State) : State := { s with base := s.base.tick }

def step (cfg : GCfg) (s : State) (t : Nat) (a : Act) : Option State :=
  if s.base.fatal then none
  else match a with
    | .call op => (liftBase s (invoke s.base t op)).map State.tick
    | .go => (cmicro cfg s t).map State.tick
    | .gcStart b e => (gcStart cfg s b e).map State.tick
    | .gcGo => (gmicro cfg s).map State.tick
    | .gcCancel => some ({ s with gc := { s.gc with cancel := true } }.tick)

def exec (cfg : GCfg) (s : State) : List (Nat × Act) → State
  | [] => s
  | (t, a) :: rest => exec cfg (match step cfg s t a with | some s' => s' | none => s) rest

def init : State := {}

/-- no monitor has fired -/
def noHaz (s : State) : Prop := s.hazCold = false ∧ s.hazInplace = false ∧ s.hazReuse = false

/-- the GC thread stands at a file boundary (or has not started / has finished) -/
def atBoundary (s : State) : Bool :=
  match s.gc.pc with | .idle | .gFile | .gFinal | .done => true | _ => false

/-! ### observation (for the differential test against the real bucket)

  What the harness can read off the real store when every goroutine (clients, flushers, the GC goroutine) is parked
  at a micro-step boundary: `ConcFine.Obs` (per data file: file length, len(wbuf), getDiskFileSize(), writingHead,
  size; newHead, wbufSize; per key the tree item) for the files 0..newHead, plus the GC thread's gc.Src, gc.Dst, the
  label of the hook it is parked at, whether gcWriter is open, the number of bytes in its bufio buffer
  (`gcWriter.wbuf.Buffered()` in blocks of 256), `rewriting`, the number of failed gets so far. -/

structure GObs where
  base : Obs
  gpc : String
  src : Nat
  dst : Nat
  wopen : Bool
  wpos : Nat
  buffered : Nat
  rewr : Bool
  fails : Nat
  hazCold : Bool
  hazInplace : Bool
  hazReuse : Bool
deriving DecidableEq, Repr

def gpcLabel : GPC → String
  | .idle => "gc.idle" | .gBegin => "gc.begin" | .gFile => "gc.file" | .gOpen => "gc.open" | .gNext => "gc.next"
  | .gCheck _ => "gc.check" | .gEndW .. => "gc.endw" | .gBeginW .. => "gc.beginw" | .gHead .. => "gc.head"
  | .gBuf .. => "gc.buf" | .gFlush .. => "gc.flush" | .gMove .. => "gc.move" | .gClearMem => "gc.clearmem"
  | .gRemove => "gc.remove" | .gTail => "gc.tail" | .gFileDone => "gc.filedone" | .gFinal => "gc.final" | .done => "gc.done"

def observe (s : State) (keys : List Nat) : GObs :=
  { base := ConcFine.observe s.base keys, gpc := gpcLabel s.gc.pc, src := s.gc.src, dst := s.gc.dst, wopen := s.gc.wopen,
    wpos := s.gc.wpos, buffered := (s.gc.gbuf.map (·.size)).sum, rewr := s.gc.rewr, fails := s.fails,
    hazCold := s.hazCold, hazInplace := s.hazInplace, hazReuse := s.hazReuse }

/-- the observations after every scheduler decision (and whether the decision was enabled) -/
def trace (cfg : GCfg) (keys : List Nat) (s : State) : List (Nat × Act) → List (Bool × String × GObs)
  | [] => []
  | (t, a) :: rest =>
    match step cfg s t a with
    | some s' => (true, pcLabel (s'.base.thr t).pc, observe s' keys) :: trace cfg keys s' rest
    | none => (false, pcLabel (s.base.thr t).pc, observe s keys) :: trace cfg keys s rest

end ConcGC
