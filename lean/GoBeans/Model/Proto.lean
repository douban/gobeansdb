/-
  The memcached text protocol front end (C11, C12): hand-written model of
    memcache/protocol.go  Request.Read, Request.Process, Response.Write, Response.CleanBuffer, Request.Write, Response.Read
    memcache/server.go    ServerConn.ServeOnce   (one command: read, dispatch, reply, release)
    memcache/token.go     request tokens
    gobeansdb/store.go    StorageClient (Get / GetMulti / Set / Incr / Delete / special '@' and '?' keys)
    cmem/cmem.go          CArray.Alloc / Free and the four published counters
  over the single-bucket store model `Store.Bucket` (key hash = the reference hash).

  One `serveOnce` = one call of the real `ServeOnce`: it consumes a prefix of the bytes still to come, yields at
  most one reply, says whether the connection closes afterwards, and moves the ledger.  Engine `proto` drives the
  real `ServerConn` with the same byte stream and compares, per call: bytes consumed, bytes written, closing flag,
  the eight counters and the free tokens.

  The ledger operations are written in the order the code performs them (take token, allocate, count, …, release)
  so that "everything returns to zero" is a theorem about the paths (Lemmas/Proto.lean, LedgerConcProto.lean), not a definition.
  The values of the counters in the middle of a command are not observed by the tie (only their values between
  commands are).

  Not modelled: timeouts (TimeoutMS is far away in the harness), the OOM refusal (BodyBig is far away), malloc failure,
  write errors on the connection, the access log, `stats` values other than the five command counters.
  Core-only (linked into the driver).
-/
import GoBeans.Model.Store
import GoBeans.Model.Tree
import GoBeans.Spec.Hash

namespace Proto

def ascii (s : String) : Bytes := s.toList.map (fun c => UInt8.ofNat c.toNat)

def crlf : Bytes := [13, 10]

/-! ### tokens of a command line -/

/-- `strings.FieldsFunc(line, r == ' ')` -/
def fieldsGo : Bytes → Bytes → List Bytes
  | [], cur => if cur = [] then [] else [cur]
  | c :: rest, cur =>
    if c = 32 then (if cur = [] then fieldsGo rest [] else cur :: fieldsGo rest [])
    else fieldsGo rest (cur ++ [c])

def fields (l : Bytes) : List Bytes := fieldsGo l []

/-- the bytes up to and including the first LF (`bufio.Reader.ReadString('\n')`); `none`: no LF before the end -/
def readLine : Bytes → Option Bytes
  | [] => none
  | c :: rest => if c = 10 then some [c] else (readLine rest).map (c :: ·)

def endsCRLF (l : Bytes) : Bool := l.length ≥ 2 && l.drop (l.length - 2) == crlf

abbrev atoi := Spec.parseInt
abbrev itoa := Spec.itoa

/-! ### key validity (`store.IsValidKeyString`) -/

def cont (b : UInt8) : Bool := 0x80 ≤ b && b ≤ 0xBF

/-- Go's UTF-8 decoding of the first rune of a non-empty string: (rune, width); invalid encodings give (0xFFFD, 1) -/
def decodeRune : Bytes → Nat × Nat
  | [] => (0xFFFD, 1)
  | b0 :: rest =>
    if b0 < 0x80 then (b0.toNat, 1)
    else if b0 < 0xC2 then (0xFFFD, 1)
    else if b0 < 0xE0 then
      match rest with
      | b1 :: _ => if cont b1 then ((b0.toNat - 0xC0) * 64 + (b1.toNat - 0x80), 2) else (0xFFFD, 1)
      | _ => (0xFFFD, 1)
    else if b0 < 0xF0 then
      match rest with
      | b1 :: b2 :: _ =>
        let lo : UInt8 := if b0 = 0xE0 then 0xA0 else 0x80
        let hi : UInt8 := if b0 = 0xED then 0x9F else 0xBF
        if lo ≤ b1 && b1 ≤ hi && cont b2 then (((b0.toNat - 0xE0) * 64 + (b1.toNat - 0x80)) * 64 + (b2.toNat - 0x80), 3) else (0xFFFD, 1)
      | _ => (0xFFFD, 1)
    else if b0 < 0xF5 then
      match rest with
      | b1 :: b2 :: b3 :: _ =>
        let lo : UInt8 := if b0 = 0xF0 then 0x90 else 0x80
        let hi : UInt8 := if b0 = 0xF4 then 0x8F else 0xBF
        if lo ≤ b1 && b1 ≤ hi && cont b2 && cont b3 then
          ((((b0.toNat - 0xF0) * 64 + (b1.toNat - 0x80)) * 64 + (b2.toNat - 0x80)) * 64 + (b3.toNat - 0x80), 4)
        else (0xFFFD, 1)
      | _ => (0xFFFD, 1)
    else (0xFFFD, 1)

/-- `unicode.IsControl(r) || unicode.IsSpace(r)` -/
def ctlOrSpace (r : Nat) : Bool :=
  r < 0x20 || (0x7f ≤ r && r < 0xa0) || r = 0x20 || r = 0x85 || r = 0xA0 || r = 0x1680 || (0x2000 ≤ r && r ≤ 0x200a)
  || r = 0x2028 || r = 0x2029 || r = 0x202f || r = 0x205f || r = 0x3000

def noCtlSpace : Nat → Bytes → Bool
  | 0, _ => true
  | _ + 1, [] => true
  | fuel + 1, l =>
    let (r, w) := decodeRune l
    if ctlOrSpace r then false else noCtlSpace fuel (l.drop w)

def validKeyString (k : Bytes) : Bool :=
  match k with
  | [] => false
  | c :: _ => k.length ≤ 250 && !(c ≤ 32 || c = 63 || c = 64) && noCtlSpace k.length k

/-! ### configuration, ledger, state -/

structure Cfg where
  bodyInC   : Nat := 64           -- MCConf.BodyInC: larger values live in C memory
  bodyMax   : Nat := 1048576      -- MCConf.BodyMax
  maxKeyLen : Nat := 250
  maxReq    : Nat := 16
  store     : Store.Cfg := {}
  height    : Nat := 3
  listKey   : Nat := 256
  version   : Bytes := []         -- config.Version
deriving Inhabited

structure Ledger where
  getC : Int := 0
  getS : Int := 0
  setC : Int := 0
  setS : Int := 0
  flushC : Int := 0
  flushS : Int := 0
  allocC : Int := 0
  allocS : Int := 0
  tokens : Int := 16
deriving DecidableEq, Repr, Inhabited

/-- a value buffer (`cmem.CArray`): its capacity and whether it was malloc'ed -/
structure Buf where
  cap : Nat
  inC : Bool
deriving DecidableEq, Repr, Inhabited

namespace Ledger
def alloc (cfg : Cfg) (l : Ledger) (n : Nat) : Ledger × Buf :=
  if n ≤ cfg.bodyInC then (l, { cap := n, inC := false })
  else ({ l with allocC := l.allocC + 1, allocS := l.allocS + n }, { cap := n, inC := true })
def free (l : Ledger) (b : Buf) : Ledger :=
  if b.inC then { l with allocC := l.allocC - 1, allocS := l.allocS - b.cap } else l
def setAdd (l : Ledger) (n : Nat) : Ledger := { l with setC := l.setC + 1, setS := l.setS + n }
def setSub (l : Ledger) (n : Nat) : Ledger := { l with setC := l.setC - 1, setS := l.setS - n }
def getAdd (l : Ledger) (n : Nat) : Ledger := { l with getC := l.getC + 1, getS := l.getS + n }
def getSub (l : Ledger) (n : Nat) : Ledger := { l with getC := l.getC - 1, getS := l.getS - n }
def flushAdd (l : Ledger) (n : Nat) : Ledger := { l with flushC := l.flushC + 1, flushS := l.flushS + n }
def flushSub (l : Ledger) (n : Nat) : Ledger := { l with flushC := l.flushC - 1, flushS := l.flushS - n }
def tokGet (l : Ledger) : Ledger := { l with tokens := l.tokens - 1 }
def tokPut (l : Ledger) : Ledger := { l with tokens := l.tokens + 1 }
end Ledger

structure Counters where
  cmdGet : Nat := 0
  getHits : Nat := 0
  getMisses : Nat := 0
  cmdSet : Nat := 0
  cmdDelete : Nat := 0
deriving DecidableEq, Repr, Inhabited

structure St where
  b    : Store.Bucket := {}
  led  : Ledger := {}
  pend : List Buf := []          -- value buffers owned by the write buffer: records with Ver > 0 not yet flushed
  cnt  : Counters := {}
deriving Inhabited

/-! ### requests -/

structure Req where
  cmd     : Bytes := []
  keys    : List Bytes := []
  flag    : Int := 0
  exptime : Int := 0
  cas     : Int := 0
  body    : Bytes := []        -- value of a store command / the number text of incr, decr
  noreply : Bool := false
deriving DecidableEq, Repr, Inhabited

/-- which branch of `Request.Read` / `Request.Process` a command line selects (both switch on the same word) -/
inductive Kind
  | get | store | append | delete | incr | decr | stats | version | okOnly | quit | none
deriving DecidableEq, Repr, Inhabited

inductive RErr
  | invalidCmd | valueTooLarge | badChunk | nonMemcache
deriving DecidableEq, Repr

inductive ReadRes
  | net                  -- ErrNetworkError: the stream ended inside the command
  | err (e : RErr)
  | ok
deriving DecidableEq, Repr

structure ReadOut where
  n       : Nat          -- bytes consumed
  res     : ReadRes
  req     : Req
  working : Bool         -- a request token is held
  led     : Ledger
  item    : Option Buf   -- the body buffer handed on to Process (store commands that parsed completely)
  kind    : Kind := .none
deriving Repr

def isStoreCmd (c : Bytes) : Bool :=
  c == ascii "set" || c == ascii "add" || c == ascii "replace" || c == ascii "cas" || c == ascii "append" || c == ascii "prepend"

def noreplyTok : Bytes := ascii "noreply"

/-- `config.IsValidValueSize` is `size <= BodyMax`; `Request.Read` also refuses negative lengths -/
def lengthOK (cfg : Cfg) (len : Int) : Bool := 0 ≤ len && len ≤ (cfg.bodyMax : Int) && len < 4294967296

def failRead (n : Nat) (led : Ledger) (e : RErr) (r : Req) : ReadOut :=
  { n := n, res := .err e, req := r, working := false, led := led, item := none }

/-- `Request.Read`, the store commands: header fields, then the length-prefixed body and its terminator;
    `n` is the length of the command line, `np` the number of its fields -/
def readStore (cfg : Cfg) (led : Ledger) (inp : Bytes) (n : Nat) (cmd : Bytes) (args : List Bytes) (np : Nat) : ReadOut :=
  let r0 : Req := { cmd := cmd }
  if np < 5 || np > 7 then failRead n led .invalidCmd r0 else
  let r1 : Req := { r0 with keys := args.take 1 }
  match atoi (args.getD 1 []), atoi (args.getD 2 []), atoi (args.getD 3 []) with
  | some flag, some exptime, some len =>
    let r2 : Req := { r1 with flag := flag, exptime := exptime }
    if !lengthOK cfg len then failRead n led .valueTooLarge r2 else
    let isCas := cmd == ascii "cas"
    if isCas && np < 6 then failRead n led .invalidCmd r2 else
    let casv : Int := if isCas then (atoi (args.getD 4 [])).getD 0 else 0
    let nrIdx := if isCas then 5 else 4
    if np > nrIdx + 1 && args.getD nrIdx [] ≠ noreplyTok then failRead n led .invalidCmd { r2 with cas := casv } else
    let r3 : Req := { r2 with cas := casv, noreply := np > nrIdx + 1 }
    let L := len.toNat
    -- RL.Get; item.Alloc(length); SetData.AddSizeAndCount(cap)
    let led1 := led.tokGet
    let a := led1.alloc cfg L
    let led3 := a.1.setAdd a.2.cap
    let rest := inp.drop n
    let undo := (led3.setSub a.2.cap).free a.2
    if rest.length < L + 2 then
      { n := inp.length, res := .net, req := r3, working := true, led := undo, item := none }
    else if (rest.drop L).take 2 ≠ crlf then
      { n := n + L + 2, res := .err .badChunk, req := { r3 with body := rest.take L }, working := true, led := undo, item := none }
    else
      { n := n + L + 2, res := .ok, req := { r3 with body := rest.take L }, working := true, led := led3, item := some a.2,
        kind := if cmd == ascii "append" || cmd == ascii "prepend" then .append else .store }
  | _, _, _ => failRead n led .invalidCmd r1

/-- `Request.Read`, after the command line was split into fields -/
def readCmd (cfg : Cfg) (led : Ledger) (inp : Bytes) (n : Nat) (cmd : Bytes) (args : List Bytes) : ReadOut :=
  let np := args.length + 1
  let r0 : Req := { cmd := cmd }
  if cmd == ascii "get" || cmd == ascii "gets" then
    if args.isEmpty then failRead n led .invalidCmd r0
    else { n := n, res := .ok, req := { r0 with keys := args }, working := true, led := led.tokGet, item := none, kind := .get }
  else if isStoreCmd cmd then readStore cfg led inp n cmd args np
  else if cmd == ascii "delete" then
    if np < 2 || np > 4 then failRead n led .invalidCmd r0
    else { n := n, res := .ok, req := { r0 with keys := args.take 1, noreply := np > 2 && args.getLast? == some noreplyTok },
           working := false, led := led, item := none, kind := .delete }
  else if cmd == ascii "incr" || cmd == ascii "decr" then
    if np < 3 || np > 4 then failRead n led .invalidCmd r0
    else { n := n, res := .ok,
           req := { r0 with keys := args.take 1, body := args.getD 1 [], noreply := np > 3 && args.getD 2 [] == noreplyTok },
           working := true, led := ({ led with setC := led.setC + 1 } : Ledger).tokGet, item := none,
           kind := if cmd == ascii "incr" then .incr else .decr }
  else if cmd == ascii "stats" then
    { n := n, res := .ok, req := { r0 with keys := args }, working := false, led := led, item := none, kind := .stats }
  else if cmd == ascii "quit" || cmd == ascii "version" || cmd == ascii "flush_all" || cmd == ascii "verbosity" then
    { n := n, res := .ok, req := { r0 with keys := args }, working := false, led := led, item := none,
      kind := if cmd == ascii "quit" then .quit else if cmd == ascii "version" then .version else .okOnly }
  else failRead n led .nonMemcache { r0 with keys := args }

/-- `Request.Read` -/
def readReq (cfg : Cfg) (led : Ledger) (inp : Bytes) : ReadOut :=
  match readLine inp with
  | none => { n := inp.length, res := .net, req := {}, working := false, led := led, item := none }
  | some line =>
    if !endsCRLF line then failRead line.length led .invalidCmd {} else
    match fields (line.take (line.length - 2)) with
    | [] => failRead line.length led .invalidCmd {}
    | cmd :: args => readCmd cfg led inp line.length cmd args

/-! ### replies -/

/-- a piece of output; the placeholders stand for bytes that depend on the server clock -/
inductive Seg
  | lit (b : Bytes)
  | ts                                              -- decimal unix time of the write (10 digits)
  | recDump (key : Bytes) (ver : Int) (flag : Nat) (body : Bytes)    -- an encoded record (24-byte header with ts and crc, key, value)
  | posOf (chunk off : Nat)                         -- "<chunk> <offset>" of the extended meta reply
  | lines (ls : List Bytes)                         -- these lines, in any order (leaf order is insertion order)
  | statsAll                                        -- the full `stats` listing
  | statVal (name : Bytes)                          -- the value of a statistic the model does not track
deriving Repr, DecidableEq

structure RItem where
  key  : Bytes
  flag : Int
  cas  : Int := 0
  body : List Seg
  len  : Nat              -- length of the rendered body
deriving Repr, DecidableEq

inductive Resp
  | value (cas : Bool) (items : List RItem)         -- VALUE blocks (map order: any) then END
  | stat (msg : List Seg)
  | num (msg : Bytes)                               -- INCR
  | line (status : Bytes) (msg : Bytes)
deriving Repr, DecidableEq

def sp : Bytes := [32]

/-- `Response.Write` -/
def Resp.write : Resp → List (List Seg) × List Seg     -- (blocks that may come in any order, then the tail)
  | .value cas items =>
    (items.map (fun it =>
      [Seg.lit (ascii "VALUE " ++ it.key ++ sp ++ itoa it.flag ++ sp ++ itoa it.len ++ (if cas then sp ++ itoa it.cas else []) ++ crlf)]
        ++ it.body ++ [Seg.lit crlf]), [Seg.lit (ascii "END" ++ crlf)])
  | .stat msg => ([], msg ++ [Seg.lit (ascii "END" ++ crlf)])
  | .num msg => ([], [Seg.lit (msg ++ crlf)])
  | .line status msg => ([], [Seg.lit (status ++ (if msg = [] then [] else sp ++ msg) ++ crlf)])

/-! ### the storage client -/

def hashOf (k : Bytes) : Nat := Ref.keyHash k

def plainSize (klen blen : Nat) : Nat := (24 + klen + blen + 255) / 256 * 256

inductive GetRes
  | err (msg : Bytes)
  | none
  | item (it : RItem)

def hexVal? (c : UInt8) : Option Nat :=
  if 48 ≤ c ∧ c ≤ 57 then some (c.toNat - 48)
  else if 97 ≤ c ∧ c ≤ 102 then some (c.toNat - 87)
  else if 65 ≤ c ∧ c ≤ 70 then some (c.toNat - 55)
  else none

/-- `ParsePathString`: the digits, or the first character that is not a hex digit -/
def parsePath : Bytes → Except UInt8 (List Nat)
  | [] => .ok []
  | c :: rest =>
    match hexVal? c with
    | none => .error c
    | some d => match parsePath rest with
      | .ok ds => .ok (d :: ds)
      | .error e => .error e

def contentOf (b : Store.Bucket) : Tree.Content :=
  b.tree.map fun (h, it) => { khash := h, ver := it.ver, vhash := it.vhash }

def hexDigitB (n : Nat) : UInt8 := if n < 10 then (48 + n).toUInt8 else (87 + n).toUInt8
def hex16 (n : Nat) : Bytes := (List.range 16).map fun i => hexDigitB ((n / 16 ^ (15 - i)) % 16)

/-- the text of a directory listing (`HTree.ListDir`): item lines in leaf order are compared as a set by the driver -/
def listingText : Tree.Listing → List Bytes
  | .nodes ch => (List.range ch.length).map fun i =>
      let (h, c) := ch.getD i (0, 0)
      [hexDigitB i] ++ ascii "/ " ++ itoa h ++ sp ++ itoa c ++ [10]
  | .items es => es.map fun e => hex16 e.khash ++ sp ++ itoa e.vhash ++ sp ++ itoa e.ver ++ [10]
  | .none => []

def quoteErr (c : UInt8) : Bytes := ascii "strconv.ParseInt: parsing \"" ++ [c] ++ ascii "\": invalid syntax"

/-- what holding a read buffer for a reply adds to the ledger (`readRecordAt` / `Copy`: malloc above the
    threshold, GetData.AddSizeAndCount) -/
def acquire (l : Ledger) (b : Buf) : Ledger :=
  (if b.inC then { l with allocC := l.allocC + 1, allocS := l.allocS + b.cap } else l).getAdd b.cap

def releaseRead (l : Ledger) (b : Buf) : Ledger := (l.getSub b.cap).free b

/-- `StorageClient.Get`: the reply item and, for a hit on an ordinary key, the read buffer that stays allocated
    and counted until `CleanBuffer`.  The special keys ('@', '?') and tombstones read a record too but release
    it before returning (add and subtract inside the call): nothing is held, nothing is modelled. -/
def clientGet (cfg : Cfg) (st : St) (key : Bytes) : GetRes × Option Buf :=
  match key with
  | [] => (.none, none)
  | 64 :: rest =>                                           -- '@'
    match rest with
    | 64 :: key2 =>                                         -- "@@" + 16 hex digits: the raw record at a key hash
      if key2.length ≠ 16 then (.err (ascii "bad command line format"), none) else
      match parsePath key2 with
      | .error c => (.err (quoteErr c), none)
      | .ok ds =>
        match AMap.get st.b.tree (Tree.digitsVal ds) with
        | none => (.none, none)
        | some it =>
          match st.b.readAt it.pos with
          | none => (.err (ascii "?"), none)
          | some r =>
            (.item { key := key, flag := 0, body := [.recDump r.key r.ver r.flag r.body], len := 24 + r.key.length + r.body.length }, none)
    | _ =>
      if key.length > 11 && rest.take 10 == ascii "collision_" then
        if key.length > 15 && (rest.drop 10).take 4 == ascii "all_" then (.none, none)
        else (.item { key := key, flag := 0, body := [.lit (ascii "0 0 0 0")], len := 7 }, none)
      else
        match parsePath rest with
        | .error _ => (.item { key := key, flag := 0, body := [], len := 0 }, none)      -- Prepare fails: empty listing
        | .ok ds =>
          if ds.length > 16 then (.item { key := key, flag := 0, body := [], len := 0 }, none) else
          let listing := Tree.listBucket (contentOf st.b) 0 cfg.height cfg.listKey ds
          let lines := listingText listing
          let body : List Seg := match listing with
            | .items _ => [.lines lines]
            | _ => [.lit lines.flatten]
          (.item { key := key, flag := 0, body := body, len := lines.flatten.length }, none)
  | 63 :: rest =>                                           -- '?': meta
    if rest = [] then (.err (ascii "bad key ?"), none) else
    let (ext, k) := match rest with
      | 63 :: k2 => (true, k2)
      | _ => (false, rest)
    if !validKeyString k then (.none, none) else
    match (Store.step hashOf cfg.store st.b (.info k)) with
    | (_, .info ver vh flag len _, pos) =>
      let head := [Seg.lit (itoa ver ++ sp ++ itoa vh ++ sp ++ itoa flag ++ sp ++ itoa len ++ sp), Seg.ts]
      let n0 := (itoa ver).length + (itoa (vh : Int)).length + (itoa (flag : Int)).length + (itoa (len : Int)).length + 4 + 10
      match ext, pos with
      | true, some p =>
        (.item { key := key, flag := 0, body := head ++ [.lit sp, .posOf p.chunk p.off], len := n0 + 2 + (itoa p.chunk).length + (itoa p.off).length }, none)
      | true, none => (.item { key := key, flag := 0, body := head ++ [.lit (ascii " 0 0")], len := n0 + 4 }, none)
      | false, _ => (.item { key := key, flag := 0, body := head, len := n0 }, none)
    | _ => (.none, none)
  | _ =>
    match Store.step hashOf cfg.store st.b (.get key) with
    | (_, .value flag body, _) =>
      (.item { key := key, flag := flag, body := [.lit body], len := body.length }, some { cap := body.length, inC := body.length > cfg.bodyInC })
    | (_, .error, _) => (.err (ascii "?"), none)
    | _ => (.none, none)

/-- one `get`/`gets` key list through GetMulti: items (first occurrence of a key only) and the buffers held -/
def multiGet (cfg : Cfg) (st : St) : List Bytes → List Bytes → List RItem × List Buf
  | [], _ => ([], [])
  | k :: ks, seen =>
    if seen.contains k then multiGet cfg st ks seen else
    match clientGet cfg st k with
    | (.item it, buf) =>
      let (its, bufs) := multiGet cfg st ks (k :: seen)
      (it :: its, buf.toList ++ bufs)
    | _ => multiGet cfg st ks seen

def statLine (name : Bytes) (v : Nat) : Seg := .lit (ascii "STAT " ++ name ++ sp ++ itoa v ++ crlf)

structure Served where
  st      : St
  n       : Nat
  resp    : Option Resp
  closing : Bool

abbrev PRes := St × Option Resp × List Buf × Bool     -- state, reply, read buffers for CleanBuffer, quit

def replyIf (noreply : Bool) (st : St) (x : Resp) : PRes := (st, if noreply then none else some x, [], false)

def processGet (cfg : Cfg) (st : St) (r : Req) : PRes :=
  if r.keys.any (fun k => !(0 < k.length && k.length ≤ cfg.maxKeyLen)) then
    (st, some (.line (ascii "CLIENT_ERROR") (ascii "key length error")), [], false)
  else
    let casF := r.cmd == ascii "gets"
    match r.keys with
    | [k] =>
      let cnt1 := { st.cnt with cmdGet := st.cnt.cmdGet + 1 }
      match clientGet cfg st k with
      | (.err msg, _) => ({ st with cnt := cnt1 }, some (.line (ascii "SERVER_ERROR") msg), [], false)
      | (.none, _) => ({ st with cnt := { cnt1 with getMisses := cnt1.getMisses + 1 } }, some (.value casF []), [], false)
      | (.item it, buf) =>
        ({ st with led := buf.toList.foldl acquire st.led, cnt := { cnt1 with getHits := cnt1.getHits + 1 } }, some (.value casF [it]), buf.toList, false)
    | ks =>
      let (its, bufs) := multiGet cfg st ks []
      let c := st.cnt
      let cnt' : Counters := { c with cmdGet := c.cmdGet + ks.length, getHits := c.getHits + its.length,
                                      getMisses := c.getMisses + (ks.length - its.length) }
      ({ st with led := bufs.foldl acquire st.led, cnt := cnt' },
       some (.value casF its), bufs, false)

def processStore (cfg : Cfg) (st : St) (r : Req) (buf : Buf) : PRes :=
  let key := r.keys.headD []
  let st := { st with cnt := { st.cnt with cmdSet := st.cnt.cmdSet + 1 } }
  let drop : Ledger := (st.led.setSub buf.cap).free buf
  -- refused without touching the store: an invalid key, a negative revision, the server-reserved flag bit 0x10000
  -- (since /repo "fix: refuse the server-reserved compression flag from clients")
  if !validKeyString key || r.exptime < 0 || ((r.flag % 4294967296).toNat / 65536) % 2 == 1 then
    replyIf r.noreply { st with led := drop } (.line (ascii "NOT_STORED") [])
  else
    let flag := (r.flag % 4294967296).toNat
    let rev : Int := Int32.toInt (Int32.ofInt r.exptime)
    match Store.checkAndSet hashOf cfg.store st.b key r.body flag rev (some 0) (plainSize key.length r.body.length) 0 with
    | (b', .done (some _)) =>
      -- written: the buffer now belongs to the write buffer (SetData -> FlushData)
      replyIf r.noreply { st with b := b', led := (st.led.flushAdd buf.cap).setSub buf.cap, pend := st.pend ++ [buf] } (.line (ascii "STORED") [])
    | (b', .done none) => replyIf r.noreply { st with b := b', led := drop } (.line (ascii "STORED") [])
    | (b', .notFound) => replyIf r.noreply { st with b := b', led := drop } (.line (ascii "SERVER_ERROR") (ascii "NOT_FOUND"))

def processAppend (st : St) (r : Req) (buf : Buf) : PRes :=
  let st := { st with cnt := { st.cnt with cmdSet := st.cnt.cmdSet + 1 }, led := (st.led.setSub buf.cap).free buf }
  -- Process returns the store's error: with a reply to write it is replaced by the write's result; with noreply it
  -- reaches Serve, which closes the connection
  if r.noreply then (st, none, [], true) else (st, some (.line (ascii "SERVER_ERROR") (ascii "operation not support")), [], false)

def processIncr (cfg : Cfg) (st : St) (r : Req) : PRes :=
  let key := r.keys.headD []
  let st := { st with cnt := { st.cnt with cmdSet := st.cnt.cmdSet + 1 } }
  let uncount : Ledger := { st.led with setC := st.led.setC - 1 }
  match atoi r.body with
  | none => replyIf r.noreply { st with led := uncount } (.line (ascii "CLIENT_ERROR") (ascii "invalid number"))
  | some d =>
    if !validKeyString key then replyIf r.noreply { st with led := uncount } (.num (itoa 0)) else
    match Store.step hashOf cfg.store st.b (.incr key d (plainSize key.length 0) 0) with
    | (b', .num v, some _) =>
      let buf : Buf := { cap := 0, inC := false }
      replyIf r.noreply { st with b := b', led := (st.led.flushAdd 0).setSub 0, pend := st.pend ++ [buf] } (.num (itoa v))
    | (b', .num v, none) => replyIf r.noreply { st with b := b', led := uncount } (.num (itoa v))
    | (b', _, _) => replyIf r.noreply { st with b := b', led := uncount } (.num (itoa 0))

def processDelete (cfg : Cfg) (st : St) (r : Req) : PRes :=
  let key := r.keys.headD []
  if !validKeyString key then replyIf r.noreply st (.line (ascii "NOT_FOUND") []) else
  let st1 := { st with cnt := { st.cnt with cmdDelete := st.cnt.cmdDelete + 1 } }
  match Store.step hashOf cfg.store st.b (.delete key (plainSize key.length 0) 0) with
  | (b', .deleted, _) => replyIf r.noreply { st1 with b := b' } (.line (ascii "DELETED") [])
  | (b', _, _) => replyIf r.noreply { st1 with b := b' } (.line (ascii "NOT_FOUND") [])

def processStats (st : St) (r : Req) : PRes :=
  let known (k : Bytes) : Option Nat :=
    if k == ascii "cmd_get" then some st.cnt.cmdGet
    else if k == ascii "cmd_set" then some st.cnt.cmdSet
    else if k == ascii "cmd_delete" then some st.cnt.cmdDelete
    else if k == ascii "get_hits" then some st.cnt.getHits
    else if k == ascii "get_misses" then some st.cnt.getMisses
    else none
  if r.keys.isEmpty then (st, some (.stat [.statsAll]), [], false)
  else (st, some (.stat (r.keys.map fun k => match known k with | some v => statLine k v | none => .statVal k)), [], false)

/-- `Request.Process` for a command that parsed completely; returns the state (ledger still holding the token),
    the reply and the read buffers `CleanBuffer` will release -/
def process (cfg : Cfg) (st : St) (r : Req) (item : Option Buf) : Kind → PRes
  | .get => processGet cfg st r
  | .store => processStore cfg st r (item.getD { cap := 0, inC := false })
  | .append => processAppend st r (item.getD { cap := 0, inC := false })
  | .incr => processIncr cfg st r
  | .decr => replyIf r.noreply { st with led := { st.led with setC := st.led.setC - 1 } } (.line (ascii "ERROR") [])
  | .delete => processDelete cfg st r
  | .stats => processStats st r
  | .version => (st, some (.line (ascii "VERSION") cfg.version), [], false)
  | .okOnly => (st, some (.line (ascii "OK") []), [], false)
  | .quit => (st, none, [], true)
  | .none => (st, none, [], true)

/-- `ServerConn.ServeOnce` on the bytes still to come -/
def serveOnce (cfg : Cfg) (st : St) (inp : Bytes) : Served :=
  let ro := readReq cfg st.led inp
  let put (l : Ledger) : Ledger := if ro.working then l.tokPut else l
  match ro.res with
  | .net => { st := { st with led := put ro.led }, n := ro.n, resp := none, closing := true }
  | .err .nonMemcache =>
    let resp : Resp := if ro.req.cmd == ascii "optimize_stat" then .line (ascii "none") [] else .line (ascii "ERROR") []
    { st := { st with led := put ro.led }, n := ro.n, resp := some resp, closing := false }
  | .err e =>
    let msg := match e with
      | .invalidCmd => ascii "invalid cmd"
      | .valueTooLarge => ascii "value too large"
      | .badChunk => ascii "bad data chunk"
      | .nonMemcache => []
    { st := { st with led := put ro.led }, n := ro.n, resp := some (.line (ascii "CLIENT_ERROR") msg), closing := false }
  | .ok =>
    let (st1, resp, bufs, quit) := process cfg { st with led := ro.led } ro.req ro.item ro.kind
    -- reply written, then CleanBuffer, then the token goes back
    let led2 := bufs.foldl releaseRead st1.led
    { st := { st1 with led := put led2 }, n := ro.n, resp := resp, closing := quit }

/-- the flusher: every pending record goes to its file; its buffer leaves FlushData and is freed -/
def flush (st : St) : St :=
  let c := st.b.chunk st.b.head
  { st with b := st.b.setChunk st.b.head { c with flushed := c.recs.length },
            led := st.pend.foldl (fun l buf => (l.flushSub buf.cap).free buf) st.led, pend := [] }

/-- serve a whole connection: until it closes or `fuel` commands were served; returns state and the replies -/
def serve (cfg : Cfg) : Nat → St → Bytes → St × List (Option Resp)
  | 0, st, _ => (st, [])
  | fuel + 1, st, inp =>
    let s := serveOnce cfg st inp
    if s.closing then (s.st, [s.resp])
    else
      let (st', rs) := serve cfg fuel s.st (inp.drop s.n)
      (st', s.resp :: rs)

/-! ### the client side of the wire: `Request.Write` and `Response.Read` (round trips) -/

def joinSp : List Bytes → Bytes
  | [] => []
  | [x] => x
  | x :: xs => x ++ sp ++ joinSp xs

/-- `Request.Write` -/
def writeReq (r : Req) : Bytes :=
  let nr := if r.noreply then sp ++ noreplyTok else []
  if isStoreCmd r.cmd then
    let k := r.keys.headD []
    (if r.cmd == ascii "cas" then
      r.cmd ++ sp ++ k ++ sp ++ itoa r.flag ++ sp ++ itoa r.exptime ++ sp ++ itoa r.body.length ++ sp ++ itoa r.cas ++ nr ++ crlf
     else
      r.cmd ++ sp ++ k ++ sp ++ itoa r.flag ++ sp ++ itoa r.exptime ++ sp ++ itoa r.body.length ++ nr ++ crlf)
    ++ r.body ++ crlf
  else if r.cmd == ascii "incr" || r.cmd == ascii "decr" then
    r.cmd ++ sp ++ r.keys.headD [] ++ sp ++ r.body ++ nr ++ crlf
  else
    joinSp (r.cmd :: r.keys) ++ nr ++ crlf

end Proto

/-! ### `Response.Read` (the project's own client-side reply parser) -/
namespace Proto

structure PItem where
  key : Bytes
  flag : Int
  cas : Int := 0
  body : Bytes
deriving DecidableEq, Repr

structure PResp where
  status : Bytes
  msg : Bytes := []
  items : List PItem := []      -- the reply's map: one entry per key, a later one replaces an earlier one
deriving DecidableEq, Repr

def putItem (items : List PItem) (it : PItem) : List PItem :=
  if items.any (fun x => x.key == it.key) then items.map (fun x => if x.key == it.key then it else x) else items ++ [it]

def endStatuses : List Bytes :=
  [ascii "END", ascii "STORED", ascii "NOT_STORED", ascii "DELETED", ascii "NOT_FOUND", ascii "OK"]
def msgStatuses : List Bytes := [ascii "ERROR", ascii "SERVER_ERROR", ascii "CLIENT_ERROR", ascii "VERSION"]

/-- `Response.Read`: the parsed reply and the bytes left over; `none`: an error (or a panic on a line shorter than 2 bytes) -/
def readResp (cfg : Cfg) : Nat → Bytes → List PItem → Option (PResp × Bytes)
  | 0, _, _ => none
  | fuel + 1, inp, items =>
    match readLine inp with
    | none => none
    | some line =>
      if line.length < 2 then none else
      let parts := fields (line.take (line.length - 2))
      let rest := inp.drop line.length
      match parts with
      | [] => none
      | status :: args =>
        if status == ascii "VALUE" then
          if parts.length < 4 then none else
          match atoi (args.getD 1 []), atoi (args.getD 2 []) with
          | some flag, some len =>
            if !(0 ≤ len && len ≤ (cfg.bodyMax : Int)) then none else
            let cas? : Option Int := if parts.length == 5 then atoi (args.getD 3 []) else some 0
            match cas? with
            | none => none
            | some cas =>
              let L := len.toNat
              if rest.length < L then none else
              readResp cfg fuel (rest.drop (L + 2)) (putItem items { key := args.getD 0 [], flag := flag, cas := cas, body := rest.take L })
          | _, _ => none
        else if status == ascii "STAT" then
          if parts.length ≠ 3 then none
          else readResp cfg fuel rest (putItem items { key := args.getD 0 [], flag := 0, body := args.getD 1 [] })
        else if endStatuses.contains status then some ({ status := status, items := items }, rest)
        else if msgStatuses.contains status then some ({ status := status, msg := joinSp args, items := items }, rest)
        else match atoi status with
          | some _ => some ({ status := ascii "INCR", msg := status, items := items }, rest)
          | none => none

end Proto
