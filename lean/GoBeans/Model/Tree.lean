/-
  Merkle tree listing (C08).
  (1) `nodeSum` / `listBucket` / `listUpper`: the listing recomputed from CONTENT ONLY — the set of (key hash, version, value hash) entries —
      for every prefix, bucket depth and tree height: leaf summaries are sums over live entries, inner summaries a
      fold of the 16 children (×97 per child once the subtree holds more than ThresholdBigHash keys), listings
      show the 16 children or, below the list-keys threshold / at leaf level, the entries under the prefix.
      Being a function of content it is history independent by construction; engine `seq` compares the real
      `get @prefix` answers with it on every run.
  (2) `Leaf`: the incremental summary bookkeeping of htree.go (`setToLeaf` / `remvoeFromLeaf`) as a small state
      machine; Lemmas/Tree.lean proves its summary always equals the content sum.
  Core-only.
-/
import GoBeans.Gen.Kernels

namespace Tree

structure Ent where
  khash : Nat
  ver   : Int
  vhash : Nat
deriving DecidableEq, Repr, Inhabited

abbrev Content := List Ent      -- one entry per key hash (live: ver > 0, tombstone: ver < 0)

def M16 : Nat := 65536

/-- the contribution of one live entry to its leaf's hash: vhash * lo16(khash >> 32)  (mod 2^16) -/
def contrib (e : Ent) : Nat := (e.vhash * ((e.khash / 2^32) % M16)) % M16

/-- leaf summary = (number of live entries, sum of their contributions mod 2^16) -/
def leafSum (c : Content) : Nat × Nat :=
  c.foldl (fun (acc : Nat × Nat) e => if e.ver > 0 then (acc.1 + 1, (acc.2 + contrib e) % M16) else acc) (0, 0)

/-- the top `n` hex digits of a 64-bit hash, as a number -/
def topDigits (kh : Nat) (n : Nat) : Nat := kh / 16 ^ (16 - n)

def under (c : Content) (n : Nat) (p : Nat) : Content := c.filter (fun e => topDigits e.khash n == p)

/-- summary of the node whose path is the `n` digits `p`, with `below` levels under it (0 = leaf) -/
def nodeSum (c : Content) (n : Nat) (p : Nat) : Nat → Nat × Nat
  | 0 => leafSum (under c n p)
  | below + 1 =>
    let ch := (List.range 16).map (fun i => nodeSum c (n + 1) (p * 16 + i) below)
    let cnt := ch.foldl (fun a x => a + x.1) 0
    let h := if cnt > Gen.ThresholdBigHash
      then ch.foldl (fun h x => (h * 97 + x.2) % M16) 0
      else ch.foldl (fun h x => (h + x.2) % M16) 0
    (cnt, h)

inductive Listing
  | nodes (ch : List (Nat × Nat))          -- 16 × (hash, count)
  | items (es : List Ent)                   -- entries under the prefix (live and tombstones)
  | none
deriving Repr

def digitsVal (ds : List Nat) : Nat := ds.foldl (fun a d => a * 16 + d) 0

/-- `HTree.ListDir` of the bucket tree (depth digits name the bucket, `height` levels) at prefix `ds`
    (length ≥ depth), over the content of that bucket -/
def listBucket (c : Content) (depth height thrList : Nat) (ds : List Nat) : Listing :=
  let L := ds.length
  let l := min L (depth + height - 1)
  let level := l - depth
  let p := digitsVal (ds.take l)
  let node := nodeSum c l p (height - 1 - level)
  if level ≥ height - 1 ∨ node.1 < thrList then
    .items (under c L (digitsVal ds))
  else
    .nodes ((List.range 16).map (fun i => let s := nodeSum c (l + 1) (p * 16 + i) (height - 2 - level); (s.2, s.1)))

/-- `HStore.ListUpper`: prefix shorter than the bucket depth; `root b` is the root summary of bucket `b`
    (zero for a bucket that is not served) -/
def upperSum (root : Nat → Nat × Nat) (depth : Nat) (n : Nat) (p : Nat) : Nat → Nat × Nat
  | 0 => root p
  | below + 1 =>
    let ch := (List.range 16).map (fun i => upperSum root depth (n + 1) (p * 16 + i) below)
    (ch.foldl (fun a x => a + x.1) 0, ch.foldl (fun h x => (h * 97 + x.2) % M16) 0)

def listUpper (root : Nat → Nat × Nat) (depth : Nat) (ds : List Nat) : Listing :=
  let L := ds.length
  let p := digitsVal ds
  .nodes ((List.range 16).map (fun i => let s := upperSum root depth (L + 1) (p * 16 + i) (depth - L - 1); (s.2, s.1)))

/-! incremental leaf bookkeeping -/

structure Leaf where
  items : List Ent := []        -- insertion order; one per key hash
  count : Nat := 0
  hash  : Nat := 0              -- mod 2^16
deriving Repr

def Leaf.find (lf : Leaf) (kh : Nat) : Option Ent := lf.items.find? (fun e => e.khash == kh)

/-- `setToLeaf`: replace or append the item; adjust count and hash by the difference -/
def Leaf.set (lf : Leaf) (e : Ent) : Leaf :=
  let old := lf.find e.khash
  let items := match old with
    | some _ => lf.items.map (fun x => if x.khash == e.khash then e else x)
    | none => lf.items ++ [e]
  let addC := if e.ver > 0 then 1 else 0
  let addH := if e.ver > 0 then e.vhash % M16 else 0
  let (subC, subH) := match old with
    | some o => if o.ver > 0 then (1, o.vhash % M16) else (0, 0)
    | none => (0, 0)
  -- node.hash += (vhashNew - vhashOld) * uint16(khash>>32)   in uint16 arithmetic
  let k := (e.khash / 2^32) % M16
  { items := items, count := lf.count + addC - subC,
    hash := (lf.hash + ((addH + M16 - subH) % M16) * k) % M16 }

/-- `remvoeFromLeaf` (remove by key hash) -/
def Leaf.remove (lf : Leaf) (kh : Nat) : Leaf :=
  match lf.find kh with
  | none => lf
  | some o =>
    let k := (kh / 2^32) % M16
    { items := lf.items.filter (fun x => x.khash != kh),
      count := if o.ver > 0 then lf.count - 1 else lf.count,
      hash := if o.ver > 0 then (lf.hash + M16 - ((o.vhash % M16) * k) % M16) % M16 else lf.hash }

end Tree
