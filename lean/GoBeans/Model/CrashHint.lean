/-
  Process kill THROUGH THE INDEX FILES (C06) — hand-written model of what a bucket directory looks like when the
  process dies at any instant of normal operation, and of the start path that reads it back:
    store/data.go       dataStore.AppendRecord (rotation), dataStore.flush / flushPending, ListFiles
    store/datachunk.go  dataChunk.AppendRecord, dataChunk.flush (what is in the file when)
    store/hint.go       hintMgr.set / setItem, hintChunk.setItem / rotate, hintMgr.trydump / dump / close,
                        findValidPaths, loadHintsByChunk (with and without the "hint beyond data" drop of fe79633)
    store/hintfile.go   hintFileWriter.close (tmp file + rename: a split file exists completely or not at all)
    store/htree.go      HTree.dump (tmp file + rename)
    store/bucket.go     Bucket.set, Bucket.close, dumpHtree / removeHtree, Bucket.open, checkHintWithData,
                        buildHintFromData, updateHtreeFromHint, checkForDump
  on the record level of GoBeans/Model/Store.lean; the hint mechanism itself is GoBeans/Model/HintIndex.lean
  (`HChunk.setItem`, `Buf.dump`, `validPrefix`, `scanFrom`, `openTree`, …), reused unchanged.

  Model/Crash.lean abstracts the next start to "replay of the surviving records" and leaves the index files out.
  Here they are in: a state is the MEMORY of the process (write buffers, hint buffers, tree) together with the DISK
  (per data file the bytes written so far, the `*.idx.s` split files already renamed into place, the `*.idx.hash`
  tree dump); `step` is one atomic action of the code (each changes at most one file); a kill may follow any action:
  `St.crash` forgets the memory, `recover` is `Bucket.open` on what is left.  Which disk states a kill can leave is
  thereby DEFINED by the operations (`run`), not assumed.

  What is atomic, what is free:
   * `write`       one `Bucket.set`: record into the write buffer of the head file (rotation first if it does not fit),
                   tree entry, hint item into the newest split of the file's hint chunk (a full split is closed).
                   Nothing reaches the disk.
   * `flushTo i n` the file of chunk `i` grows to `n` bytes, anywhere up to the end of the buffered records: `flush`
                   writes through a bufio layer, so a kill finds any prefix — inside a record: a torn tail.  Any
                   chunk, any time: periodic flusher, post-rotation goroutine, `flushPending`, close.
   * `rotateSplit i`  the newest split of chunk `i` is closed (`trydump`: silence time over, or `dumplast`)
   * `dumpSplit i j`  the closed split `j` of chunk `i` is written and renamed to `<i>.<j>.idx.s`.  ANY closed split
                   with items, in ANY order, at ANY time relative to the flushes: the write path dumps a full split
                   at once (`setItem → trydump`), the dumper after `SecsBeforeDump`, two dumpers overtake each
                   other (`hintSplit.dumping`), `close` dumps what is left.  So a split file may describe records
                   that are not in the data file (yet).
   * `beginClose`, `removeDump`, `writeDump`   `Bucket.close`: no writes any more; when every file is flushed
                   (`flushPending`, `flush(-1, true)` come first in `close`) `dumpHtree` removes the old dump and
                   writes the tree under the id of the largest split dumped so far (tmp + rename)
   * `restart`     kill now (or: close is over), then `Bucket.open` — atomic (a kill during a start is not a step).
  Out of scope: GC (C07), the merged hint `*.idx.m` and the collision table (never read into the tree by `open`;
  colliding keys are C13), `check_vhash` tree-only version updates, I/O errors.  Core-only, executable.
-/
import GoBeans.Model.HintIndex

namespace CrashHint
open Store Spec HintIndex

/-! ### state -/

/-- a `*.idx.hash` file: `TreeID = (tc, ts)` from its name, the tree it holds -/
structure TreeDump where
  tc   : Nat
  ts   : Int
  tree : Tree
deriving Repr, Inhabited

/-- one data file with its hint chunk, memory and disk -/
structure Chunk where
  recs    : FileRecs := []                  -- every record appended (`dataChunk`: file ∪ `wbuf`), offset order
  onDisk  : Nat := 0                        -- size of `NNN.data` in bytes (what `flush` has written through)
  created : Bool := false                   -- `NNN.data` exists
  hint    : HChunk := {}                    -- `hintChunk.splits` built in this process life
  files   : List (Option SplitFile) := []   -- `NNN.JJJ.idx.s` renamed into place, by split number
deriving Repr, Inhabited

structure St where
  prev      : List Chunk := []              -- chunks 0 .. newHead-1
  head      : Chunk := {}                   -- chunk `newHead` (receives appends)
  tree      : Tree := []                    -- `bkt.htree`
  treeID    : Nat × Int := (0, -1)          -- `bkt.TreeID`
  maxDumped : Nat × Int := (0, -1)          -- `bkt.hints.maxDumpedHintID`
  dump      : Option TreeDump := none       -- the `*.idx.hash` file on disk
  closing   : Bool := false                 -- `Bucket.close` has begun (no client writes any more)
  pending   : Bool := false                 -- `dumpHtree`: `removeHtree` done, `htree.dump` not yet renamed
deriving Repr, Inhabited

def St.all (s : St) : List Chunk := s.prev ++ [s.head]

def updAt {α : Type} : List α → Nat → (α → α) → List α
  | [], _, _ => []
  | a :: l, 0, f => f a :: l
  | a :: l, i + 1, f => a :: updAt l i f

def St.modChunk (s : St) (i : Nat) (f : Chunk → Chunk) : St :=
  if i < s.prev.length then { s with prev := updAt s.prev i f }
  else if i = s.prev.length then { s with head := f s.head }
  else s

/-! ### write path -/

/-- what `Bucket.set` puts into the tree (`htree.set(ki, &v.Meta, pos)`, bucket.go:409): version and value hash of
    the payload; a delete (`Ver < 0`) leaves an ENTRY with its negative version and value hash 0 — in memory a
    deleted key is a tombstone entry, after a rebuild from hints it is no entry (`updateHtreeFromHint` removes) -/
def memItem (pos : Pos) (r : Rec) : TItem :=
  { pos := pos, ver := r.ver, vhash := if r.ver > 0 then vhashOf r.body else 0 }

/-- `dataChunk.AppendRecord` + `hintMgr.set → hintChunk.setItem` for one record of this chunk -/
def Chunk.push (hash : Key → Nat) (cap : Nat) (c : Chunk) (p : Nat × Rec) : Chunk :=
  { c with recs := c.recs ++ [p], hint := c.hint.setItem cap (itemOfWrite hash p) p.2.size }

/-- `Bucket.set` (bucket.go:403-412) with `dataStore.AppendRecord` (data.go:65-98): offset = writing head of the head
    file; `currOffset+size > DataFileMax` → `newHead++`, offset 0 (the old head is flushed by a goroutine: a later
    `flushTo`).  Refused while closing (the server has stopped serving). -/
def St.write (hash : Key → Nat) (cfg : Store.Cfg) (cap : Nat) (s : St) (r : Rec) : St :=
  if s.closing then s else
  let off := dataSizeOf s.head.recs
  if off + r.size > cfg.dataFileMax then
    { s with prev := s.prev ++ [s.head], head := ({} : Chunk).push hash cap (0, r),
             tree := AMap.set s.tree (hash r.key) (memItem { chunk := s.prev.length + 1, off := 0 } r) }
  else
    { s with head := s.head.push hash cap (off, r),
             tree := AMap.set s.tree (hash r.key) (memItem { chunk := s.prev.length, off := off } r) }

/-! ### flush -/

/-- `dataStore.flush(chunk, …)` → `dataChunk.flush` (datachunk.go:89-121): the buffered records are appended to the
    file through `bufio.Writer` (`Conf.BufIOCap`); the file is created if need be (`GetStreamWriter`).  The model
    lets the file grow to ANY size between what it has and the end of the buffered records. -/
def Chunk.flushTo (c : Chunk) (n : Nat) : Chunk :=
  if c.onDisk ≤ n ∧ n ≤ dataSizeOf c.recs then { c with onDisk := n, created := true } else c

/-! ### hint splits: close, dump -/

/-- `trydump` closing the newest split (hint.go:397-413): `needDump` (it holds items), `ck.rotate()` -/
def Chunk.rotateSplit (c : Chunk) : Chunk :=
  if c.hint.last.items.isEmpty then c else { c with hint := { closed := c.hint.closed ++ [c.hint.last], last := {} } }

/-- put a file at split number `j` (numbers without a file in between stay `none`) -/
def setPad {α : Type} : List (Option α) → Nat → α → List (Option α)
  | [], 0, a => [some a]
  | [], j + 1, a => none :: setPad [] j a
  | _ :: l, 0, a => some a :: l
  | x :: l, j + 1, a => x :: setPad l j a

/-- `HintID.isLarger` (hint.go:74-76) -/
def isLarger (id : Nat × Int) (ck : Nat) (sp : Int) : Bool := decide (ck > id.1) || (ck == id.1 && decide (sp ≥ id.2))

/-- `HintID.setIfLarger` -/
def setIfLarger (id : Nat × Int) (ck : Nat) (sp : Int) : Nat × Int := if isLarger id ck sp then (ck, sp) else id

/-- `hintMgr.dump(chunkID, splitID)` (hint.go:357-377) of a CLOSED split that holds items and has no file yet:
    `HintBuffer.Dump` (sorted, `datasize = maxoffset`), `hintFileWriter.close` renames `….idx.s.tmp` into place;
    `maxDumpedHintID.setIfLarger` -/
def St.dumpSplit (s : St) (i j : Nat) : St :=
  match s.all[i]? with
  | none => s
  | some c =>
    match c.hint.closed[j]? with
    | none => s
    | some b =>
      if b.items.isEmpty || (c.files.getD j none).isSome then s
      else { s.modChunk i (fun c => { c with files := setPad c.files j b.dump }) with
             maxDumped := setIfLarger s.maxDumped i j }

/-! ### close -/

def allFlushed (s : St) : Bool := s.all.all (fun c => c.onDisk == dataSizeOf c.recs)

/-- `Bucket.dumpHtree`, first half (bucket.go:298-305; called from `close`, bucket.go:282-296): `flushPending` and `flush(-1, true)` have run (`allFlushed`; no
    write interleaves), `TreeID.isLarger(maxDumpedHintID)` → `removeHtree()`, `TreeID = hintID` -/
def St.removeDump (s : St) : St :=
  if s.closing && !s.pending && allFlushed s && isLarger s.treeID s.maxDumped.1 s.maxDumped.2 then
    { s with dump := none, treeID := s.maxDumped, pending := true }
  else s

/-- second half: `htree.dump(path(TreeID))`, visible at the rename.  A split id -1 (nothing ever dumped) gives the file
    name `000.*.idx.hash` (`idToStr(-1) = "*"`), which no later start recognises (`parseIDFromName` fails): no dump. -/
def St.writeDump (s : St) : St :=
  if s.pending then
    { s with dump := if s.treeID.2 < 0 then none else some { tc := s.treeID.1, ts := s.treeID.2, tree := s.tree },
             pending := false }
  else s

/-! ### what a kill leaves -/

/-- one data file and the split files of its chunk, as found by the next process -/
structure DFile where
  recs    : FileRecs                  -- the records that lie completely inside the file
  size    : Nat                       -- `st.Size()`
  torn    : Bool                      -- the file ends inside a record
  created : Bool
  hints   : List (Option SplitFile)
deriving Repr, Inhabited

structure Disk where
  files : List DFile
  dump  : Option TreeDump
deriving Repr, Inhabited

/-- as `Store.Chunk.durable` / `Store.Chunk.torn` (Model/Crash.lean): the write buffer is lost, completed writes
    survive; the hint buffers are lost, renamed split files survive -/
def Chunk.crash (c : Chunk) : DFile :=
  { recs := c.recs.filter (fun p => decide (p.1 + p.2.size ≤ c.onDisk)),
    size := c.onDisk,
    torn := c.onDisk ≠ 0 && !(c.recs.any (fun p => p.1 + p.2.size == c.onDisk)),
    created := c.created,
    hints := c.files }

def St.crash (s : St) : Disk := { files := s.all.map Chunk.crash, dump := s.dump }

def St.torn (s : St) : Bool := s.crash.files.any (·.torn)

/-! ### the next start (`Bucket.open`, bucket.go:166-247) -/

/-- loop of `loadHintsByChunk` (hint.go:673-721; the drop: 696-705).  `chk = true`: the code as it is — stop at the first file whose
    `datasize` exceeds the data file ("hint beyond data", fe79633); `chk = false`: the code before that commit —
    every file of the gap-free prefix is kept.  The running `datasize` is the maximum seen. -/
def loadPrefixG (chk : Bool) (dataSize : Nat) : List SplitFile → Nat → List SplitFile × Nat
  | [], d => ([], d)
  | f :: rest, d =>
    if chk && decide (f.datasize > dataSize) then ([], d)
    else
      let r := loadPrefixG chk dataSize rest (if f.datasize < d then d else f.datasize)
      (f :: r.1, r.2)

/-- `checkHintWithData(chunk)` (bucket.go:153-164) and the split files the chunk has afterwards; for `chk = true` this
    is `HintIndex.checkHintWithData` -/
def checkHintG (hash : Key → Nat) (cap : Nat) (chk : Bool) (recs : FileRecs) (dataSize : Nat)
    (disk : List (Option SplitFile)) : List SplitFile :=
  if dataSize = 0 then [] else
  let ld := loadPrefixG chk dataSize (validPrefix disk) 0
  if ld.2 < dataSize then
    ld.1 ++ ((HChunk.run cap (scanEvents hash (scanFrom ld.2 recs))).disk).filterMap id
  else ld.1

/-- `ListFiles` (data.go:166-194): `newHead = max + 1`, `max` = the largest id whose file exists (0 if none does) -/
def numFiles : List DFile → Nat
  | [] => 0
  | f :: fs => if numFiles fs > 0 then numFiles fs + 1 else if f.created then 1 else 0

/-- `hints.maxDumpedHintID` after the hint loop of `open` (bucket.go:208, 230): starts as `TreeID`, and is ASSIGNED
    `HintID{i, startsp + j}` for every split file applied — `j` counts from 0 although the files are applied from
    split 0 and not from `startsp`, so for chunk `tc` the id overshoots (harmless: see REPORT) -/
def openMaxGo (tc : Nat) (ts : Int) : Nat → Nat × Int → List (List SplitFile) → Nat × Int
  | _, m, [] => m
  | i, m, f :: fs =>
    let startsp : Int := if i = tc then ts + 1 else 0
    let m' := if i < tc then m else if startsp ≥ (f.length : Int) then m else (i, startsp + (f.length : Int) - 1)
    openMaxGo tc ts (i + 1) m' fs

/-- the tree dump `open` loads: `getAllIndex(HTREE_SUFFIX)`; a dump whose chunk id lies beyond the data files is removed
    ("htree beyond data", bucket.go:186-189) -/
def usedDump (d : Disk) : Option TreeDump :=
  match d.dump with
  | some t => if t.tc ≥ numFiles d.files then none else some t
  | none => none

/-- per chunk the split files it has after `checkHintWithData` -/
def keptFiles (hash : Key → Nat) (cap : Nat) (chk : Bool) (d : Disk) : List (List SplitFile) :=
  d.files.map (fun f => checkHintG hash cap chk f.recs f.size f.hints)

/-- the item lists `updateHtreeFromHint` reads -/
def keptHints (hash : Key → Nat) (cap : Nat) (chk : Bool) (d : Disk) : List (List (List Item)) :=
  (keptFiles hash cap chk d).map (fun fl => fl.map (·.items))

/-- the tree after the hint loop of `open` -/
def openedTree (hash : Key → Nat) (cap : Nat) (chk : Bool) (d : Disk) : Tree :=
  match usedDump d with
  | some t => openTree t.tc t.ts t.tree (keptHints hash cap chk d)
  | none => openTree 0 (-1) [] (keptHints hash cap chk d)

/-- `hints.maxDumpedHintID` after the hint loop -/
def openedMax (hash : Key → Nat) (cap : Nat) (chk : Bool) (d : Disk) : Nat × Int :=
  match usedDump d with
  | some t => openMaxGo t.tc t.ts 0 (t.tc, t.ts) (keptFiles hash cap chk d)
  | none => openMaxGo 0 (-1) 0 (0, -1) (keptFiles hash cap chk d)

/-- `Bucket.open` on a bucket directory whose data files all end at a record boundary:
     * tree dump: dropped if its chunk id lies beyond the data files, else loaded (`usedDump`);
     * EVERY chunk: `checkHintWithData` (empty data file → its split files are removed; else keep the gap-free prefix
       of split files [that does not reach beyond the data], rescan the data file from the largest `datasize` kept);
     * `openTree`: chunks below `tc` untouched, chunk `tc` skipped if it has at most `ts + 1` split files, else
       applied from split 0, later chunks applied (`Ver > 0 → set`, else `remove`);
     * no dump on disk and some data file exists → `dumpHtree()` under `maxDumpedHintID` (`checkForDump`, bucket.go:240, 258-279;
       split id -1: unrecognisable file name, see `St.writeDump`);
     * appends go to a new file `max + 1`; the chunks of the existing files have file-only splits.
    (For chunks below `tc` the code runs `checkHintWithData` in a goroutine after `open` has returned; the model does
    it at once — those chunks do not reach the tree either way.) -/
def openSt (hash : Key → Nat) (cap : Nat) (chk : Bool) (d : Disk) : St :=
  let n := numFiles d.files
  let md := openedMax hash cap chk d
  let tree := openedTree hash cap chk d
  { prev := (d.files.take n).map (fun f =>
      { recs := f.recs, onDisk := f.size, created := f.created, hint := {},
        files := (checkHintG hash cap chk f.recs f.size f.hints).map some }),
    head := {},
    tree := tree,
    treeID := (match usedDump d with
      | some t => (t.tc, t.ts)
      | none => if n = 0 then (0, -1) else md),
    maxDumped := md,
    dump := (match usedDump d with
      | some t => some t
      | none => if n = 0 ∨ md.2 < 0 then none else some { tc := md.1, ts := md.2, tree := tree }),
    closing := false,
    pending := false }

/-- `Bucket.open`.  `none` = the store refuses to start: a data file ends in a partial record (`ListFiles`: "file not
    256 aligned"; `buildHintFromData` → `logger.Fatalf("fail to start for bad data")`) — the refusal C06 allows. -/
def recover (hash : Key → Nat) (cap : Nat) (chk : Bool) (d : Disk) : Option St :=
  if d.files.any (·.torn) then none else some (openSt hash cap chk d)

/-! ### the transition system -/

inductive Op
  | write (r : Rec)
  | flushTo (i n : Nat)
  | rotateSplit (i : Nat)
  | dumpSplit (i j : Nat)
  | beginClose
  | removeDump
  | writeDump
  | restart
deriving Repr

def step (hash : Key → Nat) (cfg : Store.Cfg) (cap : Nat) (s : St) : Op → St
  | .write r => s.write hash cfg cap r
  | .flushTo i n => s.modChunk i (fun c => c.flushTo n)
  | .rotateSplit i => s.modChunk i Chunk.rotateSplit
  | .dumpSplit i j => s.dumpSplit i j
  | .beginClose => { s with closing := true }
  | .removeDump => s.removeDump
  | .writeDump => s.writeDump
  | .restart => (recover hash cap true s.crash).getD s      -- a refused start leaves the directory as it is

def run (hash : Key → Nat) (cfg : Store.Cfg) (cap : Nat) (s : St) (ops : List Op) : St := ops.foldl (step hash cfg cap) s

/-- all durable records in (file, offset) order — as the log of `Bucket.crashAt` in Model/Crash.lean -/
def durLog (s : St) : List (Pos × Rec) := logOf (s.crash.files.map (·.recs))

/-- `dataStore.GetRecordByPos` on the files a kill leaves -/
def Disk.readAt (d : Disk) (p : Pos) : Option Rec :=
  match d.files[p.chunk]? with
  | some f => (f.recs.find? (fun q => q.1 = p.off)).map (·.2)
  | none => none

end CrashHint
