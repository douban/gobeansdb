/-
  Implementation-level model of the in-memory Merkle tree of store/htree.go with LAZY inner-node summaries (C08).

  Model/Tree.lean holds the content-level SPECIFICATION (`Tree.nodeSum`, `Tree.listBucket`) and the incremental
  leaf bookkeeping (`Tree.Leaf`).  This file adds the inner levels as the code has them:

      levels [][]Node          Node{count uint32, hash uint16, isHashUpdated bool}
      leafs  []SliceHeader

  * `levels[0 .. height-2]`  -> `HTree.inner : List (List Node)`   (row i has 16^i nodes)
  * `levels[height-1]` + `leafs[]` -> `HTree.leaves : List Tree.Leaf` (16^(height-1) leaves; a `Leaf` carries the items
    and the leaf NODE's (count, hash)).  The leaf nodes' `isHashUpdated` is set to true by `newHTree` and no
    code path ever clears it when height >= 2 (`getLeafAndInvalidNodes` clears levels[0][0] and levels[1..height-2]
    only), so it is not stored: `HTree.node` reports it as `true`.

  Every function follows the Go function named in its comment, in the order the Go code performs its steps.
  Run-time panics of the Go code are `none`.  Core-only, executable.

  Abstractions (see notes/REPORT-htreeimpl.md): counts are unbounded naturals (Go: uint32, no wrap below 2^32 live keys per bucket);
  a leaf stores the full 64-bit key hash (Go: the low TreeKeyHashLen bytes, the rest is rebuilt from the node path);
  the position test of `SliceHeader.Remove` / `movePos` is an oracle boolean (a `Tree.Ent` carries no position);
  the bit mask of the item filter `(filtermask & h) == ki.KeyHash` of `listDir` is written with / and * by a power of 16.
-/
import GoBeans.Model.Tree

deriving instance DecidableEq for Tree.Leaf
deriving instance DecidableEq for Tree.Listing

namespace HTreeImpl
open Tree

/-- `Node` (htree.go:61).  `count` : uint32, `hash` : uint16 (kept `< 2^16`), `upd` : `isHashUpdated`.
    The zero value of Go (`make([]Node, n)`) is `{}` : count 0, hash 0, flag false. -/
structure Node where
  count : Nat := 0
  hash  : Nat := 0
  upd   : Bool := false
deriving DecidableEq, Repr

instance : Inhabited Node := ⟨{}⟩

/-- `HTree` (htree.go:25): `depth`, `bucketID`, `levels`, `leafs` (the lock and the scratch `ni` are not state). -/
structure HTree where
  depth    : Nat
  bucketID : Nat
  inner    : List (List Node)      -- levels[0 .. height-2]
  leaves   : List Leaf             -- levels[height-1] (count, hash) together with leafs[]
deriving Repr, DecidableEq

/-- `len(tree.levels)` -/
def HTree.height (t : HTree) : Nat := t.inner.length + 1

/-- `newHTree` (htree.go:79).  Panics ("HTree too high") when depth+height > MAX_DEPTH; with height = 0 the
    expression `tree.levels[height-1]` panics (index -1).  All inner nodes start as the zero value (flag FALSE),
    the leaf nodes are flagged, all leaves are empty. -/
def newHTree (depth bucketID height : Nat) : Option HTree :=
  if depth + height > Gen.MAX_DEPTH then none
  else if height = 0 then none
  else some { depth := depth, bucketID := bucketID,
              inner := (List.range (height - 1)).map (fun i => List.replicate (16 ^ i) {}),
              leaves := List.replicate (16 ^ (height - 1)) {} }

/-- `tree.levels[level][offset]` for an inner level (the zero node when out of range; the invariant `Shape`
    of Lemmas/HTreeImplBase.lean shows that the code never indexes out of range) -/
def HTree.innerNode (t : HTree) (level offset : Nat) : Node := (t.inner.getD level []).getD offset default

/-- `tree.leafs[offset]` with the leaf node `tree.levels[height-1][offset]` -/
def HTree.leaf (t : HTree) (offset : Nat) : Leaf := t.leaves.getD offset {}

/-- `tree.levels[level][offset]` at any level -/
def HTree.node (t : HTree) (level offset : Nat) : Node :=
  if level + 1 = t.height then { count := (t.leaf offset).count, hash := (t.leaf offset).hash, upd := true }
  else t.innerNode level offset

/-- assignment `tree.levels[level][offset] = nd` (inner level) -/
def HTree.setInner (t : HTree) (level offset : Nat) (nd : Node) : HTree :=
  { t with inner := t.inner.set level ((t.inner.getD level []).set offset nd) }

/-- `tree.levels[level][offset].isHashUpdated = false` -/
def HTree.clearFlag (t : HTree) (level offset : Nat) : HTree :=
  t.setInner level offset { t.innerNode level offset with upd := false }

/-- assignment to `tree.leafs[offset]` / `tree.levels[height-1][offset]` -/
def HTree.setLeaf (t : HTree) (offset : Nat) (lf : Leaf) : HTree :=
  { t with leaves := t.leaves.set offset lf }

/-- `ParsePathUint64` (key.go:82): `KeyPath[i] = (khash >> 4*(15-i)) & 0xf`, i < 16 -/
def pathDigit (kh i : Nat) : Nat := (kh / 16 ^ (15 - i)) % 16

/-- the offset after `k` rounds of `offset = offset*16 + path[level-1]`, `path = ki.KeyPath[tree.depth:]`,
    level = 1..k  (the loop of `getLeaf`, htree.go:241, and of `getLeafAndInvalidNodes`, htree.go:255) -/
def offsetAt (kh depth : Nat) : Nat → Nat
  | 0 => 0
  | k + 1 => offsetAt kh depth k * 16 + pathDigit kh (depth + k)

/-- `getLeaf` (htree.go:237): `ni.offset` after `len(levels)-1` rounds -/
def leafOffset (t : HTree) (kh : Nat) : Nat := offsetAt kh t.depth (t.height - 1)

/-- `getLeafAndInvalidNodes` lines 254-258 after `k` rounds of the loop:
      tree.levels[0][0].isHashUpdated = false
      for level := 1; level < len(levels)-1; level++ { offset = offset*16+path[level-1]; levels[level][offset].isHashUpdated = false }
    (round k+1 is `level = k+1`).  Returns the tree and `ni.offset`. -/
def invalLoop (kh : Nat) (t : HTree) : Nat → HTree × Nat
  | 0 => (t.clearFlag 0 0, 0)
  | k + 1 =>
    let r := invalLoop kh t k
    let off := r.2 * 16 + pathDigit kh (t.depth + k)
    (r.1.clearFlag (k + 1) off, off)

/-- `getLeafAndInvalidNodes` (htree.go:249).  With `len(levels) = 1`, `ni.level = 0` and line 259 evaluates
    `path[ni.level-1] = path[-1]`: a run-time panic (after levels[0][0] — the only leaf node — was unflagged).
    Otherwise: the loop runs for level 1..height-2, line 259 adds the last digit, the leaf offset is returned. -/
def getLeafAndInvalidNodes (t : HTree) (kh : Nat) : Option (HTree × Nat) :=
  if t.height < 2 then none
  else
    let r := invalLoop kh t (t.height - 2)
    some (r.1, r.2 * 16 + pathDigit kh (t.depth + (t.height - 2)))

/-- `HTree.set` / `setReq` (htree.go:288/297): invalidate the path, then `setToLeaf` (= `Tree.Leaf.set`) -/
def set (t : HTree) (e : Ent) : Option HTree :=
  match getLeafAndInvalidNodes t e.khash with
  | none => none
  | some (t1, off) => some (t1.setLeaf off ((t1.leaf off).set e))

/-- `HTree.remove` (htree.go:330): invalidate the path FIRST, then `remvoeFromLeaf`.  `posOk` is the outcome of
    `oldPos.ChunkID == -1 || oldm.Pos.Offset == oldPos.Offset` (leaf.go:146): when false nothing is removed, but the
    path has been invalidated all the same. -/
def remove (t : HTree) (kh : Nat) (posOk : Bool) : Option HTree :=
  match getLeafAndInvalidNodes t kh with
  | none => none
  | some (t1, off) => some (if posOk then t1.setLeaf off ((t1.leaf off).remove kh) else t1)

/-- `HTree.getReq` (htree.go:347): `getLeaf` then `SliceHeader.Get`; no flag is touched -/
def get (t : HTree) (kh : Nat) : Option Ent := (t.leaf (leafOffset t kh)).find kh

/-- `HTree.movePos` (htree.go:307): look the item up; when found and `req.item.Pos == oldPos` (`posEq`) write the
    same (ver, vhash) back through `getLeafAndInvalidNodes` + `setToLeaf` (only the position, not modelled, differs) -/
def movePos (t : HTree) (kh : Nat) (posEq : Bool) : Option HTree :=
  match get t kh with
  | none => some t
  | some it => if posEq then set t it else some t

/-- the second loop of `updateNodes` (htree.go:375-381), uint16 arithmetic step by step:
      node.hash = 0; for i { if node.count > ThresholdBigHash { node.hash *= 97 }; node.hash += hashs[i] } -/
def foldHash (count : Nat) (hashs : List Nat) : Nat :=
  hashs.foldl (fun h x => ((if count > Gen.ThresholdBigHash then (h * 97) % M16 else h) + x) % M16) 0

/-- state of the first loop of `updateNodes`: the tree (children are updated in place), `node.count`, `hashs[0..i)` -/
structure UpdAcc where
  t : HTree
  count : Nat
  hashs : List Nat

/-- `updateNodes(level, offset)` (htree.go:363).  `fuel` = number of levels below `level` (`height-1-level`);
    at the leaf level the node is always flagged, so the call returns it.
    Not flagged: children 0..15 are updated IN ORDER by recursive calls (each may rewrite nodes below it),
    their counts are added up, their hashes collected; then the hash is folded, the node is written with the flag set. -/
def updateNodes : Nat → HTree → Nat → Nat → HTree × Node
  | 0, t, level, offset => (t, t.node level offset)
  | fuel + 1, t, level, offset =>
    let node := t.node level offset
    if node.upd then (t, node)
    else
      match (List.range 16).foldl (fun (acc : UpdAcc) i =>
        match updateNodes fuel acc.t (level + 1) (offset * 16 + i) with
        | (t', cnode) => { t := t', count := acc.count + cnode.count, hashs := acc.hashs ++ [cnode.hash] }) ⟨t, 0, []⟩ with
      | ⟨t', count, hashs⟩ =>
        match (⟨count, foldHash count hashs, true⟩ : Node) with
        | nd => (t'.setInner level offset nd, nd)

/-- `updateNodes(level, offset)` called on a tree of this height -/
def updateAt (t : HTree) (level offset : Nat) : HTree × Node := updateNodes (t.height - 1 - level) t level offset

/-- `HTree.Update` (htree.go:357): `updateNodes(0, 0)`; the caller (`HStore.updateNodesUpper`) reads count and hash
    of the returned root -/
def update (t : HTree) : HTree × Node := updateAt t 0 0

/-- what `HStore.NumKey` (hstore.go:182; `stats curr_items`) reads: `htree.levels[0][0].count`, with NO call of
    `updateNodes` (and without the tree lock) -/
def rootCountNoUpdate (t : HTree) : Nat := (t.node 0 0).count

/-- `digitsVal` of the part of the path below the bucket: the loop of `getNode` (htree.go:275) -/
def getNodePos (t : HTree) (ds : List Nat) : Nat × Nat :=
  let l := min ds.length (t.depth + t.height - 1)
  (l - t.depth, ((ds.take l).drop t.depth).foldl (fun o d => o * 16 + d) 0)

/-- `collectItems` (htree.go:386) from a node with `fuel` levels below it: at the leaf `SliceHeader.Iter` in storage
    order filtered by `keep`; above, children 0..15 in order -/
def collectItems (t : HTree) (keep : Ent → Bool) : Nat → Nat → List Ent
  | 0, offset => (t.leaf offset).items.filter keep
  | fuel + 1, offset => (List.range 16).flatMap (fun i => collectItems t keep fuel (offset * 16 + i))

/-- `filtermask & h` of `listDir` (htree.go:423-425): `filtermask = (0xffff_ffff_ffff_ffff >> shift) << shift`,
    `shift = 64 - 4*len(ki.StringKey)` keeps the top `L` hex digits of the 64-bit `h` and clears the rest
    (`L = 0`: shift 64, Go shifts everything out, mask 0).  Written arithmetically: (h / 16^(16-L)) * 16^(16-L). -/
def maskTop (h L : Nat) : Nat := (h / 16 ^ (16 - L)) * 16 ^ (16 - L)

/-- `setKeyHashByPath` (key.go:118): `ki.KeyHash` of a path key = its digits from bit 60 downwards -/
def pathKeyHash (ds : List Nat) : Nat := digitsVal ds * 16 ^ (16 - ds.length)

/-- the filter of `collectItems`: `(filtermask & h) == filterkeyhash` -/
def keepItem (ds : List Nat) (e : Ent) : Bool := maskTop e.khash ds.length == pathKeyHash ds

/-- `listDir` (htree.go:411) for the path digits `ds` (`ki.KeyPath`, `len(ki.StringKey) = ds.length`), list-keys
    threshold `thr`: locate the node (`len == depth`: the root, else `getNode`), `updateNodes` on it, then
    either the items below it that match the prefix, or its 16 children AS STORED (they are not updated one by one). -/
def listDir (t : HTree) (thr : Nat) (ds : List Nat) : HTree × Listing :=
  let pos := if ds.length = t.depth then (0, 0) else getNodePos t ds
  let r := updateAt t pos.1 pos.2
  if pos.1 ≥ t.height - 1 ∨ r.2.count < thr then
    (r.1, .items (collectItems r.1 (keepItem ds) (t.height - 1 - pos.1) pos.2))
  else
    (r.1, .nodes ((List.range 16).map (fun i =>
      let n := r.1.node (pos.1 + 1) (pos.2 * 16 + i); (n.hash, n.count))))

/-- `HTree.ListDir` (htree.go:437): "bad dir path to list: too short" when `len(ki.Key) < tree.depth` (= `none`) -/
def ListDir (t : HTree) (thr : Nat) (ds : List Nat) : Option (HTree × Listing) :=
  if ds.length < t.depth then none else some (listDir t thr ds)

/-- `HTree.load` (htree.go:107) on a tree just made by `newHTree`: the dump file gives the leaf nodes (count, hash)
    and the raw leaves - here together as `Leaf`s; a file with fewer than 16^(height-1) of them is a read error
    (`none`; the caller then starts from an empty tree).  Inner nodes stay as `newHTree` made them: NOT flagged.
    Nothing checks the stored leaf summaries against the stored items (the dump is trusted).
    The closing `ListTop()` is the separate call `listTop`. -/
def load (t : HTree) (leaves : List Leaf) : Option HTree :=
  if leaves.length < 16 ^ (t.height - 1) then none
  else some { t with leaves := leaves.take (16 ^ (t.height - 1)) }

/-- the path `ListTop` (htree.go:463) lists: `fmt.Sprintf("%x", tree.bucketID)` - hex WITHOUT padding to `depth`
    digits: one digit for bucket ids below 16 (also "0" when depth = 0), two from 16 to 255 -/
def listTopPath (bucketID : Nat) : List Nat := if bucketID < 16 then [bucketID] else [bucketID / 16, bucketID % 16]

/-- `ListTop`: `ListDir` of that path with the default threshold; the reply is only logged, errors are dropped -/
def listTop (t : HTree) : HTree :=
  match ListDir t Gen.ThresholdListKeyDefault (listTopPath t.bucketID) with
  | none => t
  | some r => r.1

/-! ### operation sequences -/

inductive Op
  | set (e : Ent)
  | remove (kh : Nat) (posOk : Bool)
  | movePos (kh : Nat) (posEq : Bool)
  | update
  | list (thr : Nat) (ds : List Nat)
deriving Repr, DecidableEq

inductive Out
  | done
  | node (count hash : Nat)
  | listing (l : Listing)
  | err                                  -- ListDir: path too short
deriving Repr, DecidableEq

/-- one call; `none` = the Go code panics -/
def step (t : HTree) : Op → Option (HTree × Out)
  | .set e => (set t e).map (fun t' => (t', .done))
  | .remove kh p => (remove t kh p).map (fun t' => (t', .done))
  | .movePos kh p => (movePos t kh p).map (fun t' => (t', .done))
  | .update => let r := update t; some (r.1, .node r.2.count r.2.hash)
  | .list thr ds =>
    match ListDir t thr ds with
    | none => some (t, .err)
    | some r => some (r.1, .listing r.2)

/-- a sequence of calls: final tree and all outputs -/
def run : HTree → List Op → Option (HTree × List Out)
  | t, [] => some (t, [])
  | t, op :: ops =>
    match step t op with
    | none => none
    | some (t1, o) =>
      match run t1 ops with
      | none => none
      | some (t2, os) => some (t2, o :: os)

/-- the content of the tree: the items of all leaves, in leaf order -/
def content (t : HTree) : Content := t.leaves.flatMap (·.items)

/-! ### sanity evaluations -/
section sanity
def k1 : Ent := { khash := 0x1234567890abcdef, ver := 2, vhash := 777 }
def k2 : Ent := { khash := 0x1299567890abcdef, ver := 1, vhash := 5 }
def k3 : Ent := { khash := 0x1f00000000000001, ver := 3, vhash := 9 }
def t0 : HTree := (newHTree 1 1 3).getD ⟨0, 0, [], []⟩

example : newHTree 1 0 8 = none := by decide
example : (newHTree 1 0 0).isNone = true := by decide
example : t0.height = 3 := by decide
example : pathDigit 0x1234567890abcdef 0 = 1 ∧ pathDigit 0x1234567890abcdef 15 = 0xf := by decide
example : leafOffset t0 k1.khash = 0x23 := by decide
-- height 1: `set` panics
example : ((newHTree 0 0 1).bind (fun t => set t k1)).isNone = true := by decide
end sanity

end HTreeImpl
