/-
  Hint files as the index the tree is rebuilt from at start (C02) — hand-written model of
    store/hint.go      HintBuffer.Set / Dump, hintChunk.setItem / rotate, hintMgr.set / trydump / close,
                       findValidPaths, loadHintsByChunk
    store/bucket.go    buildHintFromData, checkHintWithData, updateHtreeFromHint, the hint loop of Bucket.open
  on the record level of GoBeans/Model/Store.lean (`Store.Rec`, `Store.Pos`, `Store.TItem`).

  What a restart does: it NEVER replays data records into the tree.  Per data file it keeps hint items; a write
  puts one item into the newest split of the file's hint chunk (same (keyhash, key) → the later item replaces the
  earlier one inside that split); a split is closed when it is full (`SplitCap` different keys) or when the dumper
  closes it; a closed split is written to `<chunk>.<split>.idx.s` SORTED by (keyhash, key).  `Bucket.open` walks the
  data files in id order and per file the split files in split order and applies item after item:
  `Ver > 0 → tree.set, else tree.remove` (bucket.go:142-148).  Split files that are missing (or follow a missing /
  unreadable / too long one) are rebuilt first: the data file is scanned from the largest `datasize` of the kept
  split files and the records found are fed to the same buffer code.

  The hint file bytes are those of GoBeans/Model/Hint.lean (C14 proves read ∘ write = id on item lists); here a
  split file is its item list plus the `datasize` header field.  The tree is the `AMap` of Model/Store.lean
  (one slot per key hash).  The merged hint `*.idx.m` does not occur: `Bucket.open` never reads it
  (`hintMgr.merged` is nil after a start until `Merge` runs; it only serves `hintMgr.getItem` key lookups).
  Core-only, executable.
-/
import GoBeans.Model.LogView
import GoBeans.Model.Hint

namespace HintIndex
open Store Spec

abbrev Item := Hint.Item

/-- the records of one data file with their offsets, in offset order (`Store.Chunk.recs`) -/
abbrev FileRecs := List (Nat × Rec)

abbrev Tree := List (Nat × TItem)

/-! ### from records to hint items -/

/-- `Bucket.set` → `hintMgr.set(ki, &v.Meta, pos, …)` (bucket.go:409-410, hint.go:519-528): the item carries the
    key hash of the request, the SAME meta (version, value hash) that went into the tree one line earlier
    (`Store.Bucket.put`), the offset, and chunk 0 (`Position{0, pos.Offset}`) -/
def itemOfWrite (hash : Key → Nat) (p : Nat × Rec) : Item :=
  { khash := hash p.2.key, chunk := 0, off := p.1, ver := p.2.ver,
    vhash := if p.2.ver > 0 then vhashOf p.2.body else 0, key := p.2.key }

/-- loop body of `Bucket.buildHintFromData` (bucket.go:97-113): key hash recomputed from the record's key, value
    hash recomputed from the (decompressed) body of EVERY record, tombstones included -/
def itemOfScan (hash : Key → Nat) (p : Nat × Rec) : Item :=
  { khash := hash p.2.key, chunk := 0, off := p.1, ver := p.2.ver, vhash := vhashOf p.2.body, key := p.2.key }

def mkItem (hash : Key → Nat) (scan : Bool) (p : Nat × Rec) : Item :=
  if scan then itemOfScan hash p else itemOfWrite hash p

/-! ### `HintBuffer` (hint.go:93-164) -/

/-- `HintBuffer`: `items[0:num]` (slot order), `index` (keyhash → slot of the item last set with that hash),
    `collisions` (keyhash → key → slot, only for hashes seen with two different keys), `maxoffset` -/
structure Buf where
  items      : List Item := []
  index      : List (Nat × Nat) := []
  collisions : List (Nat × List (Key × Nat)) := []
  maxoffset  : Nat := 0
deriving Repr, Inhabited

/-! `HintBuffer.Set(it, recSize)` step by step (hint.go:124-164); `cap` = `Conf.SplitCap` = `len(h.items)` -/

/-- `idx, found := h.index[it.Keyhash]` (the `idx` part; 0 when not found, as Go's zero value) -/
def Buf.idx0 (b : Buf) (it : Item) : Nat := (AMap.get b.index it.khash).getD 0

/-- `h.items[idx].Key` -/
def Buf.key0 (b : Buf) (it : Item) : Key := (b.items.getD (b.idx0 it) default).key

/-- `iscollision`: `found && it.Key != h.items[idx].Key` (hint.go:131) -/
def Buf.isColl (b : Buf) (it : Item) : Bool :=
  (AMap.get b.index it.khash).isSome && decide (it.key ≠ b.key0 it)

/-- `idx, found` after the collision block (hint.go:131-142): through `collisions[keyhash][key]` if the hash's slot
    holds another key (a hash without a collision entry: not found), else the `index` slot -/
def Buf.slot (b : Buf) (it : Item) : Option Nat :=
  if b.isColl it then
    (match AMap.get b.collisions it.khash with
     | some keys => AMap.get keys it.key
     | none => none)
  else AMap.get b.index it.khash

/-- `h.collisions` after the collision block: a first collision of a hash creates its entry with the key already
    there (hint.go:137-140) — before it is known whether the item will be accepted -/
def Buf.colls1 (b : Buf) (it : Item) : List (Nat × List (Key × Nat)) :=
  if b.isColl it && (AMap.get b.collisions it.khash).isNone then
    AMap.set b.collisions it.khash [(b.key0 it, b.idx0 it)]
  else b.collisions

/-- hint.go:153-162: store the item in slot `idx`, point `index` (and the collision entry) at it, raise `maxoffset`
    to the END of the record -/
def Buf.place (b : Buf) (it : Item) (recSize : Nat) (idx : Nat) (items' : List Item) : Buf :=
  { items := items',
    index := AMap.set b.index it.khash idx,
    collisions :=
      if b.isColl it then
        AMap.set (b.colls1 it) it.khash (AMap.set ((AMap.get (b.colls1 it) it.khash).getD []) it.key idx)
      else b.colls1 it,
    maxoffset := if it.off + recSize > b.maxoffset then it.off + recSize else b.maxoffset }

/-- `HintBuffer.Set`.  Returns the buffer and whether the item was accepted.  Quirks kept: a refused item (new key,
    all `cap` slots used) still raises `maxoffset` to its START offset (hint.go:146-148) and may already have
    created the collision entry of its hash. -/
def Buf.set (cap : Nat) (b : Buf) (it : Item) (recSize : Nat) : Buf × Bool :=
  match b.slot it with
  | none =>
    if b.items.length ≥ cap then
      ({ b with collisions := b.colls1 it, maxoffset := if it.off > b.maxoffset then it.off else b.maxoffset }, false)
    else (b.place it recSize b.items.length (b.items ++ [it]), true)
  | some idx => (b.place it recSize idx (b.items.set idx it), true)

/-! the same thing without the two lookup maps: find the slot by (keyhash, key) — Lemmas/HintBuffer proves that
    `Buf.set` computes exactly this (`set_items`) -/

def sameKey (a b : Item) : Bool := a.khash == b.khash && a.key == b.key

/-- slot-level view of `Set`: replace in place, or append if there is room -/
def slotSet (cap : Nat) (items : List Item) (it : Item) : Option (List Item) :=
  match items.findIdx? (sameKey it) with
  | some i => some (items.set i it)
  | none => if items.length ≥ cap then none else some (items ++ [it])

/-- per (keyhash, key) the LAST item of a sequence (in the order of last occurrences) -/
def dedupLast : List Item → List Item
  | [] => []
  | x :: l => if l.any (sameKey x) then dedupLast l else x :: dedupLast l

/-! ### `HintBuffer.Dump` (hint.go:184-211): sort by (keyhash, key), write -/

/-- `byKeyHash.Less` (hint.go:344-355); Go string `<` is bytewise lexicographic -/
def hintLess (a b : Item) : Bool :=
  if a.khash < b.khash then true else if a.khash > b.khash then false else decide (a.key < b.key)

def insertSorted (x : Item) : List Item → List Item
  | [] => [x]
  | y :: ys => if hintLess x y then x :: y :: ys else y :: insertSorted x ys

/-- `sort.Sort(&byKeyHash{…})`: the keys of a buffer are pairwise different in (keyhash, key), so the (unstable) sort
    has exactly one possible result; insertion sort computes it.  The theorems hold for EVERY order of the items. -/
def sortItems (l : List Item) : List Item := l.foldr insertSorted []

/-- a `*.idx.s` file: the items in file order and the `datasize` header field (= the buffer's `maxoffset`) -/
structure SplitFile where
  items    : List Item
  datasize : Nat
deriving Repr, Inhabited, DecidableEq

def Buf.dump (b : Buf) : SplitFile := { items := sortItems b.items, datasize := b.maxoffset }

/-! ### `hintChunk` (hint.go:217-255) and the dumper (hint.go:379-420) -/

/-- the splits of one chunk: `splits[0 : l-1]` (closed: never written again) and `splits[l-1]` (receives `Set`) -/
structure HChunk where
  closed : List Buf := []
  last   : Buf := {}
deriving Repr, Inhabited

/-- what happens to a chunk's hint: an item is set (write path or data scan), or the newest split is closed
    (`trydump`: silence time over / `dumplast`; `forceRotateSplit` for GC) -/
inductive Ev
  | set (it : Item) (recSize : Nat)
  | rotate
deriving Repr

/-- `hintChunk.setItem` (hint.go:244-255): `Set` on the newest split; if refused, `rotate()` and `Set` on the fresh
    split (result ignored: with `cap = 0` the item is dropped) -/
def HChunk.setItem (cap : Nat) (ck : HChunk) (it : Item) (recSize : Nat) : HChunk :=
  let r := ck.last.set cap it recSize
  if r.2 then { ck with last := r.1 }
  else { closed := ck.closed ++ [r.1], last := (({} : Buf).set cap it recSize).1 }

def HChunk.step (cap : Nat) (ck : HChunk) : Ev → HChunk
  | .set it sz => ck.setItem cap it sz
  | .rotate => { closed := ck.closed ++ [ck.last], last := {} }

def HChunk.run (cap : Nat) (evs : List Ev) : HChunk := evs.foldl (HChunk.step cap) {}

/-- after `hintMgr.close` (= `trydump(i, true)` for every chunk): split `j` has its file `<chunk>.<j>.idx.s` iff it
    holds at least one item (`needDump`: `buf.num > 0`) -/
def HChunk.disk (ck : HChunk) : List (Option SplitFile) :=
  (ck.closed ++ [ck.last]).map (fun b => if b.items.isEmpty then none else some b.dump)

/-- the events of a chunk on the write path: one `hintMgr.set` per record appended to the data file -/
def writeEvents (hash : Key → Nat) (recs : FileRecs) : List Ev :=
  recs.map (fun p => Ev.set (itemOfWrite hash p) p.2.size)

/-- the events of `buildHintFromData` -/
def scanEvents (hash : Key → Nat) (recs : FileRecs) : List Ev :=
  recs.map (fun p => Ev.set (itemOfScan hash p) p.2.size)

/-! ### start: which hint files are used, which are rebuilt (hint.go:645-721, bucket.go:89-117, 153-164) -/

/-- `findValidPaths`: the split files numbered 0, 1, 2, … without a gap; every other file of the chunk is deleted.
    `none` = no such file (never written, removed by the operator, or not loadable) -/
def validPrefix : List (Option SplitFile) → List SplitFile
  | some f :: rest => f :: validPrefix rest
  | _ => []

/-- loop of `loadHintsByChunk`: stop at the first file whose `datasize` exceeds the data file ("hint beyond data");
    the running `datasize` is the maximum seen -/
def loadPrefix (dataSize : Nat) : List SplitFile → Nat → List SplitFile × Nat
  | [], d => ([], d)
  | f :: rest, d =>
    if f.datasize > dataSize then ([], d)
    else
      let r := loadPrefix dataSize rest (if f.datasize < d then d else f.datasize)
      (f :: r.1, r.2)

/-- `DataStreamReader.seek(start)` then `Next` until the end, on a well-formed file -/
def scanFrom (start : Nat) (recs : FileRecs) : FileRecs := recs.dropWhile (fun p => p.1 < start)

/-- `checkHintWithData(chunk)` followed by what `open` reads (`splits[:len-1]`, each through its file):
    the kept split files, then — if they do not reach the end of the data file — the files built from the data
    beyond their `datasize` (fed through `setItem`, so split again by capacity; all dumped by `trydump(chunk, true)`).
    `filterMap id`: a split without items has no file; the code would dereference its nil `sp.file` (bucket.go:225) —
    with `cap ≥ 1` no such split exists among `splits[:len-1]` (`scan_closed_nonempty`), with `SplitCap = 0` the
    real start panics there -/
def checkHintWithData (hash : Key → Nat) (cap : Nat) (recs : FileRecs) (dataSize : Nat)
    (disk : List (Option SplitFile)) : List SplitFile :=
  if dataSize = 0 then [] else
  let ld := loadPrefix dataSize (validPrefix disk) 0
  if ld.2 < dataSize then
    ld.1 ++ ((HChunk.run cap (scanEvents hash (scanFrom ld.2 recs))).disk).filterMap id
  else ld.1

/-! ### start: hints → tree (bucket.go:119-151, 208-232) -/

/-- loop body of `updateHtreeFromHint`: `Ver > 0` → `tree.set` at (this chunk, item offset) with the item's version
    and value hash; otherwise `tree.remove` with `ChunkID = -1` = unconditional removal of the hash's slot
    (leaf.go:146).  The slot is addressed by the key hash STORED in the item. -/
def applyItem (chunk : Nat) (t : Tree) (it : Item) : Tree :=
  if it.ver > 0 then AMap.set t it.khash { pos := { chunk := chunk, off := it.off }, ver := it.ver, vhash := it.vhash }
  else AMap.erase t it.khash

/-- `updateHtreeFromHint(chunk, path)`: all items of one split file in file order -/
def applyFile (chunk : Nat) (t : Tree) (items : List Item) : Tree := items.foldl (applyItem chunk) t

/-- `for j, sp := range splits[:numhintfile]` -/
def applySplits (chunk : Nat) (t : Tree) (splits : List (List Item)) : Tree := splits.foldl (applyFile chunk) t

/-- the hint loop of `Bucket.open` from chunk `c` on, starting with tree `t` -/
def hintReplayFrom : Nat → Tree → List (List (List Item)) → Tree
  | _, t, [] => t
  | c, t, f :: fs => hintReplayFrom (c + 1) (applySplits c t f) fs

/-- start without a tree dump: empty tree, every data file's hint split files in order -/
def hintReplay (hints : List (List (List Item))) : Tree := hintReplayFrom 0 [] hints

/-- `Bucket.open` with the tree dump `TreeID = (tc, ts)` loaded as `t`: chunks below `tc` are not touched; chunk `tc`
    is skipped if it has at most `ts + 1` split files, otherwise ALL its split files are applied (from split 0, not
    from `ts + 1`); every later chunk is applied.  No dump: `TreeID = (0, -1)`. -/
def openGo (tc : Nat) (ts : Int) : Nat → Tree → List (List (List Item)) → Tree
  | _, t, [] => t
  | i, t, f :: fs =>
    let startsp : Int := if i = tc then ts + 1 else 0
    let t' := if i < tc then t else if startsp ≥ (f.length : Int) then t else applySplits i t f
    openGo tc ts (i + 1) t' fs

def openTree (tc : Nat) (ts : Int) (t : Tree) (hints : List (List (List Item))) : Tree := openGo tc ts 0 t hints

/-! ### the data log seen file by file -/

def fileLog (c : Nat) (recs : FileRecs) : List (Pos × Rec) :=
  recs.map (fun p => (({ chunk := c, off := p.1 } : Pos), p.2))

def logFrom : Nat → List FileRecs → List (Pos × Rec)
  | _, [] => []
  | c, f :: fs => fileLog c f ++ logFrom (c + 1) fs

/-- all records of files 0, 1, 2, … in (file, offset) order — `Store.Bucket.log` for `b.chunkList` -/
def logOf (files : List FileRecs) : List (Pos × Rec) := logFrom 0 files

/-! ### split files from an arbitrary cut -/

/-- cut a sequence into consecutive segments of the given lengths; what is left is the last segment -/
def cutBy {α : Type} : List Nat → List α → List (List α)
  | [], l => [l]
  | n :: ns, l => l.take n :: cutBy ns (l.drop n)

/-- the split file of a run of consecutive records: last item per key, sorted -/
def splitFile (hash : Key → Nat) (scan : Bool) (seg : FileRecs) : List Item :=
  sortItems (dedupLast (seg.map (mkItem hash scan)))

/-- the split files of a data file whose hint chunk was closed after `cut[0]`, `cut[1]`, … records -/
def hintsOfFile (hash : Key → Nat) (cut : List Nat) (recs : FileRecs) : List (List Item) :=
  (cutBy cut recs).map (splitFile hash false)

/-- the hint of a data file whose split files are all gone: one scan of the whole file (capacity not reached) -/
def rebuiltHints (hash : Key → Nat) (recs : FileRecs) : List (List Item) := [splitFile hash true recs]

/-- the hint files of all data files when, per data file, either the write-path split files exist (closed after
    `cuts[i]` records) or all of them are gone and the file's hint was rebuilt by one scan (`gone[i]`) -/
def chooseHints (hash : Key → Nat) : List FileRecs → List (List Nat) → List Bool → List (List (List Item))
  | [], _, _ => []
  | f :: fs, cuts, gone =>
    (if gone.headD false then rebuiltHints hash f else hintsOfFile hash (cuts.headD []) f)
      :: chooseHints hash fs cuts.tail gone.tail

/-! ### the whole hint part of a start -/

/-- size of a data file = end of its last record (`Store.Bucket.pushRec`: `size := off + r.size`), 0 without records -/
def dataSizeOf (recs : FileRecs) : Nat :=
  match recs.getLast? with
  | some p => p.1 + p.2.size
  | none => 0

/-- per data file: `checkHintWithData` on the split files found on disk -/
def openFiles (hash : Key → Nat) (cap : Nat) : List FileRecs → List (List (Option SplitFile)) → List (List SplitFile)
  | recs :: fs, disk :: ds => checkHintWithData hash cap recs (dataSizeOf recs) disk :: openFiles hash cap fs ds
  | _, _ => []

/-- the item lists `updateHtreeFromHint` reads -/
def openHints (hash : Key → Nat) (cap : Nat) (files : List FileRecs) (disks : List (List (Option SplitFile))) :
    List (List (List Item)) :=
  (openFiles hash cap files disks).map (fun fl => fl.map (·.items))

/-- the split files on disk after the start (kept ones and rebuilt ones, numbered 0, 1, 2, …) -/
def openDisks (hash : Key → Nat) (cap : Nat) (files : List FileRecs) (disks : List (List (Option SplitFile))) :
    List (List (Option SplitFile)) :=
  (openFiles hash cap files disks).map (fun fl => fl.map some)

/-- the tree after a start without tree dump: data files `files`, hint split files `disks` found on disk -/
def restartTree (hash : Key → Nat) (cap : Nat) (files : List FileRecs) (disks : List (List (Option SplitFile))) : Tree :=
  hintReplay (openHints hash cap files disks)

end HintIndex
