/-
  The COLLISION PATH of one bucket (property C13) — hand-written executable model of what the code does with keys
  whose 64-bit key hashes are equal:

    store/bucket.go     get (collision table first, then tree, key compare, hint fallback, compareAndSet of both keys),
                        checkAndSet (→ get(memOnly): "omit collision"), set (htree.set + hints.set), incr,
                        close / open (loadCollisions, tree dump, checkHintWithData, updateHtreeFromHint), dumpHtree
    store/collision.go  CollisionTable.get / compareAndSet (incl. `reason == "gc"`), dump / load (collision.yaml)
    store/hint.go       hintMgr.set (table update when the HASH is known), setItem, hintChunk.setItem / rotate,
                        trydump / dump / close / dumpAndMerge, getItem (merged, buffers, files — in that order),
                        getItemCollision, getCollisionGC, Merge, forceRotateSplit, ClearChunk, loadHintsByChunk
    store/hintmerge.go  merge: per (hash,key) the item of greatest position; collision reports
    store/gc.go         GCMgr.gc: BeforeBucket, newest decision (tree slot / collision table / in-memory hints),
                        relocation, UpdateHtreePos (movePos), hints.set("gc"), ClearChunk, trydump of the destination
    store/htree.go      one slot per key HASH (set / get / remove by hash / movePos)

  The state extends the non-colliding bucket of Model/Store.lean (`Store.Bucket`: data files, head, tree, nextGC) by the
  collision table, the hint manager (per data file: closed splits — buffer or dumped file — and the newest buffer,
  `maxChunkID`, `maxDumpedHintID`, the merged index) and what a restart reads from disk (tree dump with its id,
  collision.yaml; the hint split files are the `file` fields of the splits).  `hash` is an ARBITRARY function.
  Hint buffers are `HintIndex.Buf` (index + collisions maps, `Buf.set` = `HintBuffer.Set`).

  Modelled as the harness configures the store: no time-driven dumper (`mergeChan == nil`: a full split is dumped by
  the writer itself), `SecsBeforeDump < 0` (the silence test of `trydump` always passes), single client (post-rotation
  flush done before the next command), check_vhash as in Model/Store.lean.
  Core-only, executable, structural recursion only (so `decide` evaluates it).
-/
import GoBeans.Model.GC
import GoBeans.Model.HintIndex

namespace Collide
open Store Spec HintIndex

structure Cfg where
  s   : Store.Cfg := {}
  cap : Nat := 1048576           -- Conf.SplitCap
deriving Repr, Inhabited

/-! ### collision table (collision.go) -/

/-- `CollisionTable`: `Items map[uint64]map[string]HintItem` (the items carry FULL positions: `chunk` = data file)
    and the embedded `HintID` (only `Chunk` is ever read: `hintMgr.getItem`) -/
structure CTable where
  items    : List (Nat × List (Key × Item)) := []
  hidChunk : Nat := 0
  hidSplit : Int := 0
deriving Repr, Inhabited

/-- `CollisionTable.get` (collision.go:23-33): the item of the key if the key is in the table, and `ok` = the HASH is
    in the table (the inner `ok2` is shadowed) -/
def CTable.get (t : CTable) (h : Nat) (k : Key) : Option Item × Bool :=
  match AMap.get t.items h with
  | none => (none, false)
  | some m => (AMap.get m k, true)

/-- `Position.CmpKey` (item.go:199): `chunk << 32 + offset` -/
def cmpKey (it : Item) : Nat := it.chunk * 4294967296 + it.off

/-- `CollisionTable.compareAndSet(it, reason)` (collision.go:36-52): a new hash or a new key is entered; a known key is
    replaced if the reason is "gc" or the position is not smaller -/
def CTable.compareAndSet (t : CTable) (it : Item) (gc : Bool) : CTable :=
  match AMap.get t.items it.khash with
  | some m =>
    match AMap.get m it.key with
    | some old =>
      if gc || decide (cmpKey it ≥ cmpKey old) then { t with items := AMap.set t.items it.khash (AMap.set m it.key it) } else t
    | none => { t with items := AMap.set t.items it.khash (AMap.set m it.key it) }
  | none => { t with items := AMap.set t.items it.khash [(it.key, it)] }

/-! ### hint buffers, splits, chunks (hint.go) -/

def probe (h : Nat) (k : Key) : Item := { khash := h, chunk := 0, off := 0, ver := 0, vhash := 0, key := k }

/-- `HintBuffer.Get(keyhash, key)` (hint.go:166-182): the item and `iscollision` (the hash's index slot holds another
    key).  The lookup is the one `Set` does (`Buf.slot`) -/
def bufGet (b : Buf) (h : Nat) (k : Key) : Option Item × Bool :=
  ((b.slot (probe h k)).bind (fun i => b.items[i]?), b.isColl (probe h k))

/-- `hintSplit`: a closed split is a buffer not yet written, a written file, or (buffer gone, no file) nothing -/
structure HSplit where
  buf  : Option Buf := none
  file : Option SplitFile := none
deriving Repr, Inhabited

/-- `hintChunk.splits`: `old` = `splits[0 : l-1]`, `last` = the buffer of `splits[l-1]` (always a buffer, never a file) -/
structure HCk where
  old  : List HSplit := []
  last : Buf := {}
deriving Repr, Inhabited

/-- `hintSplit.needDump` (hint.go:213): `file == nil && buf != nil && buf.num > 0` -/
def HSplit.needDump (sp : HSplit) : Bool :=
  sp.file.isNone && (match sp.buf with | some b => !b.items.isEmpty | none => false)

/-- `hintMgr.dump` on one split (hint.go:358-377): the buffer is written sorted (`Buf.dump`), the buffer goes -/
def HSplit.dumped (sp : HSplit) : HSplit :=
  match sp.buf with
  | some b => { buf := none, file := some b.dump }
  | none => sp

/-- `HintID.setIfLarger` (hint.go:76-83; `isLarger` is ≥ on (chunk, split)) -/
def isLarger (id : Nat × Int) (ck : Nat) (sp : Int) : Bool := decide (ck > id.1) || (decide (ck = id.1) && decide (sp ≥ id.2))
def setIfLarger (id : Nat × Int) (ck : Nat) (sp : Int) : Nat × Int := if isLarger id ck sp then (ck, sp) else id

/-- `hintMgr`: the chunks, `maxChunkID` (0 in a new process; raised only by `setItem`), `maxDumpedHintID`, `merged` -/
structure Hints where
  chunks    : Nat → HCk := fun _ => {}
  maxChunk  : Nat := 0
  maxDumped : Nat × Int := (0, 0)
  merged    : Option (List Item) := none       -- items of the `*.idx.m` file (with data-file ids) while `h.merged != nil`
deriving Inhabited

def Hints.setCk (hs : Hints) (c : Nat) (ck : HCk) : Hints :=
  { hs with chunks := fun j => if j = c then ck else hs.chunks j }

/-- `hintChunk.rotate` (hint.go:228-238) -/
def HCk.rotate (ck : HCk) : HCk := { old := ck.old ++ [{ buf := some ck.last, file := none }], last := {} }

/-- `hintChunk.setItem` (hint.go:240-251): `Set` on the newest buffer; refused → rotate and `Set` on the fresh one -/
def HCk.setItem (cap : Nat) (ck : HCk) (it : Item) (sz : Nat) : HCk × Bool :=
  let r := ck.last.set cap it sz
  if r.2 then ({ ck with last := r.1 }, false)
  else ({ old := ck.old ++ [{ buf := some r.1, file := none }], last := (({} : Buf).set cap it sz).1 }, true)

/-- the loop "dump old splits" of `trydump` (hint.go:387-393): `splits[j]` for `j < l-1`, from index `j` on -/
def dumpOldGo (c : Nat) : Nat → List HSplit → Nat × Int → List HSplit × (Nat × Int)
  | _, [], md => ([], md)
  | j, sp :: rest, md =>
    let sp' := if sp.needDump then sp.dumped else sp
    let md' := if sp.needDump then setIfLarger md c j else md
    let r := dumpOldGo c (j + 1) rest md'
    (sp' :: r.1, r.2)

/-- `hintMgr.trydump(chunkID, dumplast)` (hint.go:379-413) with the silence time over: old splits that need it are
    dumped; unless (`!dumplast` and the chunk is `maxChunkID`) the newest split, if it holds items, is closed
    (`rotate`) and dumped.  (`lastTS == 0` implies an empty newest split, so that test adds nothing.) -/
def Hints.trydump (hs : Hints) (c : Nat) (dumplast : Bool) : Hints :=
  let ck := hs.chunks c
  let r := dumpOldGo c 0 ck.old hs.maxDumped
  if (!dumplast && c == hs.maxChunk) || ck.last.items.isEmpty then
    { hs.setCk c { ck with old := r.1 } with maxDumped := r.2 }
  else
    { hs.setCk c { old := r.1 ++ [{ buf := none, file := some ck.last.dump }], last := {} } with
      maxDumped := setIfLarger r.2 c r.1.length }

/-- `hintMgr.setItem` (hint.go:530-551) with `mergeChan == nil`: a rotation is followed by `trydump(chunk, false)` —
    evaluated with the OLD `maxChunkID` — then `maxChunkID` is raised -/
def Hints.setItem (cap : Nat) (hs : Hints) (it : Item) (c : Nat) (sz : Nat) : Hints × Bool :=
  let r := (hs.chunks c).setItem cap it sz
  let hs := hs.setCk c r.1
  let hs := if r.2 then hs.trydump c false else hs
  ({ hs with maxChunk := if c > hs.maxChunk then c else hs.maxChunk }, r.2)

/-- lookup in a written split file: `hintFileIndex.get` (hintindex.go:28-69) finds THE item with this hash and key -/
def fileGet (f : SplitFile) (h : Nat) (k : Key) : Option Item := f.items.find? (sameKey (probe h k))

/-- second phase of `hintChunk.get` (hint.go:288-303): from the split where the buffer walk stopped, downwards,
    FILES only (a split without a file is skipped: "lose hint split") -/
def fileGo (h : Nat) (k : Key) : List HSplit → Option Item
  | [] => none
  | sp :: rest =>
    match sp.file with
    | some f => (match fileGet f h k with | some it => some it | none => fileGo h k rest)
    | none => fileGo h k rest

/-- first phase, `hintChunk.getMemOnly` (hint.go:263-279), on the closed splits from the newest down: buffers until the
    first split without a buffer, where the file phase starts -/
def memGo (h : Nat) (k : Key) : List HSplit → Option Item
  | [] => none
  | sp :: rest =>
    match sp.buf with
    | some b => (match (bufGet b h k).1 with | some it => some it | none => memGo h k rest)
    | none => fileGo h k (sp :: rest)

/-- `hintChunk.get(keyhash, key, memOnly = false)` -/
def HCk.get (ck : HCk) (h : Nat) (k : Key) : Option Item :=
  match (bufGet ck.last h k).1 with
  | some it => some it
  | none => memGo h k ck.old.reverse

/-- lookup in the merged index: the item with its data-file id -/
def mergedGet (m : List Item) (h : Nat) (k : Key) : Option Item := m.find? (sameKey (probe h k))

/-- `hintMgr.getItem(keyhash, key, false)` (hint.go:573-599), chunks `i = n-1 … 0`: once `i ≤ collisions.Chunk` and a
    merged index is loaded, the merged index decides (found or not) and the search ENDS; else the chunk's buffers and
    files.  Result: the item (file-relative) and the data file id -/
def getItemGo (hs : Hints) (hid : Nat) (h : Nat) (k : Key) : Nat → Option (Item × Nat)
  | 0 => none
  | i + 1 =>
    match (if i ≤ hid then hs.merged else none) with
    | some m => (mergedGet m h k).map (fun it => ({ it with chunk := 0 }, it.chunk))
    | none =>
      match (hs.chunks i).get h k with
      | some it => some (it, i)
      | none => getItemGo hs hid h k i

def Hints.getItem (hs : Hints) (hid : Nat) (h : Nat) (k : Key) : Option (Item × Nat) :=
  getItemGo hs hid h k (hs.maxChunk + 1)

/-- `hintChunk.getItemCollision` (hint.go:601-617) on the splits from the newest down; the `Bool` = the `collision` of the previous split's `Get`.
    Result: (item, collision, stop).  Quirk kept: at a split without buffer the `collision` of the PREVIOUS split's
    `Get` is returned -/
def ckCollGo (h : Nat) (k : Key) : List (Option Buf) → Bool → Option Item × Bool × Bool
  | [], c => (none, c, false)
  | none :: _, c => (none, c, true)
  | some b :: rest, _ =>
    match bufGet b h k with
    | (some it, c') => (some it, c', false)
    | (none, c') => ckCollGo h k rest c'

def HCk.getItemCollision (ck : HCk) (h : Nat) (k : Key) : Option Item × Bool × Bool :=
  ckCollGo h k (some ck.last :: ck.old.reverse.map (·.buf)) false

/-- `hintMgr.getItemCollision` (hint.go:619-628): chunks from `maxChunkID` down; returns at the first chunk that reports
    `collision` or `stop` — a hit WITHOUT collision in a newer chunk is overwritten by the next chunk's result -/
def getItemCollGo (hs : Hints) (h : Nat) (k : Key) : Nat → Option Item × Nat × Bool → Option Item × Nat × Bool
  | 0, acc => acc
  | i + 1, _ =>
    let r := (hs.chunks i).getItemCollision h k
    let res := (r.1, (if r.1.isSome then i else 0), r.2.1)
    if r.2.1 || r.2.2 then res else getItemCollGo hs h k i res

def Hints.getItemCollision (hs : Hints) (h : Nat) (k : Key) : Option Item × Nat × Bool :=
  getItemCollGo hs h k (hs.maxChunk + 1) (none, 0, false)

/-! ### the bucket -/

structure State where
  b        : Store.Bucket := {}
  ct       : CTable := {}
  hs       : Hints := { maxDumped := (0, -1) }         -- a bucket opened on an empty directory: `maxDumpedHintID = TreeID`
  treeID   : Nat × Int := (0, -1)                      -- `Bucket.TreeID`
  treeFile : Option ((Nat × Int) × Tree) := none       -- the `*.idx.hash` file on disk: its id and content
  ctFile   : Option CTable := none                     -- collision.yaml on disk
deriving Inhabited

/-- `hintMgr.set(ki, meta, pos, recSize, reason)` (hint.go:519-528): if the HASH is in the collision table the key's
    entry is (created or) updated with the full position; then the item goes to the hint buffer of the data file -/
def hintSet (cap : Nat) (ct : CTable) (hs : Hints) (h : Nat) (k : Key) (ver : Int) (vhash : Nat) (pos : Pos) (sz : Nat)
    (gc : Bool) : CTable × Hints × Bool :=
  let it : Item := { khash := h, chunk := 0, off := pos.off, ver := ver, vhash := vhash, key := k }
  let ct := if (ct.get h k).2 then ct.compareAndSet { it with chunk := pos.chunk } gc else ct
  let r := hs.setItem cap it pos.chunk sz
  (ct, r.1, r.2)

inductive GetRes
  | miss                                  -- payload == nil, err == nil
  | err                                   -- read error / "bad htree item"
  | found (r : Rec) (ver : Int) (pos : Pos)
deriving Repr

/-- what `Bucket.get(ki, memOnly = true)` returns (bucket.go:412-436): version and value hash of the key's entry in the
    collision table if the KEY is there, else of the tree slot of the key HASH — whichever key owns it -/
def State.memMeta (hash : Key → Nat) (st : State) (k : Key) : Option TItem :=
  match (st.ct.get (hash k) k).1 with
  | some it => some { pos := { chunk := it.chunk, off := it.off }, ver := it.ver, vhash := it.vhash }
  | none => AMap.get st.b.tree (hash k)

/-- `Bucket.get(ki, memOnly = false)` (bucket.go:412-497) -/
def State.get (hash : Key → Nat) (st : State) (k : Key) : State × GetRes :=
  match st.memMeta hash k with
  | none => (st, .miss)
  | some m =>
    match st.b.readAt m.pos with
    | none => (st, .err)                                           -- GetRecordByPos fails
    | some rec =>
      if rec.key = k then (st, .found rec m.ver m.pos)             -- payload.Ver = meta.Ver
      else if hash rec.key ≠ hash k then (st, .err)                -- "bad htree item want … got …"
      else
        -- same key hash, different key
        match st.hs.getItem st.ct.hidChunk (hash k) k with
        | none => (st, .miss)
        | some (hit, chunkID) =>
          let it1 : Item := { khash := hash k, chunk := m.pos.chunk, off := m.pos.off, ver := rec.ver,
                              vhash := if rec.ver > 0 then vhashOf rec.body else 0, key := rec.key }
          let ct := st.ct.compareAndSet it1 false                  -- "get1": the one in htree
          let pos : Pos := { chunk := chunkID, off := hit.off }
          let ct := ct.compareAndSet { hit with chunk := chunkID } false   -- "get2": the one not in htree
          let st := { st with ct := ct }
          match st.b.readAt pos with
          | none => (st, .err)
          | some rec2 => (st, .found rec2 rec2.ver pos)            -- no key compare; the record's own version

/-- `Bucket.set` (bucket.go:402-410): append → `htree.set` (slot of the key HASH) → `hints.set` -/
def State.put (hash : Key → Nat) (cfg : Cfg) (st : State) (r : Rec) : State × Pos :=
  let (b, pos) := st.b.append cfg.s r
  let vh := if r.ver > 0 then vhashOf r.body else 0
  let b := { b with tree := AMap.set b.tree (hash r.key) { pos := pos, ver := r.ver, vhash := vh } }
  let x := hintSet cfg.cap st.ct st.hs (hash r.key) r.key r.ver vh pos r.size false
  ({ st with b := b, ct := x.1, hs := x.2.1 }, pos)

/-- `Bucket.checkAndSet` (bucket.go:352-400); `Store.checkAndSet` with the old meta taken from `memMeta` -/
def State.checkAndSet (hash : Key → Nat) (cfg : Cfg) (st : State) (k : Key) (body : Bytes) (flag : Nat) (rev : Int)
    (ts : Option Nat) (size : Nat) (wts : Nat) : State × CasResult :=
  let vh := if rev ≥ 0 then vhashOf body else 0
  let write := fun (v : Int) =>
    let p := st.put hash cfg { key := k, ver := v, flag := flag, ts := ts, body := body, size := size, wts := wts }
    (p.1, CasResult.done (some p.2))
  match st.memMeta hash k with
  | none =>
    if (nextVer 0 rev).2 = false then (st, .done none)
    else if (nextVer 0 rev).1 < 0 then (st, .notFound)
    else write (nextVer 0 rev).1
  | some it =>
    if (it.ver > 0 ∧ vh = it.vhash) ∧ cfg.s.checkVHash = true then
      (if rev ≠ 0 then { st with b := { st.b with tree := AMap.set st.b.tree (hash k) { it with ver := rev, vhash := vh } } } else st,
       .done none)
    else if (nextVer it.ver rev).2 = false then (st, .done none)
    else if (nextVer it.ver rev).1 < 0 ∧ it.ver < 0 then (st, .notFound)
    else write (nextVer it.ver rev).1

/-! ### dumper, merge -/

/-- `hintMgr.dumpAndMerge(false)` as far as it gets (hint.go:422-453): `trydump(i, false)` for every chunk; the merge
    behind it is unreachable (`h.state & HintStateDump` is always set at that point) -/
def Hints.dumpAll (hs : Hints) (n : Nat) : Hints := (List.range n).foldl (fun hs i => hs.trydump i false) hs

/-- all items of the `*.idx.s` files of one data file, with the data file id filled in (`mr.curr.Pos.ChunkID = chunkID`) -/
def ckFileItems (c : Nat) (ck : HCk) : List Item :=
  ck.old.flatMap (fun sp => match sp.file with | some f => f.items.map (fun it => { it with chunk := c }) | none => [])

/-- greatest (chunk, split) over the written split files, from `{0,0}` (`maxid.setIfLarger`, hint.go:489) -/
def ckMaxId (c : Nat) (ck : HCk) (id : Nat × Int) : Nat × Int :=
  (List.range ck.old.length).foldl (fun id j => if ((ck.old.getD j {}).file).isSome then setIfLarger id c j else id) id

/-- per (hash, key) the item of greatest position (`mergeHeap.Less` + `mergeWriter.write`: within one hash and key the
    items arrive in position order and the last one stays) -/
def mergeInsert (acc : List Item) (it : Item) : List Item :=
  match acc.find? (sameKey it) with
  | some old => if cmpKey it ≥ cmpKey old then acc.map (fun x => if sameKey it x then it else x) else acc
  | none => acc ++ [it]

def mergeWinners (all : List Item) : List Item := all.foldl mergeInsert []

/-- `mergeWriter.flush` (hintmerge.go:52-63): a run of ≥ 2 different keys with one hash is reported key by key -/
def mergeReport (ct : CTable) (win : List Item) : CTable :=
  win.foldl (fun ct it => if win.any (fun x => x.khash == it.khash && x.key != it.key) then ct.compareAndSet it false else ct) ct

/-- `hintMgr.Merge(forGC)` (hint.go:463-517): all split files of the bucket; collision reports; `collisions.HintID`;
    collision.yaml rewritten; the merged index is kept only when not for GC -/
def State.merge (st : State) (forGC : Bool) : State :=
  let n := st.b.head + 1
  let all := (List.range n).flatMap (fun c => ckFileItems c (st.hs.chunks c))
  let win := mergeWinners all
  let maxid := (List.range n).foldl (fun id c => ckMaxId c (st.hs.chunks c) id) ((0, 0) : Nat × Int)
  let ct := mergeReport st.ct win
  let ct := { ct with hidChunk := maxid.1, hidSplit := maxid.2 }
  { st with ct := ct, ctFile := some ct, hs := { st.hs with merged := if forGC then none else some win } }

/-! ### restart (Bucket.close, then Bucket.open) -/

/-- `hintMgr.loadHintsByChunk` + `Bucket.buildHintFromData` (= `Bucket.checkHintWithData`, bucket.go:153-164) for data
    file `c` with the split files `disk` found for it: the valid, loadable prefix is kept as file splits; if it does not
    reach the end of the data file, the records beyond are fed through `hintMgr.setItem` and `trydump(c, true)` -/
def Hints.checkHintWithData (hash : Key → Nat) (cap : Nat) (hs : Hints) (c : Nat) (recs : FileRecs) (size : Nat)
    (disk : List (Option SplitFile)) : Hints :=
  if size = 0 then hs else
  let ld := loadPrefix size (validPrefix disk) 0
  let hs := hs.setCk c { old := ld.1.map (fun f => { buf := none, file := some f }), last := {} }
  if ld.2 < size then
    let hs := (scanFrom ld.2 recs).foldl (fun hs p => (hs.setItem cap (itemOfScan hash p) c p.2.size).1) hs
    hs.trydump c true
  else hs

/-- the split files `updateHtreeFromHint` reads for a chunk: `splits[:len-1]` through `sp.file` -/
def HCk.files (ck : HCk) : List (List Item) := ck.old.filterMap (fun sp => sp.file.map (·.items))

/-- one chunk of the hint loop of `Bucket.open` (bucket.go:208-232) -/
def openChunk (hash : Key → Nat) (cap : Nat) (b : Bucket) (disk : Nat → List (Option SplitFile)) (tid : Nat × Int)
    (x : Hints × Tree) (i : Nat) : Hints × Tree :=
  let hs := x.1.checkHintWithData hash cap i (b.chunks i).recs (b.chunks i).size (disk i)
  if i < tid.1 then (hs, x.2) else
  let startsp : Int := if i = tid.1 then tid.2 + 1 else 0
  let n := (hs.chunks i).old.length
  if startsp ≥ (n : Int) then (hs, x.2)
  else ({ hs with maxDumped := (i, startsp + ((n : Int) - 1)) }, applySplits i x.2 (hs.chunks i).files)

/-- `Bucket.close` (flush, collision.yaml, all hint buffers, tree dump) followed — after the harness has removed the
    tree dump if `keepTree = false` — by `Bucket.open` in a new process -/
def State.reopen (hash : Key → Nat) (cfg : Cfg) (st : State) (keepTree : Bool) : State :=
  let chunks := fun i => { st.b.chunks i with flushed := (st.b.chunks i).recs.length }
  let cl := (List.range (st.b.head + 1)).map chunks
  match lastNonEmpty cl with
  | none =>
    -- no data file: close returns before dumping anything; open loads collision.yaml if there is one
    { b := { chunks := chunks, head := 0, tree := [], nextGC := st.b.nextGC },
      ct := st.ctFile.getD {}, hs := { maxDumped := (0, -1) }, treeID := (0, -1), treeFile := none, ctFile := st.ctFile }
  | some mx =>
    -- close
    let hs1 := (List.range (st.hs.maxChunk + 1)).foldl (fun hs i => hs.trydump i true) st.hs
    let dump := isLarger st.treeID hs1.maxDumped.1 hs1.maxDumped.2
    let tf1 := if dump then some (hs1.maxDumped, st.b.tree) else st.treeFile
    let tf := if keepTree then tf1 else none
    -- open
    let loaded : Option ((Nat × Int) × Tree) := match tf with
      | some (id, t) => if id.1 > mx then none else some (id, t)
      | none => none
    let tid : Nat × Int := match loaded with | some (id, _) => id | none => (0, -1)
    let tree0 : Tree := match loaded with | some (_, t) => t | none => []
    let b0 : Bucket := { chunks := chunks, head := mx + 1, tree := [], nextGC := st.b.nextGC }
    let disk := fun i => (hs1.chunks i).old.map (·.file)
    let hs0 : Hints := { maxDumped := tid }
    -- the loop from TreeID.Chunk on, then the background check of the chunks below it
    let x := ((List.range (mx + 1)).filter (fun i => decide (tid.1 ≤ i))).foldl (openChunk hash cfg.cap b0 disk tid) (hs0, tree0)
    let x := ((List.range (mx + 1)).filter (fun i => decide (i < tid.1))).foldl (openChunk hash cfg.cap b0 disk tid) x
    -- checkForDump / dumpHtree: only when no tree file is left
    let dumpNow := loaded.isNone
    { b := { b0 with tree := x.2 }, ct := st.ct, hs := x.1,
      treeID := if dumpNow then x.1.maxDumped else tid,
      treeFile := if dumpNow then some (x.1.maxDumped, x.2) else loaded,
      ctFile := some st.ct }

/-! ### GC (gc.go) -/

/-- `hintMgr.getCollisionGC` (hint.go:734-747, after repair 667fdc2) -/
def State.getCollisionGC (st : State) (h : Nat) (k : Key) : Option Item × Nat × Bool :=
  match st.ct.get h k with
  | (some it, true) => (some it, it.chunk, true)
  | (_, known) =>
    let r := st.hs.getItemCollision h k
    (r.1, r.2.1, r.2.2 || known)

/-- state of a pass: the data part is `Store.GcSt`, the rest of the bucket rides along in `st` (whose `b` is kept equal
    to `g.b`) -/
structure GcC where
  g  : GcSt
  st : State

/-- the newest decision of `GCMgr.gc` for the record `r` at `oldPos` (gc.go:262-299): (isNewest, value hash for the hint) -/
def gcNewest (hash : Key → Nat) (begin : Nat) (st : State) (oldPos : Pos) (r : Rec) : Bool × Nat :=
  let rvh := if r.ver > 0 then vhashOf r.body else 0
  match AMap.get st.b.tree (hash r.key) with
  | some ti =>
    if ti.pos == oldPos then (true, ti.vhash)
    else
      let c := st.getCollisionGC (hash r.key) r.key
      if c.2.2 then
        match c.1 with
        | some hit => if (({ chunk := c.2.1, off := hit.off } : Pos) == oldPos) then (true, hit.vhash) else (false, rvh)
        | none => (true, if r.ver < 0 then 0 else vhashOf r.body)         -- "guess": `rec.Payload.Getvhash()` (0 for a delete marker)
      else (false, rvh)
  | none => (decide (begin > 0) && decide (r.ver < 0), rvh)

/-- one record of the source file (gc.go:246-346) -/
def gcRecord (hash : Key → Nat) (cfg : Cfg) (begin src : Nat) (s : GcC) (off : Nat) (r : Rec) : GcC :=
  let oldPos : Pos := { chunk := src, off := off }
  let nw := gcNewest hash begin s.st oldPos r
  let newest := nw.1
  let g := s.g
  let stats := { g.stats with numBefore := g.stats.numBefore + 1, sizeBefore := g.stats.sizeBefore + r.size,
                              numReleased := g.stats.numReleased + (if newest then 0 else 1),
                              sizeReleased := g.stats.sizeReleased + (if newest then 0 else r.size) }
  if !newest then { s with g := { g with stats := stats } } else
  -- destination full: end it (and dump its hint), continue in the next file
  let g1 := if r.size + g.wh > cfg.s.dataFileMax then gcBegin g.endWriting (g.dst + 1) src stats else { g with stats := stats }
  let hs1 := if r.size + g.wh > cfg.s.dataFileMax then s.st.hs.trydump g.dst true else s.st.hs
  let newPos : Pos := { chunk := g1.dst, off := g1.wh }
  -- UpdateHtreePos → movePos: only an item that still points at oldPos moves
  let tree := match AMap.get s.st.b.tree (hash r.key) with
    | some ti => if ti.pos == oldPos then AMap.set g1.b.tree (hash r.key) { ti with pos := newPos } else g1.b.tree
    | none => g1.b.tree
  let g2 := { g1 with b := { g1.b with tree := tree }, out := g1.out ++ [(g1.wh, r)], wh := g1.wh + r.size }
  -- hints.set(ki, &meta, newPos, recsize, "gc"); a rotation is followed by one more trydump(dst, false)
  let x := hintSet cfg.cap s.st.ct hs1 (hash r.key) r.key r.ver nw.2 newPos r.size true
  let hs2 := if x.2.2 then x.2.1.trydump g1.dst false else x.2.1
  { g := g2, st := { s.st with b := g2.b, ct := x.1, hs := hs2 } }

/-- `hintMgr.ClearChunk` (hint.go:723-726) -/
def Hints.clearChunk (hs : Hints) (c : Nat) : Hints := hs.setCk c {}

/-- one source file (gc.go:224-366) -/
def gcFile (hash : Key → Nat) (cfg : Cfg) (begin : Nat) (s : GcC) (src : Nat) : GcC :=
  let c := s.g.b.chunks src
  if c.size = 0 then s else
  let s := { s with st := { s.st with hs := s.st.hs.clearChunk src } }
  let s := c.recs.foldl (fun s (p : Nat × Rec) => gcRecord hash cfg begin src s p.1 p.2) s
  let b := if src ≠ s.g.dst then s.g.b.setChunk src {} else s.g.b
  let b := { b with nextGC := max b.nextGC (src + 1) }
  { g := { s.g with b := b }, st := { s.st with b := b } }

/-- `GCMgr.BeforeBucket` (gc.go:93-120) -/
def State.beforeGC (st : State) (merge : Bool) : State :=
  let st :=
    if merge then
      -- forceRotateSplit (the chunk `maxChunkID`), dumpAndMerge(true), Merge(true)
      let hs := st.hs.setCk st.hs.maxChunk (st.hs.chunks st.hs.maxChunk).rotate
      let hs := hs.dumpAll (st.b.head + 1)
      ({ st with hs := hs }).merge true
    else { st with hs := { st.hs with merged := none } }          -- RemoveMerged
  { st with treeFile := none, treeID := (0, 0) }                   -- removeHtree

/-- `GCMgr.gc(bkt, begin, end, merge)` on a quiescent bucket -/
def State.gcRun (hash : Key → Nat) (cfg : Cfg) (st : State) (begin stop : Nat) (merge : Bool) : State × GcStats :=
  let st := st.beforeGC merge
  let dst := gcDst cfg.s st.b begin
  let g0 := gcBegin st.b dst begin {}
  let s0 : GcC := { g := g0, st := { st with b := g0.b } }
  let s := (List.range (stop + 1 - begin)).foldl (fun s i => gcFile hash cfg begin s (begin + i)) s0
  -- deferred: endGCWriting, trydump(gc.Dst, true)
  let b := s.g.endWriting
  ({ s.st with b := b, hs := s.st.hs.trydump s.g.dst true }, s.g.stats)

/-! ### operations -/

inductive Op
  | set (k : Key) (body : Bytes) (flag : Nat) (rev : Int) (ts : Nat) (size : Nat)
  | delete (k : Key) (size : Nat) (wts : Nat)
  | incr (k : Key) (delta : Int) (size : Nat) (wts : Nat)
  | get (k : Key)
  | info (k : Key)
  | flush
  | reopen (keepTree : Bool)
  | hintDump                                  -- the hint dumper's round: `dumpAndMerge(false)`
  | hintMerge                                 -- `hintMgr.Merge(false)`
  | gc (g : GcArgs) (merge : Bool)            -- a GC request: range resolution, then the pass
deriving Repr

/-- what a GC request did: refused, or the resolved range and the statistics of the pass -/
def State.gcOp (hash : Key → Nat) (cfg : Cfg) (st : State) (g : GcArgs) (merge : Bool) :
    State × Option (Nat × Nat × GcStats) :=
  match gcCheckRange cfg.s st.b g with
  | .error _ => (st, none)
  | .ok (s, e) => let r := st.gcRun hash cfg s e merge; (r.1, some (s, e, r.2))

def step (hash : Key → Nat) (cfg : Cfg) (st : State) : Op → State × Reply × Option Pos
  | .set k body flag rev ts size =>
    match st.checkAndSet hash cfg k body flag rev (some ts) size ts with
    | (st', .done pos) => (st', .stored, pos)
    | (st', .notFound) => (st', .error, none)
  | .delete k size wts =>
    match st.checkAndSet hash cfg k [] 0 (-1) none size wts with
    | (st', .done pos) => (st', .deleted, pos)
    | (st', .notFound) => (st', .notFound, none)
  | .incr k delta size wts =>
    let r := st.get hash k
    let write := fun (ver : Int) (v : Int) =>
      let p := r.1.put hash cfg { key := k, ver := ver, flag := Spec.FLAG_INCR, ts := none, body := Spec.itoa v, size := size, wts := wts }
      (p.1, Reply.num v, some p.2)
    match r.2 with
    | .miss => write 1 delta
    | .err => (r.1, .num 0, none)
    | .found rec ver _ =>
      if ver ≤ 0 then write 1 delta
      else if rec.flag ≠ Spec.FLAG_INCR then (r.1, .num 0, none)
      else if rec.body.length > 22 then (r.1, .num 0, none)
      else match Spec.parseInt rec.body with
        | none => (r.1, .num 0, none)
        | some old => write (ver + 1) (Spec.wrap64 (old + delta))
  | .get k =>
    let r := st.get hash k
    match r.2 with
    | .miss => (r.1, .miss, none)
    | .err => (r.1, .error, none)
    | .found rec ver pos => if ver > 0 then (r.1, .value rec.flag rec.body, some pos) else (r.1, .miss, some pos)
  | .info k =>
    let r := st.get hash k
    match r.2 with
    | .miss => (r.1, .miss, none)
    | .err => (r.1, .error, none)
    | .found rec ver pos => (r.1, .info ver (if ver > 0 then vhashOf rec.body else 0) rec.flag rec.body.length rec.ts, some pos)
  | .flush =>
    let c := st.b.chunk st.b.head
    ({ st with b := st.b.setChunk st.b.head { c with flushed := c.recs.length } }, .stored, none)
  | .reopen keepTree => (st.reopen hash cfg keepTree, .stored, none)
  | .hintDump => ({ st with hs := st.hs.dumpAll (st.b.head + 1) }, .stored, none)
  | .hintMerge => (st.merge false, .stored, none)
  | .gc g merge => ((st.gcOp hash cfg g merge).1, .stored, none)

/-- the client command an operation stands for -/
def cmdOf : Op → Option Spec.Cmd
  | .set k body flag rev ts _ => some (.set k body flag rev ts)
  | .delete k _ _ => some (.delete k)
  | .incr k d _ _ => some (.incr k d)
  | .get k => some (.get k)
  | .info k => some (.info k)
  | _ => none

/-- run a history; collect the replies to client commands -/
def run (hash : Key → Nat) (cfg : Cfg) : State → List Op → State × List Reply
  | st, [] => (st, [])
  | st, op :: ops =>
    let r := step hash cfg st op
    let rs := run hash cfg r.1 ops
    (rs.1, match cmdOf op with | some _ => r.2.1 :: rs.2 | none => rs.2)

end Collide
